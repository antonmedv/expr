-- Root of the library: importing every property module makes `lake build` re-check everything.
import ExprModel.Props.C01
import ExprModel.Props.C02
import ExprModel.Props.C03
import ExprModel.Props.C04
import ExprModel.Props.C05
import ExprModel.Props.C06
import ExprModel.Props.C07
import ExprModel.Props.C08
import ExprModel.Props.C09
import ExprModel.Props.C10
import ExprModel.Props.C11
import ExprModel.Props.C12
import ExprModel.Props.C13
import ExprModel.Props.C14
import ExprModel.Props.C15
import ExprModel.Props.C16
import ExprModel.Props.C17
import ExprModel.Props.C18
import ExprModel.Props.C13Pipeline
import ExprModel.Props.C13Opt
import ExprModel.Proofs.FitsGuard
import ExprModel.Proofs.ParserGood
import ExprModel.Proofs.RuntimeFails
import ExprModel.Proofs.Outcome
import ExprModel.Proofs.RefineGood
import ExprModel.Proofs.RefineTails
