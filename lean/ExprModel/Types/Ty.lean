import ExprModel.Base.Sexp
import ExprModel.Num.Kind
import ExprModel.Syntax.Ast
/-
A closed model of Go types as `reflect.Type` presents them to the library (DESIGN 3.1), sufficient for
the name-resolution property (C16) and the static typing property (C03).

* `Ty.named name methods under` is a defined type (`type Name under`) with the methods *declared on it*
  (promoted methods are computed by the Spec of Go's selector rule in `Types/Table.lean`).
* `Ty.struct fields`, `Field = (name, type, anonymous (embedded), exported)`.
* `Ty.iface methods`: interface type; `iface []` is `interface{}`.
* `Ty.ref name`: back-reference to an enclosing defined type (recursive types are cut there by the
  harness serialiser); opaque to every model function.
* `Ty.other desc`: kinds the library never looks into (chan, complex, uintptr, unsafe.Pointer).

`List Field` / `List Method` / `List Ty` are nested occurrences; model functions that must recurse
through member types take a fuel argument bounded by `Ty.depth` (so proofs are ordinary inductions on
`Nat` and on lists).  Only `depth`, equality and the S-expression encoding recurse through the members
themselves (equality by well-founded recursion: it does not unfold by `rfl`).
-/
namespace ExprModel

mutual
inductive Ty where
  | bool
  | string
  | num (k : Kind)
  | iface (methods : List Method)
  | ptr (t : Ty)
  | slice (t : Ty)
  | array (n : Nat) (t : Ty)
  | map (k v : Ty)
  | func (ins : List Ty) (variadic : Bool) (outs : List Ty)
  | struct (fields : List Field)
  | named (name : String) (methods : List Method) (under : Ty)
  | ref (name : String)
  | other (desc : String)
inductive Field where
  | mk (name : String) (ty : Ty) (anon : Bool) (exported : Bool)
inductive Method where
  | mk (name : String) (sig : Ty) (ptrRecv : Bool)
end

instance : Inhabited Ty := ⟨.bool⟩
instance : Inhabited Field := ⟨.mk "" .bool false false⟩
instance : Inhabited Method := ⟨.mk "" .bool false⟩

namespace Field
def name : Field → String | mk n _ _ _ => n
def ty : Field → Ty | mk _ t _ _ => t
def anon : Field → Bool | mk _ _ a _ => a
def exported : Field → Bool | mk _ _ _ e => e
end Field

namespace Method
def name : Method → String | mk n _ _ => n
def sig : Method → Ty | mk _ s _ => s
def ptrRecv : Method → Bool | mk _ _ p => p
end Method

/-! ### decidable equality (the deriving handler does not support nested inductives) -/

mutual
def Ty.beq : Ty → Ty → Bool
  | .bool, .bool => true
  | .string, .string => true
  | .num a, .num b => a == b
  | .iface a, .iface b => Method.beqList a b
  | .ptr a, .ptr b => Ty.beq a b
  | .slice a, .slice b => Ty.beq a b
  | .array n a, .array m b => n == m && Ty.beq a b
  | .map k v, .map k' v' => Ty.beq k k' && Ty.beq v v'
  | .func i v o, .func i' v' o' => Ty.beqList i i' && v == v' && Ty.beqList o o'
  | .struct a, .struct b => Field.beqList a b
  | .named n ms u, .named n' ms' u' => n == n' && Method.beqList ms ms' && Ty.beq u u'
  | .ref a, .ref b => a == b
  | .other a, .other b => a == b
  | _, _ => false
def Ty.beqList : List Ty → List Ty → Bool
  | [], [] => true
  | a :: as, b :: bs => Ty.beq a b && Ty.beqList as bs
  | _, _ => false
def Field.beq : Field → Field → Bool
  | .mk n t a e, .mk n' t' a' e' => n == n' && Ty.beq t t' && a == a' && e == e'
def Field.beqList : List Field → List Field → Bool
  | [], [] => true
  | a :: as, b :: bs => Field.beq a b && Field.beqList as bs
  | _, _ => false
def Method.beq : Method → Method → Bool
  | .mk n s p, .mk n' s' p' => n == n' && Ty.beq s s' && p == p'
def Method.beqList : List Method → List Method → Bool
  | [], [] => true
  | a :: as, b :: bs => Method.beq a b && Method.beqList as bs
  | _, _ => false
end

theorem Ty.list_ne_of_shapes {α : Type} {x y : List α} (h1 : x = [] → y = [] → False)
    (h2 : ∀ a as b bs, x = a :: as → y = b :: bs → False) : x ≠ y := by
  intro e
  subst e
  cases x
  · exact h1 rfl rfl
  · exact h2 _ _ _ _ rfl rfl

theorem Ty.beq_iff_all :
    (∀ a b : Ty, Ty.beq a b = true ↔ a = b) ∧ (∀ a b : List Field, Field.beqList a b = true ↔ a = b) ∧
    (∀ a b : Field, Field.beq a b = true ↔ a = b) ∧ (∀ a b : List Ty, Ty.beqList a b = true ↔ a = b) ∧
    (∀ a b : List Method, Method.beqList a b = true ↔ a = b) ∧ (∀ a b : Method, Method.beq a b = true ↔ a = b) := by
  apply Ty.beq.mutual_induct
  case case1 => simp only [Ty.beq]
  case case2 => simp only [Ty.beq]
  case case3 => intro a b; simp only [Ty.beq, beq_iff_eq, Ty.num.injEq]
  case case4 => intro a b ih; simp only [Ty.beq, ih, Ty.iface.injEq]
  case case5 => intro a b ih; simp only [Ty.beq, ih, Ty.ptr.injEq]
  case case6 => intro a b ih; simp only [Ty.beq, ih, Ty.slice.injEq]
  case case7 => intro n a m b ih; simp only [Ty.beq, Bool.and_eq_true, beq_iff_eq, ih, Ty.array.injEq]
  case case8 => intro k v k' v' ih1 ih2; simp only [Ty.beq, Bool.and_eq_true, ih1, ih2, Ty.map.injEq]
  case case9 =>
    intro i v o i' v' o' ih1 ih2
    simp only [Ty.beq, Bool.and_eq_true, beq_iff_eq, ih1, ih2, Ty.func.injEq, and_assoc]
  case case10 => intro a b ih; simp only [Ty.beq, ih, Ty.struct.injEq]
  case case11 =>
    intro n ms u n' ms' u' ih1 ih2
    simp only [Ty.beq, Bool.and_eq_true, beq_iff_eq, ih1, ih2, Ty.named.injEq, and_assoc]
  case case12 => intro a b; simp only [Ty.beq, beq_iff_eq, Ty.ref.injEq]
  case case13 => intro a b; simp only [Ty.beq, beq_iff_eq, Ty.other.injEq]
  case case14 =>
    intro x y h1 h2 h3 h4 h5 h6 h7 h8 h9 h10 h11 h12 h13
    have hne : x ≠ y := by
      intro e
      subst e
      cases x
      · exact h1 rfl rfl
      · exact h2 rfl rfl
      · exact h3 _ _ rfl rfl
      · exact h4 _ _ rfl rfl
      · exact h5 _ _ rfl rfl
      · exact h6 _ _ rfl rfl
      · exact h7 _ _ _ _ rfl rfl
      · exact h8 _ _ _ _ rfl rfl
      · exact h9 _ _ _ _ _ _ rfl rfl
      · exact h10 _ _ rfl rfl
      · exact h11 _ _ _ _ _ _ rfl rfl
      · exact h12 _ _ rfl rfl
      · exact h13 _ _ rfl rfl
    rw [Ty.beq.eq_14 x y h1 h2 h3 h4 h5 h6 h7 h8 h9 h10 h11 h12 h13]
    exact iff_of_false Bool.false_ne_true hne
  case case15 => simp only [Field.beqList]
  case case16 =>
    intro a as b bs ih1 ih2
    simp only [Field.beqList, Bool.and_eq_true, ih1, ih2, List.cons.injEq]
  case case17 =>
    intro x y h1 h2
    rw [Field.beqList.eq_3 x y h1 h2]
    exact iff_of_false Bool.false_ne_true (Ty.list_ne_of_shapes h1 h2)
  case case18 =>
    intro n t a e n' t' a' e' ih
    simp only [Field.beq, Bool.and_eq_true, beq_iff_eq, ih, Field.mk.injEq, and_assoc]
  case case19 => simp only [Ty.beqList]
  case case20 =>
    intro a as b bs ih1 ih2
    simp only [Ty.beqList, Bool.and_eq_true, ih1, ih2, List.cons.injEq]
  case case21 =>
    intro x y h1 h2
    rw [Ty.beqList.eq_3 x y h1 h2]
    exact iff_of_false Bool.false_ne_true (Ty.list_ne_of_shapes h1 h2)
  case case22 => simp only [Method.beqList]
  case case23 =>
    intro a as b bs ih1 ih2
    simp only [Method.beqList, Bool.and_eq_true, ih1, ih2, List.cons.injEq]
  case case24 =>
    intro x y h1 h2
    rw [Method.beqList.eq_3 x y h1 h2]
    exact iff_of_false Bool.false_ne_true (Ty.list_ne_of_shapes h1 h2)
  case case25 =>
    intro n s p n' s' p' ih
    simp only [Method.beq, Bool.and_eq_true, beq_iff_eq, ih, Method.mk.injEq, and_assoc]

theorem Ty.beq_iff : ∀ a b : Ty, Ty.beq a b = true ↔ a = b := Ty.beq_iff_all.1
theorem Ty.beqList_iff : ∀ a b : List Ty, Ty.beqList a b = true ↔ a = b := Ty.beq_iff_all.2.2.2.1
theorem Field.beq_iff : ∀ a b : Field, Field.beq a b = true ↔ a = b := Ty.beq_iff_all.2.2.1
theorem Field.beqList_iff : ∀ a b : List Field, Field.beqList a b = true ↔ a = b := Ty.beq_iff_all.2.1
theorem Method.beq_iff : ∀ a b : Method, Method.beq a b = true ↔ a = b := Ty.beq_iff_all.2.2.2.2.2
theorem Method.beqList_iff : ∀ a b : List Method, Method.beqList a b = true ↔ a = b := Ty.beq_iff_all.2.2.2.2.1

instance : DecidableEq Ty := fun a b =>
  if h : Ty.beq a b = true then isTrue ((Ty.beq_iff a b).1 h)
  else isFalse (fun e => h ((Ty.beq_iff a b).2 e))
instance : DecidableEq Field := fun a b =>
  if h : Field.beq a b = true then isTrue ((Field.beq_iff a b).1 h)
  else isFalse (fun e => h ((Field.beq_iff a b).2 e))
instance : DecidableEq Method := fun a b =>
  if h : Method.beq a b = true then isTrue ((Method.beq_iff a b).1 h)
  else isFalse (fun e => h ((Method.beq_iff a b).2 e))

/-! ### size measure used as fuel -/

mutual
def Ty.depth : Ty → Nat
  | .iface ms => 1 + Method.depthList ms
  | .ptr t | .slice t | .array _ t => 1 + Ty.depth t
  | .map k v => 1 + max (Ty.depth k) (Ty.depth v)
  | .func i _ o => 1 + max (Ty.depthList i) (Ty.depthList o)
  | .struct fs => 1 + Field.depthList fs
  | .named _ ms u => 1 + max (Method.depthList ms) (Ty.depth u)
  | _ => 1
def Ty.depthList : List Ty → Nat
  | [] => 0
  | t :: ts => max (Ty.depth t) (Ty.depthList ts)
def Field.depthList : List Field → Nat
  | [] => 0
  | .mk _ t _ _ :: fs => max (Ty.depth t) (Field.depthList fs)
def Method.depthList : List Method → Nat
  | [] => 0
  | .mk _ s _ :: ms => max (Ty.depth s) (Method.depthList ms)
end

theorem Field.depth_lt_of_mem {f : Field} {fs : List Field} (h : f ∈ fs) :
    f.ty.depth ≤ Field.depthList fs := by
  induction fs with
  | nil => cases h
  | cons g gs ih =>
    cases g with
    | mk n t a e =>
      rcases List.mem_cons.1 h with rfl | h
      · simp [Field.depthList, Field.ty]; omega
      · have := ih h; simp [Field.depthList]; omega

namespace Ty

/-! ### views used by the library's kind tests -/

/-- the type with defined-type wrappers removed (what `Kind()`, `Elem()`, `Field(i)` look at) -/
def core : Ty → Ty
  | .named _ _ u => core u
  | t => t

/-- `reflect.Kind` as far as the library distinguishes kinds -/
def kind (t : Ty) : RKind :=
  match t.core with
  | .bool => .bool | .string => .string | .num k => .num k | .iface _ => .iface
  | .ptr _ => .ptr | .slice _ => .slice | .array _ _ => .array | .map _ _ => .map
  | .func _ _ _ => .func | .struct _ => .struct
  | .named _ _ _ => .other | .ref _ => .other | .other _ => .other

def isPtr (t : Ty) : Bool := match t.core with | .ptr _ => true | _ => false

/-- `Elem()` of pointer, slice, array, map -/
def elem? (t : Ty) : Option Ty :=
  match t.core with
  | .ptr u | .slice u | .array _ u | .map _ u => some u
  | _ => none

/-- `dereference` of conf/types_table.go, checker/types.go, docgen.go: strip every pointer level;
a non-pointer defined type is returned with its name and methods. -/
def deref : Ty → Ty
  | .ptr u => deref u
  | .named n ms u => if (Ty.named n ms u).isPtr then deref u else .named n ms u
  | t => t

/-- the direct fields when the type's kind is struct -/
def fields (t : Ty) : List Field := match t.core with | .struct fs => fs | _ => []

/-- methods declared on the type itself (for interface types: the interface's methods) -/
def declMethods : Ty → List Method
  | .named _ ms u => ms ++ (match u.core with | .iface ims => ims | _ => [])
  | .iface ims => ims
  | _ => []

def isEmptyIface (t : Ty) : Bool := match t.core with | .iface [] => true | _ => false

end Ty

/-! ### S-expression encoding (driver only) -/

mutual
def Ty.toSexp : Ty → Sexp
  | .bool => .atom "bool"
  | .string => .atom "string"
  | .num k => .atom k.name
  | .iface [] => .atom "any"
  | .iface ms => .list (.atom "iface" :: Method.listToSexp ms)
  | .ptr t => .list [.atom "ptr", Ty.toSexp t]
  | .slice t => .list [.atom "slice", Ty.toSexp t]
  | .array n t => .list [.atom "array", Sexp.nat n, Ty.toSexp t]
  | .map k v => .list [.atom "map", Ty.toSexp k, Ty.toSexp v]
  | .func i v o => .list [.atom "func", Sexp.bool v, .list (Ty.listToSexp i), .list (Ty.listToSexp o)]
  | .struct fs => .list (.atom "struct" :: Field.listToSexp fs)
  | .named n ms u => .list [.atom "named", Sexp.str n, .list (Method.listToSexp ms), Ty.toSexp u]
  | .ref n => .list [.atom "ref", Sexp.str n]
  | .other d => .list [.atom "other", Sexp.str d]
def Ty.listToSexp : List Ty → List Sexp
  | [] => []
  | t :: ts => Ty.toSexp t :: Ty.listToSexp ts
def Field.listToSexp : List Field → List Sexp
  | [] => []
  | .mk n t a e :: fs => .list [Sexp.str n, Ty.toSexp t, Sexp.bool a, Sexp.bool e] :: Field.listToSexp fs
def Method.listToSexp : List Method → List Sexp
  | [] => []
  | .mk n s p :: ms => .list [Sexp.str n, Ty.toSexp s, Sexp.bool p] :: Method.listToSexp ms
end

mutual
partial def Ty.ofSexp : Sexp → Option Ty
  | .atom "bool" => some .bool
  | .atom "string" => some .string
  | .atom "any" => some (.iface [])
  | .atom a => (Kind.ofName? a).map .num
  | .list (.atom "iface" :: ms) => do pure (.iface (← ms.mapM Method.ofSexp))
  | .list [.atom "ptr", t] => do pure (.ptr (← Ty.ofSexp t))
  | .list [.atom "slice", t] => do pure (.slice (← Ty.ofSexp t))
  | .list [.atom "array", n, t] => do pure (.array (← n.asNat) (← Ty.ofSexp t))
  | .list [.atom "map", k, v] => do pure (.map (← Ty.ofSexp k) (← Ty.ofSexp v))
  | .list [.atom "func", v, .list i, .list o] => do
      pure (.func (← i.mapM Ty.ofSexp) (← v.asBool) (← o.mapM Ty.ofSexp))
  | .list (.atom "struct" :: fs) => do pure (.struct (← fs.mapM Field.ofSexp))
  | .list [.atom "named", n, .list ms, u] => do
      pure (.named (← n.asStr) (← ms.mapM Method.ofSexp) (← Ty.ofSexp u))
  | .list [.atom "ref", n] => do pure (.ref (← n.asStr))
  | .list [.atom "other", d] => do pure (.other (← d.asStr))
  | _ => none
partial def Field.ofSexp : Sexp → Option Field
  | .list [n, t, a, e] => do pure (.mk (← n.asStr) (← Ty.ofSexp t) (← a.asBool) (← e.asBool))
  | _ => none
partial def Method.ofSexp : Sexp → Option Method
  | .list [n, s, p] => do pure (.mk (← n.asStr) (← Ty.ofSexp s) (← p.asBool))
  | _ => none
end

/-- optional type: `reflect.Type` may be nil (the type of `nil`, of an ambiguous tag) -/
def Ty.optToSexp : Option Ty → Sexp
  | none => .atom "_"
  | some t => t.toSexp

def Ty.optOfSexp : Sexp → Option (Option Ty)
  | .atom "_" => some none
  | s => (Ty.ofSexp s).map some

end ExprModel
