import ExprModel.Types.SrcDefects
import ExprModel.Proofs.NameRes
/-
C16 — Names the checker accepts are exactly those the VM resolves.

Model: `Types/Table.lean` (conf.CreateTypesTable / FieldsFromStruct, checker fieldType / methodType,
vm fetch / FetchFn at the level of types, docgen's variable set; Spec of Go's selector rule =
`reflField`, `goSelect`, `methodSet`).  The tie (harness/c16.go) compares every one of these functions
with the real code and with `reflect` itself on the type zoo, under `NDefects.asIs`.

Two variants of the model: `NDefects.asIs`, every flag off, is the code of /repo's HEAD (`src_flags_agree`), and
`NDefects.asWas` is the snapshot: the code before the `fix:` commits 08b47a6, 56f80b7, 64cd2bb, 2d52c5a, 547c103,
72281b1 (one or more flags each), which violates the property in several independent ways.  The full statements are
theorems about `asIs` (`…_repaired`).  About `asWas`: `…_witness` (the concrete failing inputs), `…_asIs_false` (the
full statement fails for `asWas`; in these three names `asIs` means the snapshot variant), `…_partial` (what holds
nevertheless).
`NumCfg.asIs` of C12 is named the other way round: there `asIs` is the snapshot's chain and `repaired` the code of HEAD.
-/
namespace ExprModel.C16
open ExprModel Table

/-- **The types table does not depend on Go's map iteration order**: whatever order the snapshot's merge loop
`for name, typ := range FieldsFromStruct(f.Type)` happens to use at each level, the table holds the
same entry for every name.  The code after commit 08b47a6 ranges over a slice of names instead; in its model
(`declOrderMerge = false`) `σ` reaches only the set of names, through `fieldsRaw`. -/
theorem fieldsFrom_perm_invariant (d : NDefects) (σ σ' : Table → Table) (hσ : IsOrder σ)
    (hσ' : IsOrder σ') (t : Ty) (name : String) :
    (fieldsFromStruct d σ t).get? name = (fieldsFromStruct d σ' t).get? name := by
  rw [fieldsFromStruct_get? d σ hσ, fieldsFromStruct_get? d σ' hσ']

theorem createTypesTable_perm_invariant (d : NDefects) (σ σ' : Table → Table) (hσ : IsOrder σ)
    (hσ' : IsOrder σ') (e : Env) (name : String) :
    (createTypesTable d σ e).map (fun t => t.get? name) =
      (createTypesTable d σ' e).map (fun t => t.get? name) := by
  unfold createTypesTable
  cases e.ty with
  | none => rfl
  | some t =>
    simp only []
    cases t.derefOnce.kind <;> simp only [Option.map_some]
    rw [addMethods_get?, addMethods_get?, fieldsFrom_perm_invariant d σ σ' hσ hσ']

example : IsOrder id ∧ IsOrder List.reverse := ⟨isOrder_id, isOrder_reverse⟩

/-- **Accepted ⇒ resolvable, with the assumed type (identifiers, struct environments).**
If the checker accepts `name` as an identifier with type `τ`, then fetching it at run time from a fully
populated environment value succeeds and the slot fetched has static type `τ`. -/
theorem accepted_resolves {e : Env} {t dd : Ty} (h : StructEnv e t dd) (σ : Table → Table)
    (hσ : IsOrder σ) {tbl : Table} (ht : createTypesTable .asIs σ e = some tbl)
    (n : String) (τ : Option Ty) (hacc : identType .asIs tbl n = .ok τ) :
    fetchEnv .asIs e n = some τ := by
  obtain ⟨g, hg, ha, hm, hτ⟩ := identType_ok hacc
  rw [h.entry .asIs σ hσ ht] at hg
  have hmeth : g.method = false := by simpa [NDefects.asIs] using hm
  obtain ⟨f, hr, (hx : f.exported = true), hgf⟩ :=
    fieldsAt_sound .asIs h.hwf h.not_ptr nofun (methodsAt_not_method hg hmeth) ha
  rw [h.fetchEnv, hr]
  simp only [hx, if_true]
  rw [← hτ, hgf]

/-- **Resolvable ⇒ accepted (struct environments).**  Every exported field that `reflect` (Go's selector
rule) resolves unambiguously, at whatever depth, and that is not hidden by a method of the environment,
is accepted as an identifier with exactly the field's type. -/
theorem resolves_accepted {e : Env} {t dd : Ty} (h : StructEnv e t dd) (σ : Table → Table)
    (hσ : IsOrder σ) {tbl : Table} (ht : createTypesTable .asIs σ e = some tbl)
    (n : String) (f : Field) (hr : reflField dd n = .found f) (hx : f.exported = true)
    (hnm : methodByName t n = none) :
    identType .asIs tbl n = .ok (some f.ty) := by
  obtain ⟨g, hg, hgf⟩ := fieldsAt_complete .asIs h.hwf h.not_ptr hr hx
  exact identType_field _ (by rw [h.entry_field .asIs σ hσ ht hnm, hg, hgf rfl])

/-- … and every method of the method set (`reflect`: promoted through embedded structs, pointer
receivers only when addressable) is accepted as a function name. -/
theorem resolves_accepted_method {e : Env} {t dd : Ty} (h : StructEnv e t dd) (σ : Table → Table)
    (hσ : IsOrder σ) {tbl : Table} (ht : createTypesTable .asIs σ e = some tbl)
    (n : String) (hm : (methodByName t n).isSome) :
    ∃ g, tbl.get? n = some g ∧ g.method = true ∧ g.ambiguous = false :=
  method_entry h .asIs σ hσ ht n hm

/-- **The model variant is the code's**: the five switches regenerated from /repo's source (Gen/NameFetch.lean
through `Types/SrcDefects.lean`: pointer stripping in `fetch`; interface unwrapping and `derefFn` in `FetchFn`; the
method guard of `IdentifierNode`) are those of `NDefects.asIs`; the correspondence runs with them (driver variant
`asis` = `srcNDefects`). -/
theorem src_flags_agree : srcNDefects = NDefects.asIs := by decide

/-- **Accepted ⇒ resolvable, with the assumed type (identifiers, map environments)** —
`map[string]interface{}` and typed maps `map[K]V` with a string key type, passed by value; `τ` is the dynamic
type of the value the map holds under that key. -/
theorem accepted_resolves_map {e : Env} {t k v : Ty} (h : MapEnv e t k v) (σ : Table → Table)
    {tbl : Table} (ht : createTypesTable .asIs σ e = some tbl)
    (n : String) (τ : Option Ty) (hacc : identType .asIs tbl n = .ok τ) :
    fetchEnv .asIs e n = some τ := by
  obtain ⟨g, hg, _, hm, hτ⟩ := identType_ok hacc
  have hmeth : g.method = false := by simpa [NDefects.asIs] using hm
  have hnp : t.isPtr = false := by simp [Ty.isPtr, h.hcore]
  have hkind : t.kind = .map := by simp [Ty.kind, h.hcore]
  have hdo : t.derefOnce = t := by
    unfold Ty.derefOnce
    rw [h.hcore]
  -- the table: the map's entries, then the methods
  unfold createTypesTable at ht
  rw [h.hty] at ht
  simp only [hdo, hkind] at ht
  cases ht
  rw [addMethods_get?] at hg
  have hg := methodsAt_not_method hg hmeth
  rw [entries_get? e.entries h.hnodup n []] at hg
  cases hfe : e.entries.find? (fun kv => kv.1 = n) with
  | none => rw [hfe] at hg; cases hg
  | some kv =>
    rw [hfe] at hg
    simp only [Option.some.injEq] at hg
    have hkv : kv.2 = τ := by rw [← hτ, ← hg]
    unfold ExprModel.fetchEnv
    rw [h.hty]
    simp only []
    split
    · simp only [hfe, hkv]
    · rw [fetchBase_asIs, Ty.deref_of_not_isPtr hnp, h.hcore]
      simp only [h.hkey, if_true, hfe, hkv]

-- the hypothesis is satisfiable: a `map[string]interface{}` and a typed map `map[string]int`
example : MapEnv { ty := some (.map .string interfaceType), entries := [("a", some (.num .int)), ("s", some .string)] }
    (.map .string interfaceType) .string interfaceType ∧
    MapEnv { ty := some (.map .string (.num .int)), entries := [("a", some (.num .int))] }
    (.map .string (.num .int)) .string (.num .int) :=
  ⟨⟨rfl, rfl, by decide +kernel, by decide⟩, ⟨rfl, rfl, by decide +kernel, by decide⟩⟩

/-- **Accepted ⇒ callable (function names, struct environments).**  If the checker accepts `name(…)`
(the table holds a callable entry) then `FetchFn` finds something `reflect` can call: the method, or the
exported field holding a function — directly, behind pointers (`*func`), in an interface, or in an interface
behind pointers (`*interface{}`). -/
theorem accepted_call_resolves {e : Env} {t dd : Ty} (h : StructEnv e t dd) (σ : Table → Table)
    (hσ : IsOrder σ) {tbl : Table} (ht : createTypesTable .asIs σ e = some tbl)
    (n : String) (fn : Ty) (m : Bool) (hacc : funcTarget tbl n = some (fn, m)) :
    ∃ ft, fetchFnTy .asIs t e.entries n = some (ft, m) := by
  unfold funcTarget at hacc
  cases hg : tbl.get? n with
  | none => rw [hg] at hacc; cases hacc
  | some g =>
    rw [hg] at hacc
    simp only [Option.map_eq_some_iff] at hacc
    obtain ⟨fn', hfn, heq⟩ := hacc
    cases heq
    cases hm : methodByName t n with
    | some mt =>
      obtain ⟨g', hg', hm', _⟩ := method_entry h .asIs σ hσ ht n (by rw [hm]; rfl)
      rw [hg] at hg'; cases hg'
      rw [hm']
      exact ⟨mt, fetchFnTy_method hm _ _⟩
    | none =>
      rw [h.entry_field .asIs σ hσ ht hm] at hg
      rcases fieldsAt_go rfl h.deref hg with rfl | ⟨f, hr, hx, hgf⟩
      · -- an ambiguous tag has no type: not callable
        cases hfn
      · rw [hgf] at hfn ⊢
        rw [h.hdd] at hr
        exact ⟨f.ty, fetchFnTy_asIs_field _ hm (h.hdd ▸ h.hkind) hr hx (isFuncType_some_deref hfn)⟩

/-- **The checker's member type is Go's**: on a struct (through any number of pointers) the asIs
`fieldType` accepts exactly the exported fields `reflect.FieldByName` resolves, with their types. -/
theorem fieldType_agrees_with_go (k : Nat) (t : Ty) (n : String) (τ : Ty)
    (hs : t.deref.kind = .struct) :
    fieldType .asIs (k + 1) t n = some τ ↔
      ∃ f, reflField t.deref n = .found f ∧ f.exported = true ∧ f.ty = τ := by
  rw [fieldType_asIs_succ, hs]
  simp only []
  cases hr : reflField t.deref n with
  | notFound => simp
  | ambiguous => simp
  | found f =>
    by_cases hx : f.exported = true
    · simp [hx]
    · simp [hx]

/-- **Accepted member ⇒ fetchable with the assumed type**, for every receiver whose static type is not an
interface (an interface-typed receiver carries no static claim: every name is accepted). -/
theorem member_accepted_resolves (k : Nat) (t : Ty) (n : String) (τ : Ty)
    (hacc : fieldType .asIs (k + 1) t n = some τ) (hstatic : t.deref.kind ≠ .iface) :
    fetchTy .asIs t n = some τ := by
  rw [fieldType_asIs_succ] at hacc
  unfold fetchTy
  simp only [fetchBase_asIs]
  cases hk : t.deref.kind <;> rw [hk] at hacc <;> simp only [] at hacc <;> try (cases hacc)
  · exact absurd hk hstatic
  · -- map
    obtain ⟨kt, vt, hc⟩ := Ty.kind_map_iff.1 hk
    simp only [hc]
    simp only [Ty.mapKey?, Ty.elem?, hc, Option.map_some, Option.getD_some] at hacc
    by_cases hok : stringKeyOk .asIs kt = true
    · simpa [hok] using hacc
    · simp [hok] at hacc
  · -- struct
    obtain ⟨fs, hc⟩ := Ty.kind_struct_iff.1 hk
    simp only [hc]
    cases hr : reflField t.deref n with
    | notFound => rw [hr] at hacc; cases hacc
    | ambiguous => rw [hr] at hacc; cases hacc
    | found f =>
      rw [hr] at hacc
      simp only [] at hacc ⊢
      exact hacc

/-- **Accepted method ⇒ callable** (receiver a struct or a pointer to one): what the asIs
`methodType` accepts — a method of the receiver's method set, or an exported field that `reflect`
resolves and that holds a function, directly or behind pointers — is what `FetchFn` finds. -/
theorem method_accepted_resolves (k : Nat) (t : Ty) (n : String) (fn : Ty) (m : Bool)
    (hacc : methodType .asIs (k + 1) t n = some (fn, m))
    (hs : t.derefOnce.kind = .struct) (hni : t.kind ≠ .iface) (hfn : fn.deref.kind = .func) :
    fetchFnTy .asIs t [] n = some (fn, m) := by
  unfold methodType at hacc
  cases hm : methodByName t n with
  | some mt =>
    rw [hm] at hacc
    simp only [Option.some.injEq, Prod.mk.injEq] at hacc
    obtain ⟨h1, h2⟩ := hacc
    have : m = true := by rw [← h2]; simpa using hni
    rw [← h1, this]
    exact fetchFnTy_method hm _ _
  | none =>
    rw [hm] at hacc
    simp only [hs, NDefects.asIs] at hacc
    cases hr : reflField t.derefOnce n with
    | notFound => rw [hr] at hacc; simp at hacc
    | ambiguous => rw [hr] at hacc; simp at hacc
    | found f =>
      rw [hr] at hacc
      by_cases hx : f.exported = true
      · simp [hx] at hacc
        obtain ⟨h1, h2⟩ := hacc
        subst h1; subst h2
        exact fetchFnTy_asIs_field [] hm hs hr hx (.inl hfn)
      · simp [hx] at hacc

/-- **`docgen.CreateDoc` lists exactly the accepted top-level names** (plus the four word operators and
the builtins).  `acceptedTop` does not depend on the variant `d` (`acceptedTop_iff`); `NodupKeys` holds of every table
the library builds (`createTypesTable_nodup`). -/
theorem doc_lists_accepted (d : NDefects) (tbl : Table) (hn : NodupKeys tbl) (n : String) :
    n ∈ docVars (some tbl) ↔ acceptedTop d tbl n ∨ n ∈ docOperators ∨ n ∈ docBuiltins := by
  rw [acceptedTop_iff]
  unfold docVars
  simp only [Option.getD_some, List.mem_append, List.mem_map, List.mem_filter, or_assoc]
  apply or_congr_left
  constructor
  · rintro ⟨⟨k, g⟩, ⟨hm, ha⟩, rfl⟩
    exact ⟨g, (Table.get?_eq_some_iff_mem hn k g).2 hm, by simpa using ha⟩
  · rintro ⟨g, hg, ha⟩
    exact ⟨(n, g), ⟨(Table.get?_eq_some_iff_mem hn n g).1 hg, by simp [ha]⟩, rfl⟩

/-- **Accepted ⇒ resolvable, at the snapshot** — for every name that is not a method of the
environment (excludes `c16:method-accepted-as-identifier`, `c16:method-shadows-promoted-field`) and whose
field is exported (excludes `c16:unexported-field-accepted`).  In particular the merge loop of
`FieldsFromStruct`, although order dependent, never records a wrong type: a non-ambiguous entry is always
the field Go's depth rule selects. -/
theorem accepted_resolves_partial {e : Env} {t dd : Ty} (h : StructEnv e t dd) (hnames : NamesWF dd)
    (σ : Table → Table) (hσ : IsOrder σ) {tbl : Table} (ht : createTypesTable .asWas σ e = some tbl)
    (n : String) (τ : Option Ty) (hacc : identType .asWas tbl n = .ok τ)
    (hnomethod : methodByName t n = none)
    (hexported : ∀ f, reflField dd n = .found f → f.exported = true) :
    fetchEnv .asWas e n = some τ := by
  obtain ⟨g, hg, ha, _, hτ⟩ := identType_ok hacc
  rw [h.entry_field .asWas σ hσ ht hnomethod] at hg
  obtain ⟨f, hr, _, hgf⟩ := fieldsAt_sound .asWas h.hwf h.not_ptr (fun _ => ⟨hnames, allAccepted_asWas dd n⟩) hg ha
  rw [h.fetchEnv, hr]
  simp only [hexported f hr, if_true]
  rw [← hτ, hgf]

/-- **Resolvable ⇒ accepted, at the snapshot** — whenever the table does not (spuriously) mark
the name ambiguous (excludes `c16:outer-field-shadowing-embedded-marked-ambiguous`,
`c16:shallower-embedded-field-marked-ambiguous`). -/
theorem resolves_accepted_partial {e : Env} {t dd : Ty} (h : StructEnv e t dd) (hnames : NamesWF dd)
    (σ : Table → Table) (hσ : IsOrder σ) {tbl : Table} (ht : createTypesTable .asWas σ e = some tbl)
    (n : String) (f : Field) (hr : reflField dd n = .found f)
    (hnm : methodByName t n = none)
    (hnotamb : ∀ g, tbl.get? n = some g → g.ambiguous = false) :
    identType .asWas tbl n = .ok (some f.ty) := by
  obtain ⟨g, hg, _⟩ := fieldsAt_complete .asWas h.hwf h.not_ptr hr rfl
  have hget : tbl.get? n = some g := by rw [h.entry_field .asWas σ hσ ht hnm, hg]
  obtain ⟨f', hr', _, hgf⟩ := fieldsAt_sound .asWas h.hwf h.not_ptr (fun _ => ⟨hnames, allAccepted_asWas dd n⟩) hg
    (hnotamb g hget)
  rw [hr] at hr'; cases hr'
  exact identType_field _ (by rw [hget, hgf])

/-- **Members, at the snapshot**: on a struct without embedded fields the depth-first
`fieldType` is Go's rule (excludes `c16:member-type-depth-first-differs-from-go`,
`c16:ambiguous-member-accepted`), reached the way `fetch` reaches it, i.e. through at most one pointer
(`hderef`, excludes `c16:member-through-pointer-not-fetchable`), for exported fields. -/
theorem member_accepted_resolves_partial (k : Nat) (t : Ty) (n : String) (τ : Ty)
    (hacc : fieldType .asWas (k + 1) t n = some τ)
    (hderef : t.fetchBase .asWas = t.deref) (hs : t.deref.kind = .struct)
    (hnoemb : t.deref.embedded = []) (hnames : (t.deref.fields.map Field.name).Nodup)
    (hexported : ∀ f ∈ t.deref.fields, f.name = n → f.exported = true) :
    fetchTy .asWas t n = some τ := by
  unfold fieldType at hacc
  simp only [NDefects.asWas, if_true, hs, Bool.true_or, Bool.and_true] at hacc
  have hemb : List.filter (fun x => x.anon) t.deref.fields = [] := hnoemb
  rw [hemb] at hacc
  cases hfind : t.deref.fields.find? (fun f => decide (f.name = n)) with
  | none => rw [hfind] at hacc; simp [firstSome] at hacc
  | some f =>
    rw [hfind] at hacc
    simp only [Option.some.injEq] at hacc
    have hmem := List.mem_of_find?_eq_some hfind
    have hname : f.name = n := by simpa using List.find?_some hfind
    have hr : reflField t.deref n = .found f := by
      rw [reflField_flat hnoemb, filter_name_eq_singleton n _ f hnames hmem hname]
    obtain ⟨fs, hc⟩ := Ty.kind_struct_iff.1 hs
    unfold fetchTy
    simp only [hderef, hc, hr, hexported f hmem hname, if_true]
    rw [hacc]

/-! The concrete failing inputs on the variant of the snapshot (`asWas`), and the same inputs on `asIs`.

Each mirrors a type of the harness zoo (`harness/types_zoo.go`); the harness reproduces the same verdicts on
the real library and reports them under the key quoted. -/

-- for `decide` on the `identType … = .ok … / .error …` conjuncts below
deriving instance DecidableEq for Except

def tInt : Ty := .num .int
def tFloat : Ty := .num .float64
def fld (n : String) (t : Ty) : Field := .mk n t false true
def emb (n : String) (t : Ty) : Field := .mk n t true true
def priv (n : String) (t : Ty) : Field := .mk n t false false
def envOf (t : Ty) : Env := { ty := some t }
def tableOf (d : NDefects) (t : Ty) : Table := (createTypesTable d id (envOf t)).getD []

def ZA : Ty := .named "main.ZA" [] (.struct [fld "X" tInt, fld "Y" .string])
def ZB : Ty := .named "main.ZB" [] (.struct [fld "X" tFloat, fld "Z" .bool])
def ZDeep : Ty := .named "main.ZDeep" [] (.struct [fld "X" .string, fld "W" tInt])
def ZMid : Ty := .named "main.ZMid" [] (.struct [emb "ZDeep" ZDeep, fld "V" tInt])
/-- `type EnvShadowBefore struct { X int; ZA }` -/
def EnvShadowBefore : Ty := .named "main.EnvShadowBefore" [] (.struct [fld "X" tInt, emb "ZA" ZA])
/-- `type EnvShadowAfter struct { ZA; X int }` -/
def EnvShadowAfter : Ty := .named "main.EnvShadowAfter" [] (.struct [emb "ZA" ZA, fld "X" tInt])
/-- `type EnvDepth struct { ZMid; ZB }`: `X` at depth 1 (ZB) and depth 2 (ZMid.ZDeep) -/
def EnvDepth : Ty := .named "main.EnvDepth" [] (.struct [emb "ZMid" ZMid, emb "ZB" ZB])
/-- `type EnvAmbig struct { ZA; ZB }`: `X` genuinely ambiguous -/
def EnvAmbig : Ty := .named "main.EnvAmbig" [] (.struct [emb "ZA" ZA, emb "ZB" ZB])
/-- `type EnvUnexported struct { priv int; Pub string }` -/
def EnvUnexported : Ty := .named "main.EnvUnexported" [] (.struct [priv "priv" tInt, fld "Pub" .string])
def sigAdd : Ty := .func [tInt, tInt] false [tInt]
/-- `type EnvMeth struct { Base int }` with `func (EnvMeth) Add(a, b int) int` -/
def EnvMeth : Ty := .named "main.EnvMeth" [.mk "Add" sigAdd false] (.struct [fld "Base" tInt])
def fnIntInt : Ty := .func [tInt] false [tInt]
/-- `type EnvFuncs struct { F func(int) int; IFn interface{} }` -/
def EnvFuncs : Ty := .named "main.EnvFuncs" [] (.struct [fld "F" fnIntInt, fld "IFn" interfaceType])
def ZMyStr : Ty := .named "main.ZMyStr" [] .string
def EnvNested : Ty := .named "main.EnvNested" []
  (.struct [fld "A" EnvDepth, fld "B" EnvAmbig, fld "PP" (.ptr (.ptr ZA)), fld "MI" (.map tInt .string)])

/-- `c16:outer-field-shadowing-embedded-marked-ambiguous`: with `struct { X int; ZA }` (ZA has a field X)
the checker says "ambiguous identifier X", although Go resolves the outer `X` and the VM fetches it;
declared the other way round (`struct { ZA; X int }`) the same name is accepted. -/
theorem outer_field_shadowing_witness :
    identType .asWas (tableOf .asWas EnvShadowBefore) "X" = .error .ambiguous ∧
    reflField EnvShadowBefore "X" = .found (fld "X" tInt) ∧
    fetchEnv .asWas (envOf EnvShadowBefore) "X" = some (some tInt) ∧
    identType .asWas (tableOf .asWas EnvShadowAfter) "X" = .ok (some tInt) ∧
    identType .asIs (tableOf .asIs EnvShadowBefore) "X" = .ok (some tInt) := by
  decide +kernel

/-- `c16:shallower-embedded-field-marked-ambiguous`: `struct { ZMid; ZB }` — Go selects `ZB.X`
(depth 1) over `ZMid.ZDeep.X` (depth 2); the table marks `X` ambiguous. -/
theorem shallower_field_witness :
    identType .asWas (tableOf .asWas EnvDepth) "X" = .error .ambiguous ∧
    reflField EnvDepth "X" = .found (fld "X" tFloat) ∧
    identType .asIs (tableOf .asIs EnvDepth) "X" = .ok (some tFloat) := by
  decide +kernel

/-- `c16:unexported-field-accepted`: the unexported field is accepted by the checker and not
fetchable at run time (`CanInterface` is false). -/
theorem unexported_field_witness :
    identType .asWas (tableOf .asWas EnvUnexported) "priv" = .ok (some tInt) ∧
    fetchEnv .asWas (envOf EnvUnexported) "priv" = none ∧
    identType .asIs (tableOf .asIs EnvUnexported) "priv" = .error .unknown := by
  decide +kernel

/-- `c16:method-accepted-as-identifier`: a method of the environment is accepted as a plain identifier
(type `func(EnvMeth, int, int) int`), but `fetch` only looks for fields. -/
theorem method_as_value_witness :
    identType .asWas (tableOf .asWas EnvMeth) "Add" = .ok (some (.func [EnvMeth, tInt, tInt] false [tInt])) ∧
    fetchEnv .asWas (envOf EnvMeth) "Add" = none ∧
    identType .asIs (tableOf .asIs EnvMeth) "Add" = .error .methodValue ∧
    (fetchFnTy .asIs EnvMeth [] "Add").isSome = true := by
  decide +kernel

/-- `c16:func-in-interface-field-not-callable`: `IFn()` with `IFn interface{}` is accepted as a call
(`isFuncType` admits interfaces) but `FetchFn` hands the interface-kinded field to `reflect.Call`. -/
theorem iface_field_call_witness :
    funcTarget (tableOf .asWas EnvFuncs) "IFn" = some (interfaceType, false) ∧
    fetchFnTy .asWas EnvFuncs [] "IFn" = none ∧
    fetchFnTy .asIs EnvFuncs [] "IFn" = some (interfaceType, false) ∧
    fetchFnTy .asWas EnvFuncs [] "F" = some (fnIntInt, false) := by
  decide +kernel

/-- `type EnvPtrFn struct { PF *func(int) int; PIFn *interface{} }` -/
def EnvPtrFn : Ty := .named "main.EnvPtrFn" [] (.struct [fld "PF" (.ptr fnIntInt), fld "PIFn" (.ptr interfaceType)])

/-- `c16:accepted-not-resolvable:pointer-to-func` (the code before commit 547c103): `PF(1)` with
`PF *func(int) int` is accepted (`isFuncType` dereferences) but `FetchFn` hands the pointer to `reflect.Call`; also
for a map environment holding `&f`. -/
theorem ptr_func_witness :
    funcTarget (tableOf .asWas EnvPtrFn) "PF" = some (fnIntInt, false) ∧
    fetchFnTy .asWas EnvPtrFn [] "PF" = none ∧
    fetchFnTy .asIs EnvPtrFn [] "PF" = some (.ptr fnIntInt, false) ∧
    (let e : Env := { ty := some (.map .string interfaceType), entries := [("pf", some (.ptr fnIntInt))] }
     funcTarget ((createTypesTable .asIs id e).getD []) "pf" = some (fnIntInt, false) ∧
     fetchFnTy .asWas (.map .string interfaceType) e.entries "pf" = none ∧
     fetchFnTy .asIs (.map .string interfaceType) e.entries "pf" = some (.ptr fnIntInt, false)) := by
  decide +kernel

/-- `c16:accepted-not-resolvable:pointer-to-interface-holding-func` (the code before commit 72281b1): `PIFn(1)`
with `PIFn *interface{}` is accepted — `isFuncType` dereferences to the interface — but `FetchFn` stops at the
interface value (the flag `ptrIfaceFuncNotFetched`); under `asIs` it follows it. -/
theorem ptr_iface_func_witness :
    funcTarget (tableOf .asIs EnvPtrFn) "PIFn" = some (interfaceType, false) ∧
    fetchFnTy { NDefects.asIs with ptrIfaceFuncNotFetched := true } EnvPtrFn [] "PIFn" = none ∧
    fetchFnTy .asWas EnvPtrFn [] "PIFn" = none ∧
    fetchFnTy .asIs EnvPtrFn [] "PIFn" = some (.ptr interfaceType, false) := by
  decide +kernel

/-- `c16:func-in-typed-map-not-callable`, `c16:defined-string-key-map-env`: map environments. -/
theorem map_env_witness :
    (let e : Env := { ty := some (.map .string fnIntInt), entries := [("f", some fnIntInt)] }
     funcTarget ((createTypesTable .asWas id e).getD []) "f" = some (fnIntInt, false) ∧
     fetchFnTy .asWas (.map .string fnIntInt) e.entries "f" = none ∧
     fetchFnTy .asIs (.map .string fnIntInt) e.entries "f" = some (fnIntInt, false)) ∧
    (let e : Env := { ty := some (.map ZMyStr tInt), entries := [("a", some tInt)] }
     identType .asWas ((createTypesTable .asWas id e).getD []) "a" = .ok (some tInt) ∧
     fetchEnv .asWas e "a" = none ∧
     fetchEnv .asIs e "a" = some (some tInt)) := by
  decide +kernel

/-- `c16:member-type-depth-first-differs-from-go`, `c16:ambiguous-member-accepted`,
`c16:member-through-pointer-not-fetchable`, `c16:member-of-non-string-keyed-map-accepted`:
nested members `A.X`, `B.X`, `PP.X`, `MI.k`. -/
theorem member_witness :
    -- depth-first picks ZMid.ZDeep.X : string, Go and the VM pick ZB.X : float64
    fieldType .asWas 10 EnvDepth "X" = some .string ∧ fetchTy .asWas EnvDepth "X" = some tFloat ∧
    fieldType .asIs 10 EnvDepth "X" = some tFloat ∧
    -- genuinely ambiguous: accepted with ZA.X's type, not fetchable
    fieldType .asWas 10 EnvAmbig "X" = some tInt ∧ fetchTy .asWas EnvAmbig "X" = none ∧
    fieldType .asIs 10 EnvAmbig "X" = none ∧
    -- **struct
    fieldType .asWas 10 (.ptr (.ptr ZA)) "X" = some tInt ∧ fetchTy .asWas (.ptr (.ptr ZA)) "X" = none ∧
    fetchTy .asIs (.ptr (.ptr ZA)) "X" = some tInt ∧
    -- map[int]string
    fieldType .asWas 10 (.map tInt .string) "k" = some .string ∧ fetchTy .asWas (.map tInt .string) "k" = none ∧
    fieldType .asIs 10 (.map tInt .string) "k" = none := by
  decide +kernel

def accepted_resolves_goal (d : NDefects) : Prop :=
  ∀ (e : Env) (t dd : Ty), StructEnv e t dd → NamesWF dd →
    ∀ (σ : Table → Table), IsOrder σ → ∀ tbl, createTypesTable d σ e = some tbl →
      ∀ (n : String) (τ : Option Ty), identType d tbl n = .ok τ → fetchEnv d e n = some τ

def resolves_accepted_goal (d : NDefects) : Prop :=
  ∀ (e : Env) (t dd : Ty), StructEnv e t dd → NamesWF dd →
    ∀ (σ : Table → Table), IsOrder σ → ∀ tbl, createTypesTable d σ e = some tbl →
      ∀ (n : String) (f : Field), reflField dd n = .found f → f.exported = true →
        methodByName t n = none → identType d tbl n = .ok (some f.ty)

def member_accepted_resolves_goal (d : NDefects) : Prop :=
  ∀ (k : Nat) (t : Ty) (n : String) (τ : Ty), fieldType d (k + 1) t n = some τ →
    t.deref.kind ≠ .iface → fetchTy d t n = some τ

theorem accepted_resolves_repaired : accepted_resolves_goal .asIs :=
  fun _ _ _ h _ σ hσ _ ht n τ hacc => accepted_resolves h σ hσ ht n τ hacc

theorem resolves_accepted_repaired : resolves_accepted_goal .asIs :=
  fun _ _ _ h _ σ hσ _ ht n f hr hx hnm => resolves_accepted h σ hσ ht n f hr hx hnm

theorem member_accepted_resolves_repaired : member_accepted_resolves_goal .asIs :=
  fun k t n τ hacc hst => member_accepted_resolves k t n τ hacc hst

private theorem structEnv_unexported :
    StructEnv (envOf EnvUnexported) EnvUnexported EnvUnexported ∧ NamesWF EnvUnexported :=
  ⟨⟨rfl, by decide +kernel, by decide +kernel, AtEveryLevel.of_depth _ (by decide +kernel)⟩,
    AtEveryLevel.of_depth _ (by decide +kernel)⟩

private theorem structEnv_shadowBefore :
    StructEnv (envOf EnvShadowBefore) EnvShadowBefore EnvShadowBefore ∧ NamesWF EnvShadowBefore :=
  ⟨⟨rfl, by decide +kernel, by decide +kernel, AtEveryLevel.of_depth _ (by decide +kernel)⟩,
    AtEveryLevel.of_depth _ (by decide +kernel)⟩

/-- at the snapshot the checker accepts a name the VM cannot resolve (`priv`) -/
theorem accepted_resolves_asIs_false : ¬ accepted_resolves_goal .asWas := by
  intro h
  have := h (envOf EnvUnexported) EnvUnexported EnvUnexported structEnv_unexported.1 structEnv_unexported.2
    id isOrder_id (tableOf .asWas EnvUnexported) (by decide +kernel) "priv" (some tInt) unexported_field_witness.1
  rw [unexported_field_witness.2.1] at this
  cases this

/-- at the snapshot the checker rejects a name Go resolves (`X` in `struct { X int; ZA }`) -/
theorem resolves_accepted_asIs_false : ¬ resolves_accepted_goal .asWas := by
  intro h
  have := h (envOf EnvShadowBefore) EnvShadowBefore EnvShadowBefore structEnv_shadowBefore.1
    structEnv_shadowBefore.2 id isOrder_id (tableOf .asWas EnvShadowBefore) (by decide +kernel)
    "X" (fld "X" tInt) outer_field_shadowing_witness.2.1 rfl (by decide +kernel)
  rw [outer_field_shadowing_witness.1] at this
  cases this

/-- at the snapshot the checker's member type can differ from what the VM fetches (`A.X` on `struct { ZMid; ZB }`) -/
theorem member_accepted_resolves_asIs_false : ¬ member_accepted_resolves_goal .asWas := by
  intro h
  have := h 9 EnvDepth "X" .string member_witness.1 (by decide +kernel)
  rw [member_witness.2.1] at this
  cases this

-- a name the partial theorems speak of: `Y` of `struct { ZA; X int }` is accepted at the snapshot, is no method, and Go's
-- rule resolves it (`StructEnv`, `NamesWF` are shown of two other environments by `structEnv_…` above)
example : ∃ tbl, createTypesTable .asWas id (envOf EnvShadowAfter) = some tbl ∧
    identType .asWas tbl "Y" = .ok (some .string) ∧ methodByName EnvShadowAfter "Y" = none ∧
    reflField EnvShadowAfter "Y" = .found (fld "Y" .string) :=
  ⟨tableOf .asWas EnvShadowAfter, by decide +kernel⟩

end ExprModel.C16
