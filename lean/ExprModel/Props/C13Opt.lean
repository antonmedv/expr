import ExprModel.Props.C13Pipeline
import ExprModel.Proofs.OptLocs
import ExprModel.Proofs.PatchLocs
import ExprModel.Proofs.CheckerErrLocs
/-
C13, locations through the optimizer and the typed front.  `optimizer.Optimize` sits between the checker and the
compiler; the theorems of C13Pipeline speak about the tree handed to the compiler.  Every stage here is one statement
for an arbitrary `P`: `AllLoc P` of its input (and `P` of 0:0, the location of the fresh inner nodes of the in-array and
in-range rewrites) gives `AllLoc P` of its output and `P` of the error it may raise.  For `expr.Compile` as a whole
(`Api.compileSource`) the composition is said once, as a postcondition on its outcome (`OutLocs`).
-/
namespace ExprModel.C13
open ExprModel ExprModel.Src ExprModel.Lex ExprModel.Opt
open ExprModel.LocMap (report)

/-- Every node of the optimised tree carries the location of a node of the tree
    given, or 0:0 — for every tree, all five passes, their repetition loops, every flag setting and every
    table of constant functions. -/
theorem optimize_keeps_locations (P : Loc → Prop) (h0 : P {}) (fl : Flags) (fns : ConstFns) (w : World)
    (n n' : Node) (hn : n.AllLoc P) (h : optimize fl fns w n = .ok n') : n'.AllLoc P :=
  (OptProofs.optimizeWith_allLoc h0 Guard.all fl fns w n hn).ok h

/-- A compile error raised by the optimizer (integer division or modulo by zero
    met by `fold`, a `ConstExpr` function that fails) is at the location of a node of the tree given, or 0:0 (`h0`). -/
theorem optimize_error_located (P : Loc → Prop) (h0 : P {}) (fl : Flags) (fns : ConstFns) (w : World)
    (n : Node) (l : Loc) (hn : n.AllLoc P) (h : optimize fl fns w n = .error l) : P l :=
  (OptProofs.optimizeWith_allLoc h0 Guard.all fl fns w n hn).error h

/-- non-vacuity, and the rule at work: in `1 + 2 / 0` (tokens at 1:0, 1:2, 1:4, 1:6, 1:8) `fold` reports the
    division at 1:6, the `/` -/
example :
    let w : World := { call := fun _ _ => .ok .nil, regexMatch := fun _ _ => none, pow := fun a _ => a }
    optimize Flags.asIs [] w
      (.binary ⟨⟨1, 2⟩, .invalid⟩ "+" (.int ⟨⟨1, 0⟩, .invalid⟩ 1)
        (.binary ⟨⟨1, 6⟩, .invalid⟩ "/" (.int ⟨⟨1, 4⟩, .invalid⟩ 2) (.int ⟨⟨1, 8⟩, .invalid⟩ 0))) = .error ⟨1, 6⟩ := rfl

/-- Check, optimise, compile, run: whenever the run of the program
    compiled from the *optimised* tree fails, the location the VM reports is the location of a node of the
    tree that was given to the optimizer, or 0:0 (a fresh inner node of a rewrite, or the `OpCast` epilogue). -/
theorem optimized_runtime_error_location (cfg : CompCfg) (hcfg : Bc.CompCfgOk cfg) (fl : Flags) (fns : ConstFns)
    (checked final : Node) (cp : Compiled) (c : Cfg)
    (hopt : optimize fl fns c.world checked = .ok final)
    (hc : compileProgram cfg final = .ok cp) (hfit : Refine.FitsU16 cp.code) (fuel : Nat) (e : ErrClass)
    (s' : VM) (hrun : run c (Refine.progOf cp) fuel = (.error e, s')) (he : e ≠ .fuel)
    (P : Loc → Prop) (h0 : P {}) (hn : checked.AllLoc P) :
    P (report (locTable 0 cp.code) s'.pp) := by
  have hf := optimize_keeps_locations P h0 fl fns c.world checked final hn hopt
  rcases runtime_error_location cfg hcfg final cp hc hfit c fuel e s' hrun he P hf with h | ⟨h, _⟩
  · exact h
  · rw [h]; exact h0

private theorem parsed_in_source_or_zero (cc : CharClass) (hnl : cc.isSpace '\n' = true) (pcfg : Parser.Cfg)
    (src : String) (toks : List Token) (root : Node) (hl : Lex.lex cc LexTables.std src = .ok toks)
    (hp : Parser.parse pcfg toks = .ok root) :
    root.AllLoc (fun l => (∃ ch, cc.isSpace ch = false ∧ PointsAt src.toList l ch) ∨ l = {}) :=
  Node.allLoc_mono (fun _ h => Or.inl h) root (node_locations_in_source cc hnl pcfg src toks root hl hp)

/-- **Source to reported location, optimizer included** (lex, parse, `optimizer.Optimize`, compile without
    cast, run): whatever fails at run time is reported inside the source, at the first rune of the defining token
    of a node of the parsed tree — or at 0:0. -/
theorem optimized_error_location_in_source (cc : CharClass) (hnl : cc.isSpace '\n' = true) (pcfg : Parser.Cfg)
    (src : String) (toks : List Token) (root final : Node) (cfg : CompCfg) (hcast : cfg.cast = none)
    (fl : Flags) (fns : ConstFns) (cp : Compiled) (c : Cfg)
    (hl : Lex.lex cc LexTables.std src = .ok toks) (hp : Parser.parse pcfg toks = .ok root)
    (hopt : optimize fl fns c.world root = .ok final)
    (hc : compileProgram cfg final = .ok cp) (hfit : Refine.FitsU16 cp.code) (fuel : Nat) (e : ErrClass)
    (s' : VM) (hrun : run c (Refine.progOf cp) fuel = (.error e, s')) (he : e ≠ .fuel) :
    (∃ ch, cc.isSpace ch = false ∧ PointsAt src.toList (report (locTable 0 cp.code) s'.pp) ch) ∨
      report (locTable 0 cp.code) s'.pp = {} := by
  have hcfg : Bc.CompCfgOk cfg := by intro t ht; rw [hcast] at ht; cases ht
  exact optimized_runtime_error_location cfg hcfg fl fns root final cp c hopt hc hfit fuel e s' hrun he _ (Or.inr rfl)
    (parsed_in_source_or_zero cc hnl pcfg src toks root hl hp)

/-- lex, parse, `optimizer.Optimize` on the parser's tree (the stages of `optimized_error_location_in_source`): the
    optimizer's own compile error is inside the source or at 0:0 -/
theorem optimize_error_in_source (cc : CharClass) (hnl : cc.isSpace '\n' = true) (pcfg : Parser.Cfg)
    (src : String) (toks : List Token) (root : Node) (fl : Flags) (fns : ConstFns) (w : World) (l : Loc)
    (hl : Lex.lex cc LexTables.std src = .ok toks) (hp : Parser.parse pcfg toks = .ok root)
    (hopt : optimize fl fns w root = .error l) :
    (∃ ch, cc.isSpace ch = false ∧ PointsAt src.toList l ch) ∨ l = {} :=
  optimize_error_located _ (Or.inr rfl) fl fns w root l (parsed_in_source_or_zero cc hnl pcfg src toks root hl hp) hopt

/-- When the in-array and in-range rewrites did not fire (`hrun`: switching them off with the guard `g` does not change
    what `Optimize` returns), every node of the optimised tree is at the location of a node of the tree given — no 0:0
    escape: folding, constant ranges and `ConstExpr` results replace a node by a literal or constant that takes over its
    location.  So the fresh inner nodes of the two membership rewrites are the only unlocated nodes the optimizer makes. -/
theorem optimize_keeps_locations_exact (P : Loc → Prop) (g : Guard) (hA : ∀ N, g .inArray N = false)
    (hR : ∀ N, g .inRange N = false) (fl : Flags) (fns : ConstFns) (w : World) (n n' : Node) (hn : n.AllLoc P)
    (hrun : optimizeWith g fl fns w n = optimize fl fns w n) (h : optimize fl fns w n = .ok n') : n'.AllLoc P :=
  (OptProofs.optimizeWith_allLoc_exact (P := P) g hA hR fl fns w n hn).ok (hrun.trans h)

/-- non-vacuity: `1 + 2 * 3` at 1:0 … 1:8 folds to one literal at the location of the `+` (1:2), with a predicate that
    0:0 does not satisfy, and switching the membership rewrites off changes nothing -/
example :
    let w : World := { call := fun _ _ => .ok .nil, regexMatch := fun _ _ => none, pow := fun a _ => a }
    let g : Guard := fun p _ => p != .inArray && p != .inRange
    let n : Node := .binary ⟨⟨1, 2⟩, .invalid⟩ "+" (.int ⟨⟨1, 0⟩, .invalid⟩ 1)
      (.binary ⟨⟨1, 6⟩, .invalid⟩ "*" (.int ⟨⟨1, 4⟩, .invalid⟩ 2) (.int ⟨⟨1, 8⟩, .invalid⟩ 3))
    optimizeWith g Flags.asIs [] w n = optimize Flags.asIs [] w n ∧
    optimize Flags.asIs [] w n = .ok (.int ⟨⟨1, 2⟩, .invalid⟩ 7) ∧ ¬ (({} : Loc).line = 1) :=
  ⟨rfl, rfl, by decide⟩

/-- `optimize_keeps_locations` without the 0:0 escape (`h0`) -/
def optimize_keeps_locations_goal : Prop :=
  ∀ (P : Loc → Prop) (fl : Flags) (fns : ConstFns) (w : World) (n n' : Node),
    n.AllLoc P → optimize fl fns w n = .ok n' → n'.AllLoc P

/-- `optimize_keeps_locations_goal` does not hold of the code: the two comparison nodes the in-range rewrite creates
    are never given a location (`ast.Patch` reaches only the outer node), so the optimised tree of `X in 1..3` has
    nodes at 0:0 although every node of the parsed tree is on line 1.  Such a node fails at run time only when the
    environment does not have the declared type (`>=` on an `int`-annotated operand). -/
theorem optimize_keeps_locations_goal_witness : ¬ optimize_keeps_locations_goal := by
  intro h
  let w : World := { call := fun _ _ => .ok .nil, regexMatch := fun _ _ => none, pow := fun a _ => a }
  let n : Node := .binary ⟨⟨1, 2⟩, .bool⟩ "in" (.ident ⟨⟨1, 0⟩, .num .int⟩ "X" false)
    (.binary ⟨⟨1, 6⟩, .invalid⟩ ".." (.int ⟨⟨1, 5⟩, .invalid⟩ 1) (.int ⟨⟨1, 8⟩, .invalid⟩ 3))
  have hn : n.AllLoc (fun l => l.line = 1) := by simp [n, Node.AllLoc]
  let x : Node := .ident ⟨⟨1, 0⟩, .num .int⟩ "X" false
  let n' : Node := .binary ⟨⟨1, 2⟩, .bool⟩ "and" (.binary {} ">=" x (.int ⟨⟨1, 5⟩, .invalid⟩ 1))
    (.binary {} "<=" x (.int ⟨⟨1, 8⟩, .invalid⟩ 3))
  have hopt : optimize Flags.asIs [] w n = .ok n' := rfl
  have := h (fun l => l.line = 1) Flags.asIs [] w n n' hn hopt
  simp [n', Node.AllLoc] at this

/-- The tree `checker.Check` returns (annotated, call arguments retyped, fast-call flags
    set) has, node for node, the locations of the tree it was given — every checker configuration, every tree. -/
theorem check_keeps_locations (P : Loc → Prop) (cfg : CheckCfg) (n n' : Node) (t : OTy) (hn : n.AllLoc P)
    (h : check cfg n = .ok n' t) : n'.AllLoc P := by
  have := CheckerLocs.check_allLoc (P := P) cfg n hn
  rw [h] at this
  exact this

/-- `compiler.PatchOperators` (over the reference walker table, which is the
    table of the source: C10 `walk_table_is_reference`) returns a tree with the locations of the tree given; the call
    that replaces an overloaded occurrence sits at the occurrence's location. -/
theorem patch_operators_keeps_locations (P : Loc → Prop) (ops : OpTable) (tyOf : Node → String) (n n' : Node)
    (hn : n.AllLoc P) (h : patchOperators refSlots ops tyOf n = some n') : n'.AllLoc P := by
  rw [patchOperators_ref] at h
  cases h
  exact explicitCallForm_allLoc ops tyOf n hn

/-- what `P` of every node location of the tree given says of each outcome of `expr.Compile`: a located type error
    satisfies `P`; the optimizer's error, and every node of the tree handed to the compiler, satisfies `P` or is 0:0 -/
def OutLocs (P : Loc → Prop) : Api.CompileOut → Prop
  | .checkError (some l) _ => P l
  | .optimizeError l => P l ∨ l = {}
  | .ok _ checked final => checked.AllLoc P ∧ final.AllLoc (fun l => P l ∨ l = {})
  | _ => True

private theorem middle_locs (P : Loc → Prop) (T : Api.TypedCfg) (hw : T.walkTbl = refSlots) (w : World) (n : Node)
    (hn : n.AllLoc P) : OutLocs P (Api.middle T w n) := by
  unfold Api.middle
  split
  · next l c _ h1 =>
    cases l with
    | none => trivial
    | some l => exact CheckerLocs.check_error_located _ _ _ l c hn h1
  · trivial
  · next n1 t1 h1 =>
    have hn1 := check_keeps_locations P _ _ _ t1 hn h1
    split
    · trivial
    · next n2 h2 =>
      have hn2 := patch_operators_keeps_locations P _ _ _ n2 hn1 (hw ▸ h2)
      split
      · next l c _ h3 =>
        cases l with
        | none => trivial
        | some l => exact CheckerLocs.check_error_located _ _ _ l c hn2 h3
      · trivial
      · next n3 t3 h3 =>
        have hn3 := check_keeps_locations P _ _ _ t3 hn2 h3
        have hn3' : n3.AllLoc (fun l => P l ∨ l = {}) := Node.allLoc_mono (fun _ => Or.inl) n3 hn3
        have hopt : OptProofs.ResTo (Node.AllLoc fun l => P l ∨ l = {}) (fun l => P l ∨ l = {})
            (if T.optimize then optimize T.optFlags T.constFns w n3 else .ok n3) := by
          split
          · exact OptProofs.optimizeWith_allLoc (Or.inr rfl) Guard.all _ _ w n3 hn3'
          · exact hn3'
        dsimp only
        split
        · next l hl => exact hopt.error hl
        · next n4 h4 =>
          split
          · trivial
          · exact ⟨hn3, hopt.ok h4⟩

private theorem compileSource_locs (F : Api.Front) (T : Api.TypedCfg) (w : World) (src : String)
    (htab : F.tables = LexTables.std) (hnl : F.cc.isSpace '\n' = true) (hw : T.walkTbl = refSlots) :
    OutLocs (fun l => ∃ ch, F.cc.isSpace ch = false ∧ PointsAt src.toList l ch) (Api.compileSource F T w src) := by
  unfold Api.compileSource
  split
  · split
    · trivial
    · next ts hl =>
      split
      · trivial
      · next n hp => exact middle_locs _ T hw w n (node_locations_in_source F.cc hnl F.pcfg src ts n (htab ▸ hl) hp)
  · next r _ => cases r <;> trivial

/-- `expr.Compile(src, Env(…), Operator(…), Optimize(…))` + `expr.Run`, every
    stage a model of the code: Config.Check, lexer, parser, checker, PatchOperators, checker, optimizer, compiler, VM.
    Whatever fails at run time is reported at a location that lies inside the source and whose snippet shows the
    first rune of the defining token of a node of the parsed tree — or at 0:0 (a fresh inner node of an optimizer
    rewrite; see `optimize_keeps_locations_goal_witness`).  Hypotheses: the standard lexer tables (those of the source:
    C12 `tables_pinned`), line feed is white space, the walker table is the reference one, no `AsInt64` /
    `AsFloat64` epilogue, operands fit 16 bits (guaranteed by the compiler's guard: C05 `compiled_fits_code`). -/
theorem typed_error_location_in_source (F : Api.Front) (T : Api.TypedCfg) (c : Cfg) (src : String) (cp : Compiled)
    (checked final : Node) (htab : F.tables = LexTables.std) (hnl : F.cc.isSpace '\n' = true)
    (hw : T.walkTbl = refSlots) (hcast : Api.castOf T.check.expect = none)
    (h : Api.compileSource F T c.world src = .ok cp checked final) (hfit : Refine.FitsU16 cp.code)
    (fuel : Nat) (e : ErrClass) (s' : VM)
    (hrun : run c (Refine.progOf cp) fuel = (.error e, s')) (he : e ≠ .fuel) :
    (∃ ch, F.cc.isSpace ch = false ∧ PointsAt src.toList (report (locTable 0 cp.code) s'.pp) ch) ∨
      report (locTable 0 cp.code) s'.pp = {} := by
  have hfin := compileSource_locs F T c.world src htab hnl hw
  rw [h] at hfin
  obtain ⟨_, _, _, _, _, _, _, _, _, _, _, _, _, hcomp⟩ := C01.compileSource_ok_inv h
  rcases runtime_error_location T.compCfg T.compCfgOk final cp hcomp hfit c fuel e s' hrun he _ hfin.2 with hP | ⟨h0, _⟩
  · exact hP
  · exact Or.inr h0

/-- non-vacuity of the chain: C01's example `I in 1..3 and not B` (every parsed node on line 1; `in_range` fires):
    every node of the tree handed to the compiler is on line 1 or at 0:0 — from the stage theorems (`middle_locs`),
    not by evaluation -/
example : (C01.exTyped C01.w0).2.2.AllLoc (fun l => l.line = 1 ∨ l = {}) := by
  have hn : C01.exParsed.AllLoc (fun l => l.line = 1) := by
    simp [C01.exParsed, C01.mkAt, Node.AllLoc]
  have := middle_locs _ C01.exT rfl C01.w0 C01.exParsed hn
  rw [C01.exTyped_ok] at this
  exact this.2

/-- every compile error of the optimizer stage of that pipeline is inside the source or at 0:0.  The hypotheses are the
    stages of `Api.middle` before the optimizer, one by one; of `Api.compileSource` itself the same is the clause
    `.optimizeError` of `OutLocs` in `compileSource_locs`. -/
theorem typed_optimize_error_in_source (F : Api.Front) (T : Api.TypedCfg) (w : World) (src : String) (ts : List Token)
    (n n1 n2 checked : Node) (t1 t3 : OTy) (l : Loc)
    (htab : F.tables = LexTables.std) (hnl : F.cc.isSpace '\n' = true) (hw : T.walkTbl = refSlots)
    (hl : Lex.lex F.cc F.tables src = .ok ts) (hp : Parser.parse F.pcfg ts = .ok n)
    (h1 : check T.check n = .ok n1 t1) (h2 : patchOperators T.walkTbl T.opTable T.tyOf n1 = some n2)
    (h3 : check T.check n2 = .ok checked t3)
    (hopt : optimize T.optFlags T.constFns w checked = .error l) :
    (∃ ch, F.cc.isSpace ch = false ∧ PointsAt src.toList l ch) ∨ l = {} := by
  have := middle_locs _ { T with optimize := true } hw w n (node_locations_in_source F.cc hnl F.pcfg src ts n (htab ▸ hl) hp)
  simp only [Api.middle, h1, h2, h3, hopt, if_true] at this
  exact this

/-- A located error of `checker.Check` is at the location of a node of the tree it was
    given — the node at hand, a visited operand, a call argument, a slice bound, the condition of a conditional, a map
    key (all 22 node kinds, the argument loop, every checker configuration).  The one unlocated checker error is the
    `expected …` error of the result directive (`loc = none`). -/
theorem check_error_located (P : Loc → Prop) (cfg : CheckCfg) (n n' : Node) (l : Loc) (c : CheckErrClass)
    (hn : n.AllLoc P) (h : check cfg n = .error (some l) c n') : P l :=
  CheckerLocs.check_error_located cfg n n' l c hn h

/-- non-vacuity, and the rule at work: `1 + "a"` (tokens at 1:0, 1:2, 1:4) is rejected at 1:2, the `+` -/
example : ∃ c n', check C01.exT.check
    (.binary (C01.mkAt 1 2) "+" (.int (C01.mkAt 1 0) 1) (.str (C01.mkAt 1 4) "a")) = .error (some ⟨1, 2⟩) c n' :=
  ⟨_, _, rfl⟩

/-- In the model of `expr.Compile(src, Env(…), Operator(…))`, a type error the
    compilation stops with — raised by the first check, or by the second check on the tree after `PatchOperators` —
    is located inside the source, at the first rune of the defining token of a node of the parsed tree (no 0:0 escape
    here: nothing before the optimizer creates unlocated nodes). -/
theorem typed_check_error_in_source (F : Api.Front) (T : Api.TypedCfg) (w : World) (src : String) (l : Loc)
    (c : CheckErrClass) (htab : F.tables = LexTables.std) (hnl : F.cc.isSpace '\n' = true) (hw : T.walkTbl = refSlots)
    (h : Api.compileSource F T w src = .checkError (some l) c) :
    ∃ ch, F.cc.isSpace ch = false ∧ PointsAt src.toList l ch := by
  have := compileSource_locs F T w src htab hnl hw
  rwa [h] at this

end ExprModel.C13
