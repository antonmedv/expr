import ExprModel.Proofs.SpecRetype
import ExprModel.Props.C18
/-
C15 — Type information only rejects; it never changes meaning.

What typed compilation changes in the emitted program (compiler/compiler.go) is exactly:
 (1) `OpFetchMap` instead of `OpFetch` for `map[string]interface{}` environments,
 (2) the specialised `OpEqualInt` / `OpEqualString` for `==` on operands statically `int` / `string`,
 (3) integer literals pushed at the kind the checker retyped them to (call arguments only),
 (4) the result cast.  (1), (2) and the environment-shape part are settled for all values; then a whole tree is
compared with its erasure `Node.eraseKd` (every annotation erased: what the untyped pipeline compiles), in the
reference evaluator and (`typed_untyped_vm`) as runs of the two compiled programs, through C01's refinement theorem.
-/
namespace ExprModel.C15
open ExprModel

/-- (2) whenever the specialised integer equality succeeds it returns what the generic `equal` returns -/
theorem equalInt_agrees (a b : Val) (x y : Int) (ha : a = .int .int x) (hb : b = .int .int y) :
    equalV a b = (x == y) :=
  ha ▸ hb ▸ Spec.equalV_int_int x y

theorem equalString_agrees (x y : String) : equalV (.str x) (.str y) = (x == y) :=
  Spec.equalV_str_str x y

/-- (1) on a map environment `OpFetchMap` (plain map index) and `OpFetch` (runtime.fetch) agree,
    nil-safe or not: a missing key yields nil in both -/
theorem fetchMap_agrees (kvs : List (String × Val)) (name : String) (nilsafe : Bool) :
    fetchV (.map kvs) (.str name) nilsafe = .ok ((lookupKv name kvs).getD .nil) := by
  simp [fetchV]

/-- environment shape: a struct value, a pointer to it and a map with the same members resolve every
    *present* non-method member to the same value -/
theorem env_shape_irrelevant (name : String) (isPtr : Bool) (tyName : String) (fs : List (String × Val)) (v : Val)
    (hpresent : lookupKv name fs = some v) (hfield : isMethodVal v = false) (nilsafe : Bool) :
    fetchV (.struct tyName isPtr fs) (.str name) nilsafe = fetchV (.map fs) (.str name) nilsafe := by
  simp [fetchV, hpresent, hfield]

/-- struct by value and by pointer are indistinguishable to `fetch` for every name -/
theorem struct_ptr_irrelevant (name : Val) (tyName : String) (fs : List (String × Val)) (nilsafe : Bool) :
    fetchV (.struct tyName true fs) name nilsafe = fetchV (.struct tyName false fs) name nilsafe := by
  cases name <;> simp [fetchV]

/-- calling a member function does not depend on the shape of the environment either -/
theorem call_shape_irrelevant (w : World) (name tyName : String) (isPtr : Bool) (fs : List (String × Val)) (args : List Val) :
    callMember w (.struct tyName isPtr fs) name args = callMember w (.map fs) name args := by
  simp [callMember]

/-- (3): literal retyping changes only the kind at which an integer literal is pushed -/
theorem intConst_untyped (v : Int) : intConst .invalid v = .int .int v := rfl

theorem intConst_same_number (k : Kind) (hk : k.isFloat = false) (v : Int) (hr : inRange k v) :
    ∃ n, intConst (.num k) v = .int k n ∧ n = v :=
  ⟨wrap k v, (by cases k <;> first | rfl | cases hk), Spec.wrap_of_inRange k v hr⟩

/-- (1) on the compiler's side: an identifier compiles to one fetch instruction whose opcode depends only on `mapEnv`
    (typed map environment) and the nil-safe flag, never on the annotation.  Only this; (2) and (3) of the list above
    are `equalInt_agrees`/`equalString_agrees` and `intConst_*`. -/
theorem typed_differs_only_at (cfg : CompCfg) (m : Meta) (name : String) (ns : Bool) (p p' : Pool) (k : Nat)
    (h : mkConst (.str name) p = .ok (k, p')) :
    compileNode cfg (.ident m name ns) p =
      .ok ([li m.loc (if cfg.mapEnv then Op.fetchMap else if ns then .fetchNilSafe else .fetch) k], p') := by
  rw [Refine.compileNode_ident, h]
  rfl

/-- the hypothesis is met on the empty pool: the name becomes constant 0 -/
example : compileNode {} (.ident {} "x" false) {} = .ok ([li ({} : Meta).loc Op.fetch 0], ⟨#[.str "x"], []⟩) :=
  typed_differs_only_at {} {} "x" false {} _ 0 rfl

/-! ### The one place where the code lets type information change a successful result

`checker.setTypeForIntegers` retypes every integer literal underneath `+ - * /` in a call argument to the
parameter type — also when the other operand is not a literal.  With a `float64` parameter, `1 / I`
becomes a float division.  Both variants succeed; the values differ (reproduced on the real code:
`Half(0.5 * (1 / I))`, I = 10: 0 untyped, 0.025 typed).  Recorded as a known finding. -/

def wEnv : Val := .map [("I", .int .int 10)]
def wWorld : World := { call := fun _ _ => .error .type_, regexMatch := fun _ _ => none, pow := fun x _ => x }
def wCfg : Spec.SCfg := { world := wWorld, env := wEnv, budget := 1000 }
/-- `1 / I` as the checker annotates it inside an argument of a `func(float64)` -/
def wTyped : Node := .binary {} "/" (.int { kd := .num .float64 } 1) (.ident { kd := .num .int } "I" false)
def wErased : Node := .binary {} "/" (.int {} 1) (.ident {} "I" false)

theorem retype_changes_meaning_witness :
    (∃ x, (Spec.eval wCfg [] wTyped {}).1 = .ok (.f64 x)) ∧ (Spec.eval wCfg [] wErased {}).1 = .ok (.int .int 0) :=
  ⟨⟨_, rfl⟩, rfl⟩


open ExprModel.Spec

/-- For a tree without literal retyping (`PlainInts`), whatever the other annotations are: if the typed tree
    evaluates successfully, the erased tree evaluates to the same value in the same final state (call log,
    allocation counters).  The only places `eval` reads an annotation are `intConst` and the `==` specialisation,
    whose success implies the generic `equal` gives the same boolean. -/
theorem typed_implies_erased_partial (c : SCfg) (ctx : Ctx) (n : Node) (hn : PlainInts n) (σ σ' : SState) (v : Val)
    (h : eval c ctx n σ = (.ok v, σ')) : eval c ctx n.eraseKd σ = (.ok v, σ') :=
  eval_le_erase c n hn ctx σ v σ' h

/-- `PlainInts` holds e.g. when every integer literal is annotated `.invalid` or `int` (value in range) -/
example : PlainInts (.binary {} "+" (.int {} 1) (.int { kd := .num .int } 2)) :=
  ⟨rfl, rfl⟩

/-- `x == 1` with `x` statically `int` but dynamically an `int64` (a value behind a named type, C03) -/
def eqTyped : Node := .binary {} "==" (.const { kd := .num .int } (.int .int64 1)) (.int { kd := .num .int } 1)

/-- The converse is false: the erased tree can succeed where the typed one fails — the specialised
    `OpEqualInt` is a type assertion; the generic `equal` compares across kinds. -/
theorem erased_not_implies_typed_witness :
    PlainInts eqTyped ∧ (eval wCfg [] eqTyped.eraseKd {}).1 = .ok (.bool true) ∧
    (eval wCfg [] eqTyped {}).1 = .error .type_ := by
  refine ⟨⟨trivial, rfl⟩, rfl, rfl⟩

/-- when both the typed tree and its erasure evaluate successfully the results are equal (and so are
    call log and counters) -/
theorem typed_untyped_agree_partial (c : SCfg) (ctx : Ctx) (n : Node) (hn : PlainInts n) (σ σ₁ σ₂ : SState) (v w : Val)
    (h1 : eval c ctx n σ = (.ok v, σ₁)) (h2 : eval c ctx n.eraseKd σ = (.ok w, σ₂)) : v = w ∧ σ₁ = σ₂ :=
  (eval_le_erase c n hn ctx).agree σ v w σ₁ σ₂ h1 h2

/-- The full statement: erasing annotations can turn a success into a failure, or a failure into a success, but
    two successes are the same value — for every tree, under Go's fixed parameter types for the environment
    functions (`FixedParams`: a call that succeeds on `args` is refused on arguments that differ in the kind of a
    number). -/
def retype_only_fails_goal : Prop :=
  ∀ (c : SCfg), FixedParams c.world → ∀ (ctx : Ctx) (n : Node) (σ σ₁ σ₂ : SState) (v w : Val),
    eval c ctx n σ = (.ok v, σ₁) → eval c ctx n.eraseKd σ = (.ok w, σ₂) → v = w

/-- (3) proved for trees in which retyped literals occur only as direct call arguments (`Half(1)`; every
    other integer literal plain: `RetypeOK`): the two successes agree on the value, the call log and the
    counters.  If the retyped argument differs in kind from the plain one, the callee accepts at most one of
    them, so at most one of the two evaluations succeeds. -/
theorem retype_only_fails_partial (c : SCfg) (hw : FixedParams c.world) (ctx : Ctx) (n : Node) (hn : RetypeOK n)
    (σ σ₁ σ₂ : SState) (v w : Val)
    (h1 : eval c ctx n σ = (.ok v, σ₁)) (h2 : eval c ctx n.eraseKd σ = (.ok w, σ₂)) : v = w ∧ σ₁ = σ₂ :=
  eval_agree_erase c hw n hn ctx σ v w σ₁ σ₂ h1 h2

/-- a world with one function `Half : func(float64) float64` -/
def halfWorld : World :=
  { call := fun id args => match id, args with
      | "Half", [.f64 x] => .ok (.f64 x)
      | _, _ => .error .type_
    regexMatch := fun _ _ => none, pow := fun x _ => x }

theorem halfWorld_fixed : FixedParams halfWorld := by
  intro id args args' r h hrel hne
  simp only [halfWorld] at h ⊢
  split at h
  · rename_i x
    match args', hrel with
    | [b], ⟨hb, _⟩ =>
      rcases hb with hb | ⟨k, k', hk, hk', hkk⟩
      · exact absurd (by rw [hb]) hne
      · cases b <;> simp_all [kindOfVal]
  · cases h

/-- `Half(1)` as the checker annotates it: the literal retyped to `float64` -/
def halfTyped : Node := .func {} "Half" [.int { kd := .num .float64 } 1] false
def halfCfg : SCfg := { world := halfWorld, env := .map [("Half", .fn "Half")], budget := 1000 }

/-- the hypotheses of `retype_only_fails_partial` are satisfiable, and literal retyping is exactly the case
    where the *typed* program succeeds and the untyped one is rejected at run time -/
example : RetypeOK halfTyped ∧ FixedParams halfCfg.world ∧
    (∃ x, (eval halfCfg [] halfTyped {}).1 = .ok (.f64 x)) ∧
    (eval halfCfg [] halfTyped.eraseKd {}).1 = .error .type_ :=
  ⟨⟨.inr ⟨_, _, rfl, rfl, by decide⟩, trivial⟩, halfWorld_fixed, ⟨_, rfl⟩, rfl⟩

theorem wWorld_fixed : FixedParams wWorld := by
  intro id args args' r h
  cases h

/-- The unrestricted statement is false: `retype_changes_meaning_witness` (the checker retypes literals
    underneath arithmetic inside a call argument — the known finding) is a counterexample. -/
theorem retype_only_fails_goal_false : ¬ retype_only_fails_goal := by
  intro hgoal
  obtain ⟨⟨x, hx⟩, hy⟩ := retype_changes_meaning_witness
  have he : wTyped.eraseKd = wErased := rfl
  have := hgoal wCfg wWorld_fixed [] wTyped {} (eval wCfg [] wTyped {}).2 (eval wCfg [] wErased {}).2 (.f64 x) (.int .int 0)
    (Prod.ext hx rfl) (by rw [he]; exact Prod.ext hy rfl)
  cases this

open ExprModel.Refine (specOf)

def castOut : Option Nat → Val → R Val
  | none, v => .ok v
  | some t, v => castV t v

theorem specRun_ok {sc : SCfg} {cast : Option Nat} {n : Node} {v' : Val} {s : SState}
    (h : Spec.run sc cast n = (.ok v', s)) :
    ∃ v, eval sc [] n {} = (.ok v, s) ∧ castOut cast v = .ok v' := by
  obtain ⟨v, he, hc⟩ := Spec.run_eq_ok h
  exact ⟨v, he, by cases cast <;> exact hc⟩

/-- The typed program (any `mapEnv`, annotations as the checker left them) and the untyped program (the
    erased tree), both compiled and run on the byte-level VM: whenever both runs succeed they return the
    same value — under C01's side conditions for both, the same result cast, `RetypeOK` and fixed
    parameter types. -/
theorem typed_untyped_vm (c : Cfg) (hw : FixedParams c.world) (cfgT cfgU : CompCfg) (hcast : cfgT.cast = cfgU.cast)
    (n : Node) (hn : RetypeOK n) (cpT cpU : Compiled)
    (hT : C18.Conf c cfgT n cpT) (hU : C18.Conf c cfgU n.eraseKd cpU) :
    ∃ N, ∀ fuel, N ≤ fuel → ∀ v w, (C18.vmOut c cpT fuel).1 = .ok v → (C18.vmOut c cpU fuel).1 = .ok w → v = w :=
  C18.transfer hT hU (fun a b => ∀ v w, a.1 = .ok v → b.1 = .ok w → v = w) (by
    intro v w h1 h2
    obtain ⟨v0, e1, c1⟩ := specRun_ok (Prod.ext h1 rfl : Spec.run (specOf c) cfgT.cast n = (.ok v, _))
    obtain ⟨w0, e2, c2⟩ := specRun_ok (Prod.ext h2 rfl : Spec.run (specOf c) cfgU.cast n.eraseKd = (.ok w, _))
    obtain ⟨e, _⟩ := eval_agree_erase (specOf c) hw n hn [] {} v0 w0 _ _ e1 e2
    subst e
    rw [hcast, c2] at c1
    exact (Except.ok.inj c1).symm)

/-- `I == 1` as the checker annotates it over a map environment (`OpFetchMap`, `OpEqualInt`) … -/
def vmTyped : Node := .binary { kd := .bool } "==" (.ident { kd := .num .int } "I" false) (.int { kd := .num .int } 1)
def vmCfgT : CompCfg := { mapEnv := true }
def vmCpT : Compiled := match compileProgram vmCfgT vmTyped with | .ok cp => cp | .error _ => default
/-- … and as `expr.Eval` compiles it (`OpFetch`, `OpEqual`) -/
def vmCpU : Compiled := match compileProgram {} vmTyped.eraseKd with | .ok cp => cp | .error _ => default

set_option maxRecDepth 8000 in
/-- non-vacuity of `typed_untyped_vm`: the two programs differ (specialised opcodes) and satisfy all side
    conditions, in every world with fixed parameter types, every map environment and every budget -/
example (c : Cfg) (hw : FixedParams c.world) (henv : ∃ kvs, c.env = .map kvs) :
    vmCpT.code.map (·.instr) ≠ vmCpU.code.map (·.instr) ∧
    ∃ N, ∀ fuel, N ≤ fuel → ∀ v w, (C18.vmOut c vmCpT fuel).1 = .ok v → (C18.vmOut c vmCpU fuel).1 = .ok w → v = w :=
  ⟨by decide,
   typed_untyped_vm c hw vmCfgT {} rfl vmTyped ⟨trivial, rfl⟩ vmCpT vmCpU
    ⟨by unfold vmCpT; rfl, by decide, by decide, (fun _ => henv), ⟨trivial, trivial⟩⟩
    ⟨by unfold vmCpU; rfl, by decide, by decide, (fun h => by cases h), ⟨trivial, trivial⟩⟩⟩

end ExprModel.C15
