import ExprModel.Gen.Opcodes
import ExprModel.Proofs.BcSound
import ExprModel.Proofs.BcBalance
import ExprModel.Proofs.BcSpecClass
import ExprModel.Props.C01
/-
C05 — Emitted bytecode is well-formed and stack-balanced.

Tie (facts regenerated from /repo on every run, `Gen/Opcodes.lean`): the opcode numbering, the operand
arity as read by (*VM).Run, as classified by Disassemble and as passed at every `c.emit` call site all
agree with the model's `Op.hasArg` / `Op.argClass`; the bodies of (*VM).arg / (*VM).constant / encode / placeholder,
of patchJump / calcBackwardJump (with or without the offset guard) and the size guard of makeConstant are the ones
modelled.  Static half: every emitted program passes the checker `wfStatic`, and what an accepted program satisfies.
Run-time half: stack balance of the straight-line sub-language on `step` directly, of every construct through C01.
-/
namespace ExprModel.C05
open ExprModel ExprModel.Bc

/-- the opcode numbering of vm/opcodes.go is the model's -/
theorem opcode_numbering : Gen.opcodeNames = Op.all.map Op.goName := rfl

def disasmName : Op.ArgClass → String
  | .none => "code" | .constant => "constant" | .jumpFwd => "jump" | .jumpBack => "back" | .castKind => "argument"

def emitKindOk : Op.ArgClass → String → Bool
  | .none, k => k == "none"
  | .constant, k => k == "constant"
  | .jumpFwd, k => k == "placeholder"
  | .jumpBack, k => k == "backjump"
  | .castKind, k => k == "encode:0" || k == "encode:1"

/-- (*VM).Run reads exactly one 16-bit operand for the opcodes with `hasArg` and none otherwise, and uses it as a
    constant index exactly for the `constant` class; Disassemble classifies every opcode as the model does, and its five
    printing closures read as many operands, and print a jump target in the direction, of their class; every `c.emit`
    call site passes operand bytes of the kind the opcode expects; every opcode is emitted somewhere; every placeholder
    is patched; the `default:` of the dispatch switch is a single panic (the model's `badop`), and `Compile` recovers
    the compiler's panics into an error (the model's `CR`) -/
theorem operand_arity_consistent :
    Gen.vmReads.map (·.1) = Op.all.map Op.goName ∧
    (List.zip Gen.vmReads Op.all).all (fun (r, o) =>
      r.2.1 + r.2.2.1 + r.2.2.2 == (if o.hasArg then 1 else 0) &&
      ((r.2.2.1 + r.2.2.2 == 1) == (o.argClass == .constant))) = true ∧
    Gen.disasmClass = Op.all.map (fun o => (o.goName, disasmName o.argClass)) ∧
    Gen.disasmClosures = [("code", 0, "none"), ("jump", 1, "fwd"), ("back", 1, "back"), ("argument", 1, "none"),
                          ("constant", 1, "none")] ∧
    Gen.emitSites.all (fun s => Op.all.any (fun o => o.goName == s.1 && emitKindOk o.argClass s.2.1)) = true ∧
    Op.all.all (fun o => Gen.emitSites.any (fun s => s.1 == o.goName)) = true ∧
    Gen.placeholderPatched.all (fun s => s.2.2) = true ∧
    Gen.vmDefaultPanics = true ∧ Gen.compileRecoversPanics = true := by
  decide +kernel

/-- operands are two bytes, little endian, on both sides; placeholders are two bytes; at most 65535 constants -/
theorem operand_encoding_as_modelled :
    Gen.vmArgBody = "{ b0, b1 := vm.bytecode[vm.ip], vm.bytecode[vm.ip+1] vm.ip += 2 return uint16(b0) | uint16(b1)<<8 }" ∧
    Gen.vmConstantBody = "{ return vm.constants[vm.arg()] }" ∧
    Gen.encodeBody = "{ b := make([]byte, 2) binary.LittleEndian.PutUint16(b, i) return b }" ∧
    Gen.placeholderBody = "{ return []byte{0xFF, 0xFF} }" ∧
    Gen.makeConstantGuard = "len(c.constants) > math.MaxUint16" :=
  ⟨rfl, rfl, rfl, rfl, rfl⟩

/-- patchJump / calcBackwardJump compute the offsets the model computes; either both carry the guard
    `offset > math.MaxUint16 → panic` (then `Gen.jumpGuard`, which the driver feeds to the compile model, is true)
    or neither does (the code before commit ba2f082: silent truncation by `uint16(offset)`) -/
theorem jump_patching_as_modelled :
    (Gen.jumpGuard = false ∧
      Gen.patchJumpBody = "{ offset := len(c.bytecode) - 2 - placeholder b := encode(uint16(offset)) c.bytecode[placeholder] = b[0] c.bytecode[placeholder+1] = b[1] }" ∧
      Gen.calcBackwardJumpBody = "{ return encode(uint16(len(c.bytecode) + 1 + 2 - to)) }") ∨
    (Gen.jumpGuard = true ∧
      Gen.patchJumpBody = "{ offset := len(c.bytecode) - 2 - placeholder if offset > math.MaxUint16 { panic(_) } b := encode(uint16(offset)) c.bytecode[placeholder] = b[0] c.bytecode[placeholder+1] = b[1] }" ∧
      Gen.calcBackwardJumpBody = "{ offset := len(c.bytecode) + 1 + 2 - to if offset > math.MaxUint16 { panic(_) } return encode(uint16(offset)) }") := by
  -- whichever of the two the regenerated facts are, they are it literally
  first
    | exact .inr ⟨rfl, rfl, rfl⟩
    | exact .inl ⟨rfl, rfl, rfl⟩

/-- the source has the guard (the code after commit ba2f082): this discharges the `jumpGuard = true` hypotheses of
    `compile_wfStatic_guarded` and of C01's `…_guarded` theorems; removing the guard from the code breaks this theorem -/
theorem offset_guard_present : Gen.jumpGuard = true := by decide

/-- `hcan`: the encoding drops the `arg` of an operand-less instruction, decoding gives it 0 -/
theorem decode_encode (is : List Instr) (hfit : ∀ i ∈ is, i.arg < 65536)
    (hcan : ∀ i ∈ is, i.op.hasArg = false → i.arg = 0) :
    decodeAll (encodeAll is).length (encodeAll is) = some is :=
  Bc.decode_encode is hfit hcan

theorem codeSize_eq_length (is : List Instr) : (encodeAll is).length = codeSize is :=
  Bc.codeSize_eq_length is

example : decodeAll 7 (encodeAll [⟨.push, 513⟩, ⟨.jumpIfFalse, 65535⟩, ⟨.pop, 0⟩]) =
    some [⟨.push, 513⟩, ⟨.jumpIfFalse, 65535⟩, ⟨.pop, 0⟩] := by decide

theorem mkConst_index_lt {v : Val} {p p' : Pool} {k : Nat} (hp : PoolOk p) (h : mkConst v p = .ok (k, p')) :
    k < p'.consts.size ∧ p'.consts.size ≤ 65535 := Bc.mkConst_index_lt hp h

theorem mkConst_preserves {v : Val} {p p' : Pool} {k : Nat} (hp : PoolOk p) (h : mkConst v p = .ok (k, p')) :
    ∀ (j : Nat) (w : Val), p.consts[j]? = some w → p'.consts[j]? = some w := Bc.mkConst_preserves h

/-- Instruction level: for every tree and configuration the compiled instruction list has operands in range and of
    the expected kind, every jump on a boundary of the program or at its end, Begin/End nested.  No size hypothesis:
    before encoding, the jump operands are the exact distances. -/
theorem compile_wfInstrs (cfg : CompCfg) (hcfg : CompCfgOk cfg) (n : Node) (c : Compiled)
    (h : compileProgram cfg n = .ok c) : wfInstrs c.consts (instrs c.code) = true :=
  (compileProgram_frag cfg hcfg n c h).1.wfInstrs

/-- Byte level: a compiled program whose jump operands fit the encoding's 16 bits passes the static checker. -/
theorem compile_wfStatic (cfg : CompCfg) (hcfg : CompCfgOk cfg) (n : Node) (c : Compiled)
    (h : compileProgram cfg n = .ok c) (hfit : JumpsFit c) : wfStatic c.bytes c.consts = true := by
  obtain ⟨hf, hsz, _⟩ := compileProgram_frag cfg hcfg n c h
  exact wfStatic_of_frag hf hsz hfit

/-- With the offset guard in patchJump / calcBackwardJump (the code after commit ba2f082) no size hypothesis is left:
    every program `Compile` returns is well-formed; oversized ones are rejected. -/
theorem compile_wfStatic_guarded (cfg : CompCfg) (hcfg : CompCfgOk cfg) (hg : cfg.jumpGuard = true) (n : Node)
    (c : Compiled) (h : compileProgram cfg n = .ok c) : wfStatic c.bytes c.consts = true :=
  compile_wfStatic cfg hcfg n c h ((compileProgram_frag cfg hcfg n c h).2.2 hg)

/-- non-vacuity: `true ? (true and false) : nil` compiles, its jumps fit, and it is accepted -/
example :
    (match compileProgram {} (.cond {} (.bool {} true) (.binary {} "and" (.bool {} true) (.bool {} false)) (.nil {})) with
     | .ok c => decide (∀ i ∈ c.code, i.instr.op.isJump = true → i.instr.arg < 65536) && wfStatic c.bytes c.consts
     | .error _ => false) = true := by decide

/-- What an accepted program satisfies, without the checker.  A jump target that is the total size of a prefix `p`
    is an instruction boundary inside the program, or its end. -/
theorem wfStatic_sound (bytes : List Nat) (consts : Array Val) (h : wfStatic bytes consts = true) :
    ∃ is : List Instr, encodeAll is = bytes ∧ (∀ i ∈ is, argOk consts i = true) ∧
      (∀ pre i post, is = pre ++ i :: post →
        (i.op.argClass = .jumpFwd → ∃ p q, is = p ++ q ∧ codeSize p = codeSize pre + i.size + i.arg) ∧
        (i.op.argClass = .jumpBack → i.arg ≤ codeSize pre + i.size ∧
            ∃ p q, is = p ++ q ∧ codeSize p = codeSize pre + i.size - i.arg)) ∧
      nestOk 0 is = some 0 := Bc.wfStatic_sound bytes consts h

/-- the checker does reject: an unknown opcode, a truncated operand, a jump into the middle of an instruction,
    a constant of the wrong class, an unmatched OpEnd -/
example : wfStatic [99] #[] = false ∧ wfStatic [0, 0] #[.nil] = false ∧
    wfStatic [14, 1, 0, 0, 0, 0] #[.nil] = false ∧ wfStatic [3, 0, 0] #[.int .int 1] = false ∧
    wfStatic [51] #[] = false ∧ wfStatic [14, 3, 0, 0, 0, 0] #[.nil] = true := by decide

/-- the three statements about a stored jump operand are readings of `Bc.decodeAt_encode`: the operand that is
    decoded again is the emitted one modulo 65536 -/
theorem patchJump_exact (pre body post : List Instr) (j : Instr) (hj : j.op.argClass = .jumpFwd)
    (hk : j.arg = codeSize body) (hfit : codeSize body < 65536) :
    ∃ j', decodeAt (encodeAll (pre ++ j :: (body ++ post))) (codeSize pre) = some j' ∧ j'.op = j.op ∧
      codeSize pre + j'.size + j'.arg = codeSize (pre ++ j :: body) :=
  Bc.patchJump_exact pre body post j hj hk hfit

theorem calcBackwardJump_exact (pre loop post : List Instr) (j : Instr) (hj : j.op.argClass = .jumpBack)
    (hk : j.arg = codeSize loop + 3) (hfit : codeSize loop + 3 < 65536) :
    ∃ j', decodeAt (encodeAll (pre ++ loop ++ j :: post)) (codeSize (pre ++ loop)) = some j' ∧ j'.op = j.op ∧
      codeSize (pre ++ loop) + j'.size - j'.arg = codeSize pre :=
  Bc.calcBackwardJump_exact pre loop post j hj hk hfit

/-- a body of 64 KiB or more: the stored operand is `|body| % 65536`; the jump falls short of its target -/
theorem patchJump_truncates (pre body post : List Instr) (j : Instr) (hj : j.op.argClass = .jumpFwd)
    (hk : j.arg = codeSize body) (hbig : 65536 ≤ codeSize body) :
    ∃ j', decodeAt (encodeAll (pre ++ j :: (body ++ post))) (codeSize pre) = some j' ∧
      j'.arg = codeSize body % 65536 ∧ codeSize pre + j'.size + j'.arg < codeSize (pre ++ j :: body) :=
  Bc.patchJump_truncates pre body post j hj hk hbig

/-- What the unguarded patchJump does (finding `c05:jump-offset-truncated`): `JumpIfFalse 65540` over a 65540-byte
    body, once encoded, reads back as `JumpIfFalse 4` — the target is byte 7 instead of the boundary 65543. -/
theorem jump_truncation_witness :
    let body := List.replicate 65540 (⟨.pop, 0⟩ : Instr)
    let j : Instr := ⟨.jumpIfFalse, codeSize body⟩
    codeSize body = 65540 ∧
    decodeAt (encodeAll (j :: (body ++ [⟨.true_, 0⟩]))) 0 = some ⟨.jumpIfFalse, 4⟩ ∧
    0 + 3 + 4 ≠ codeSize (j :: body) := by
  intro body j
  have hb : codeSize body = 65540 := codeSize_replicate_pop 65540
  exact ⟨hb, jumpIfFalse_65540 body _ hb⟩

/-- Stack balance, fragment level, for `StraightLine` trees (literals, unary operators, the arithmetic and ordering
    operators): wherever the fragment is placed and however it is entered, the byte-level VM either fails with a
    run-time error that is none of `underflow`, `badop`, `fuel`, or reaches exactly the end of the fragment with one
    more value and the scopes unchanged.  Against `compile_balanced` / `compile_run_balanced`: none of C01's
    hypotheses, a failing fragment is covered, `badop` is excluded too; the price is the sub-language. -/
theorem compile_balanced_partial (cfg : CompCfg) {n : Node} (hsl : StraightLine n) (p0 : Pool) (code : List LInstr) (p1 : Pool)
    (hp : PoolOk p0) (h : compileNode cfg n p0 = .ok (code, p1)) (consts : Array Val) (he : PoolExt p1.consts consts)
    (pre post : List Instr) (vc : Cfg) (s : VM) (hip : s.ip = codeSize pre) :
    StackBal s.stack s.scopes (codeSize pre + lsize code)
      (stepN vc (progOfCode (pre ++ instrs code ++ post) consts) (instrs code).length s) :=
  balanced_sl cfg hsl p0 code p1 hp h consts he pre post vc s hip

/-- Whole runs of `StraightLine` programs: a successful run ends with exactly the result (the stack is empty after `Run`
    popped it) and no scope open; a failing run fails with none of `underflow`, `badop`, `fuel`.  `cast = none`: the
    epilogue `OpCast` of a result directive is not code of a `StraightLine` tree, and the balance proof has no step
    lemma for it. -/
theorem compile_run_balanced_partial (cfg : CompCfg) (hcast : cfg.cast = none) {n : Node} (hsl : StraightLine n) (c : Compiled)
    (h : compileProgram cfg n = .ok c) (vc : Cfg) (fuel : Nat) (hf : c.code.length < fuel) :
    match (run vc (progOfCode (instrs c.code) c.consts) fuel).1 with
    | .ok _ => (run vc (progOfCode (instrs c.code) c.consts) fuel).2.stack = [] ∧
               (run vc (progOfCode (instrs c.code) c.consts) fuel).2.scopes = []
    | .error e => e ≠ .underflow ∧ e ≠ .badop ∧ e ≠ .fuel := by
  obtain ⟨code, p, h1, _, rfl⟩ := Refine.compileProgram_ok h
  simp only [hcast, Refine.castCode, List.append_nil] at hf ⊢
  exact run_of_balanced (balanced_sl cfg hsl _ _ _ PoolOk.empty h1 _ (PoolExt.refl _)) vc fuel (by simpa [instrs] using hf)

/-- non-vacuity: `1 + -2 < 3` is in the sub-language -/
example : StraightLine (.binary {} "<" (.binary {} "+" (.int {} 1) (.unary {} "-" (.int {} 2))) (.int {} 3)) :=
  .binary _ _ _ _ .less .less rfl rfl (.binary _ _ _ _ .add .add rfl rfl (.int _ _) (.unary _ _ _ (.int _ _))) (.int _ _)

/-- Fragment level, every construct (loops, conditionals, calls included): C01's `compile_balanced_partial`.
    Wherever the fragment compiled from `n` is placed and with whatever stack it is entered (scopes matching the closure
    context), a successful evaluation ends exactly at the end of the fragment with one more value on the stack it found
    and the scope stack it found.  The hypotheses are C01's. -/
theorem compile_balanced (n : Node) (cfg : CompCfg) (pool pool' : Pool) (code : List LInstr) (F : Val → Prop)
    (hc : compileNode cfg n pool = .ok (code, pool')) (hF : Refine.AliasFree F) (hinv : Refine.PoolInv F pool)
    (hfl : Refine.FloatsIn F n) (P : Prog) (pre post : List LInstr)
    (hP : P.code = (encodeAll ((pre ++ code ++ post).map (·.instr))).toArray) (hK : Refine.PoolExt pool' P.consts)
    (hfit : Refine.FitsU16 code) (c : Cfg) (henv : Refine.EnvOK c cfg) (hg : Refine.Good (Refine.SmallColl c) n)
    (ctx : Spec.Ctx) (s : VM) (hip : s.ip = lsize pre) (hlim : s.limit = c.budget) (hsc : Refine.ScopesOK ctx s.scopes)
    (v : Val) (σ' : Spec.SState) (hev : Spec.eval (Refine.specOf c) ctx n (Refine.obs s) = (.ok v, σ')) :
    ∃ t, Refine.Steps c P s t ∧ t.ip = lsize pre + lsize code ∧ t.stack.length = s.stack.length + 1 ∧
      t.stack.tail = s.stack ∧ t.scopes = s.scopes :=
  C01.compile_balanced_partial n cfg pool pool' code F hc hF hinv hfl P pre post hP hK hfit c henv hg ctx s hip hlim hsc
    v σ' hev

/-- Whole runs, every construct.  For enough fuel, a run of a compiled program on the byte-level VM either
    succeeds — and then ends with exactly the result (the stack is empty once `Run` has popped it) and no loop scope
    open — or fails with an ordinary error class (`Bc.Ordinary`): never by popping an empty stack / closing a missing
    scope (`underflow`).  By C01's refinement and `spec_run_ordinary`: the language definition never produces `underflow`,
    provided the environment's functions do not report it (`WorldOrd`). -/
theorem compile_run_balanced (cfg : CompCfg) (n : Node) (cp : Compiled) (F : Val → Prop) (c : Cfg)
    (hc : compileProgram cfg n = .ok cp) (hF : Refine.AliasFree F) (hfl : Refine.FloatsIn F n)
    (hfit : Refine.FitsU16 cp.code) (henv : Refine.EnvOK c cfg) (hg : Refine.Good (Refine.SmallColl c) n)
    (hw : WorldOrd c.world) :
    ∃ N, ∀ fuel, N ≤ fuel →
      match (run c (Refine.progOf cp) fuel).1 with
      | .ok _ => (run c (Refine.progOf cp) fuel).2.stack = [] ∧ (run c (Refine.progOf cp) fuel).2.scopes = []
      | .error e => e ≠ .underflow ∧ e ≠ .fuel := by
  obtain ⟨N, hN⟩ := C01.run_conforms_partial cfg n cp F c hc hF hfl hfit henv hg
  refine ⟨N, fun fuel hf => ?_⟩
  obtain ⟨h1, _, h3⟩ := hN fuel hf
  cases hr : (run c (Refine.progOf cp) fuel).1 with
  | ok v => exact h3 v hr
  | error e =>
    exact spec_run_ordinary (Refine.specOf c) hw _ cfg.cast n hg e (by rw [← h1, hr])

/-- non-vacuity: C01's example tree `all(1..3, {# > 0 and I == 1})` -/
example (c : Cfg) (hw : WorldOrd c.world) : ∃ N, ∀ fuel, N ≤ fuel →
    match (run c (Refine.progOf C01.exCompiled) fuel).1 with
    | .ok _ => (run c (Refine.progOf C01.exCompiled) fuel).2.stack = [] ∧
               (run c (Refine.progOf C01.exCompiled) fuel).2.scopes = []
    | .error e => e ≠ .underflow ∧ e ≠ .fuel :=
  compile_run_balanced {} C01.exTree C01.exCompiled (fun _ => False) c C01.ex_compiles (fun _ _ h => h.elim)
    C01.ex_floats C01.ex_fits (fun h => by cases h) (C01.ex_good c) hw

/-- left open: whole runs of every tree, with none of C01's side conditions (float constants that are `==` but
    distinct, loop collections of 2^63 elements or more, ill-formed trees, environment functions reporting `underflow`).
    In the terms of `compile_run_balanced_partial` (`badop` excluded; every `fuel`, so `fuel` is not excluded), not of
    `compile_run_balanced` (enough fuel, `fuel` excluded); the program is the same, `progOfCode (instrs c.code) c.consts`
    being `Refine.progOf c` unfolded. -/
def compile_balanced_goal : Prop :=
  ∀ (cfg : CompCfg) (n : Node) (c : Compiled), CompCfgOk cfg → compileProgram cfg n = .ok c → JumpsFit c →
    ∀ (vc : Cfg) (fuel : Nat),
      match (run vc (progOfCode (instrs c.code) c.consts) fuel).1 with
      | .ok _ => (run vc (progOfCode (instrs c.code) c.consts) fuel).2.stack = [] ∧
                 (run vc (progOfCode (instrs c.code) c.consts) fuel).2.scopes = []
      | .error e => e ≠ .underflow ∧ e ≠ .badop

/-- C01's typed-pipeline theorem for the compiler as the translator reads it: `T.jumpGuard` is the fact
    `Gen.jumpGuard` regenerated from `compiler.go` (do `patchJump` / `calcBackwardJump` reject offsets beyond 16 bits?),
    so the hypothesis `jumpGuard = true` of `C01.compile_source_conforms_guarded` is discharged from the source. -/
theorem compile_source_conforms_code (F : Api.Front) (T : Api.TypedCfg) (hguard : T.jumpGuard = Gen.jumpGuard)
    (c : Cfg) (src : String) (cp : Compiled) (checked final : Node)
    (h : Api.compileSource F T c.world src = .ok cp checked final)
    (hfl : Refine.floatsOK final = true) (henv : Refine.EnvOK c T.compCfg)
    (hg : Refine.Good (Refine.SmallColl c) final) :
    ∃ N, ∀ fuel, N ≤ fuel → ∃ res fin, Api.runSource F T c fuel src = .ran cp res fin ∧
      Refine.RunAgrees (res, fin) (Spec.run (Refine.specOf c) (Api.castOf T.check.expect) final) :=
  C01.compile_source_conforms_guarded F T (hguard.trans offset_guard_present) c src cp checked final h hfl henv hg

/-- `Refine.FitsU16`, which C01's theorems about a compiled program assume, holds of whatever the compiler returns,
    the compiler being the one the translator reads (`hguard`; `offset_guard_present`) -/
theorem compiled_fits_code (cfg : CompCfg) (hcfg : Bc.CompCfgOk cfg) (hguard : cfg.jumpGuard = Gen.jumpGuard)
    (n : Node) (cp : Compiled) (hc : compileProgram cfg n = .ok cp) : Refine.FitsU16 cp.code :=
  Refine.fitsU16_of_guard cfg hcfg (hguard.trans offset_guard_present) n cp hc

end ExprModel.C05
