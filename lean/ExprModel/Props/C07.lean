import ExprModel.VM.SrcDefects
import ExprModel.Proofs.VMHelpers
/-
C07 — A reused VM behaves like a fresh one.

Model: `runOn c p fuel s` = `(*VM).Run` on an existing VM value `s` = `prologue` (what the code
re-initialises) followed by the dispatch loop; `run` = `runOn` on `vm.VM{}`.
Tie (Gen/VMReset.lean, regenerated from vm/vm.go on every run): the fields of `type VM struct`, the fields
assigned on every path of the prologue with the class of value stored, the fields the loop / epilogue /
helper methods read and write.  The model's switch `memoryNotReset` is derived from these facts (`srcDefects`).
The claim is for VM values as the documentation creates them (`vm.VM{}`): the debugger's channel fields
`debug, step, curr` are set only by `vm.Debug()` and never written by `Run`; they are outside `Relevant`.
-/
namespace ExprModel.C07
open ExprModel

/-- the fields of the real `VM` that the dispatch loop reads and that persist from one run to the next -/
def Relevant : List String := ["stack", "scopes", "ip", "pp", "memory", "limit", "bytecode", "constants"]

/-- the debugger's fields: `false` / `nil` in every `vm.VM{}` and never assigned by `Run` -/
def DebuggerOnly : List String := ["debug", "step", "curr"]

theorem fields_classified :
    (∀ f ∈ Gen.VMReset.vmFields, f ∈ Relevant ∨ f ∈ DebuggerOnly) ∧
    (∀ f ∈ Relevant ++ DebuggerOnly, f ∈ Gen.VMReset.vmFields) := by decide +kernel

/-- `loopReads` includes what the helper methods read -/
theorem relevant_is_what_run_reads :
    (∀ f ∈ Gen.VMReset.loopReads ++ Gen.VMReset.epilogueReads, f ∈ Relevant ∨ f ∈ DebuggerOnly) ∧
    (∀ f ∈ Relevant, f ∈ Gen.VMReset.loopReads) := by decide +kernel

/-- `Run` never assigns a debugger field, so a `vm.VM{}` keeps `debug = false` for ever -/
theorem run_writes_only_relevant :
    (∀ f ∈ Gen.VMReset.loopWrites ++ Gen.VMReset.epilogueWrites ++ Gen.VMReset.prologueAssigned, f ∈ Relevant) ∧
    (∀ f ∈ DebuggerOnly, f ∉ Gen.VMReset.loopWrites ++ Gen.VMReset.epilogueWrites ++ Gen.VMReset.prologueAssigned) := by
  decide +kernel

theorem helpers_analysed :
    ∀ m ∈ Gen.VMReset.loopCalls, m ∈ Gen.VMReset.helperReads.map Prod.fst := by decide +kernel

/-- Every field the loop reads is re-initialised by the prologue, on every path.
    This theorem does not check on a tree whose prologue lacks `vm.memory = 0`. -/
theorem relevant_subset_reset : ∀ f ∈ Relevant, f ∈ Gen.VMReset.prologueAssigned := by decide +kernel

/-- what the model's `prologue` stores, field by field, in the vocabulary of the extracted facts -/
def modelStores : List (String × String) :=
  [("limit", "MemoryBudget"), ("memory", "0"), ("ip", "0"), ("pp", "0"), ("stack", "empty"), ("scopes", "empty"),
   ("bytecode", "program.Bytecode"), ("constants", "program.Constants")]

/-- the values the source stores are the values the model's `prologue` stores (`limit := c.budget`,
    counters and positions zero, stack and scopes empty, program parts from the argument) -/
theorem prologue_stores_as_modelled :
    ∀ fv ∈ modelStores, (Gen.VMReset.prologueStores.map fun r => (r.1, r.2.1)).contains fv = true := by decide +kernel

theorem gen_matches_model :
    srcDefects.memoryNotReset = !(Gen.VMReset.prologueAssigned.contains "memory") := rfl

/-- in /repo's source the prologue resets the counter (the code after commit e377ca7) -/
theorem source_resets_memory : srcDefects.memoryNotReset = false := by decide

/-- equality of all eight components of the model state, ghost observables included -/
theorem prologue_forgets (c : Cfg) (h : c.defects.memoryNotReset = false) (s : VM) :
    prologue c s = prologue c {} :=
  prologue_eq_fresh c s (.inl h)

theorem prologue_forgets_iff (c : Cfg) :
    (∀ s, prologue c s = prologue c {}) ↔ c.defects.memoryNotReset = false := by
  constructor
  · intro h
    cases hm : c.defects.memoryNotReset with
    | false => rfl
    | true =>
      have := congrArg VM.memory (h { memory := 1 })
      simp [prologue, hm] at this
  · exact prologue_forgets c

theorem runOn_eq_run (c : Cfg) (h : c.defects.memoryNotReset = false) (p : Prog) (fuel : Nat) (s : VM) :
    runOn c p fuel s = run c p fuel :=
  runOn_fresh c p fuel s (.inl h)

/-- the runs performed so far on one VM value: any configurations (world, environment, budget), any programs -/
abbrev History := List (Cfg × Prog × Nat)

def runHistory : History → VM → VM
  | [], s => s
  | (c, p, fuel) :: h, s => runHistory h (runOn c p fuel s).2

def historyOutcomes : History → VM → List (R Val × VM)
  | [], _ => []
  | (c, p, fuel) :: h, s => runOn c p fuel s :: historyOutcomes h (runOn c p fuel s).2

/-- C07.  After any history `h` on any starting VM value — runs of any programs under any configurations, whether
    they succeeded, failed inside nested loops or exhausted the budget, and even if the earlier runs were made by a
    variant with the defect — a further run returns exactly what a fresh VM returns: result and final state. -/
theorem reuse_eq_fresh (h : History) (s₀ : VM) (c : Cfg) (hc : c.defects.memoryNotReset = false)
    (p : Prog) (fuel : Nat) :
    runOn c p fuel (runHistory h s₀) = run c p fuel :=
  runOn_eq_run c hc p fuel (runHistory h s₀)

/-- every run of a history returns what a fresh VM returns for the same program and configuration -/
theorem history_eq_fresh_runs (h : History) (hh : ∀ x ∈ h, x.1.defects.memoryNotReset = false) (s₀ : VM) :
    historyOutcomes h s₀ = h.map fun x => run x.1 x.2.1 x.2.2 := by
  induction h generalizing s₀ with
  | nil => rfl
  | cons x h ih =>
    obtain ⟨c, p, fuel⟩ := x
    have hc : c.defects.memoryNotReset = false := hh (c, p, fuel) (by simp)
    have ih' := ih (fun y hy => hh y (by simp [hy])) (run c p fuel).2
    simp only [historyOutcomes, List.map_cons, runOn_eq_run c hc, ih']

/-- "no amount of earlier successful work makes a later run fail" -/
theorem later_run_not_failed_by_earlier (h : History) (c : Cfg) (hc : c.defects.memoryNotReset = false)
    (p : Prog) (fuel : Nat) (v : Val) (hv : (run c p fuel).1 = .ok v) :
    (runOn c p fuel (runHistory h {})).1 = .ok v := by
  rw [reuse_eq_fresh h {} c hc]; exact hv

/-- for the variant `srcDefects`: the statement about the code the facts were read from -/
theorem reuse_eq_fresh_source (h : History) (s₀ : VM) (c : Cfg) (hc : c.defects = srcDefects)
    (p : Prog) (fuel : Nat) :
    runOn c p fuel (runHistory h s₀) = run c p fuel :=
  reuse_eq_fresh h s₀ c (by rw [hc]; exact source_resets_memory) p fuel

/-- what remains true for the variant with the defect: as long as no earlier run allocated -/
theorem reuse_eq_fresh_partial (c : Cfg) (p : Prog) (fuel : Nat) (s : VM) (hs : s.memory = 0) :
    runOn c p fuel s = run c p fuel :=
  runOn_fresh c p fuel s (.inr hs)

/-! The variant `memoryNotReset := true` is the code before commit e377ca7 (finding `c07:reused-vm-differs`).  It is not
the source as it stands (`source_resets_memory`), whatever the suffix `_asIs` of the two theorems suggests. -/

def wWorld : World := { call := fun _ _ => .error .type_, regexMatch := fun _ _ => none, pow := fun x _ => x }

/-- the bytecode of `[1, 2]` -/
def wProg : Prog :=
  { code := (encodeAll [⟨.push, 0⟩, ⟨.push, 1⟩, ⟨.push, 1⟩, ⟨.array, 0⟩]).toArray
    consts := #[.int .int 1, .int .int 2] }

def wCfg (notReset : Bool) : Cfg :=
  { world := wWorld, env := .nil, budget := 3, defects := { rangeSizeSigned := false, memoryNotReset := notReset } }

def isBudgetErr : R Val → Bool
  | .error .budget => true
  | _ => false

def isOkArr2 : R Val → Bool
  | .ok (.arr .iface [.int .int 1, .int .int 2]) => true
  | _ => false

/-- With the counter not reset, budget 3: the first run of `[1, 2]` succeeds (2 < 3), the same run on the
    same VM fails with "memory budget exceeded" (2 + 2 ≥ 3) although a fresh VM succeeds. -/
theorem reuse_witness_asIs :
    isOkArr2 (run (wCfg true) wProg 10).1 = true ∧
    isBudgetErr (runOn (wCfg true) wProg 10 (run (wCfg true) wProg 10).2).1 = true ∧
    (runOn (wCfg true) wProg 10 (run (wCfg true) wProg 10).2).2.memory = 4 := by
  decide +kernel

/-- hence the unrestricted statement is false for that variant -/
theorem reuse_eq_fresh_false_asIs :
    ¬ (∀ (h : History) (c : Cfg) (p : Prog) (fuel : Nat), c.defects.memoryNotReset = true →
        (runOn c p fuel (runHistory h {})).1 = (run c p fuel).1) := by
  intro hall
  obtain ⟨hok, hbud, _⟩ := reuse_witness_asIs
  have h1 : (runOn (wCfg true) wProg 10 (run (wCfg true) wProg 10).2).1 = (run (wCfg true) wProg 10).1 :=
    hall [(wCfg true, wProg, 10)] (wCfg true) wProg 10 rfl
  rw [h1] at hbud
  cases hr : (run (wCfg true) wProg 10).1 with
  | ok v =>
    rw [hr] at hbud
    cases hbud
  | error e =>
    rw [hr] at hok
    cases hok

/-- the bytecode of `[1, 2][5]`: index error in the middle of a run -/
def wFailProg : Prog :=
  { code := (encodeAll [⟨.push, 0⟩, ⟨.push, 1⟩, ⟨.push, 1⟩, ⟨.array, 0⟩, ⟨.push, 2⟩, ⟨.index, 0⟩]).toArray
    consts := #[.int .int 1, .int .int 2, .int .int 5] }

/-- a program that fails with two scopes open and two values on the stack: `Begin; Begin; Push 1; Push 2; True; Negate`
    (negating `true` is a type error) -/
def wDirtyProg : Prog :=
  { code := (encodeAll [⟨.begin_, 0⟩, ⟨.begin_, 0⟩, ⟨.push, 0⟩, ⟨.push, 1⟩, ⟨.true_, 0⟩, ⟨.negate, 0⟩]).toArray
    consts := #[.int .int 1, .int .int 2] }

def wHistory : History :=
  [(wCfg false, wProg, 10), (wCfg false, wFailProg, 10), (wCfg false, wDirtyProg, 10),
   ({ wCfg false with budget := 2 }, wProg, 10), (wCfg false, wProg, 10)]

/-- non-vacuity: the history contains a run failing midway with open scopes and a non-empty stack, and a run
    that exhausts the budget -/
example :
    ((historyOutcomes wHistory {}).map fun o => (match o.1 with | .ok _ => "ok" | .error e => e.name, o.2.stack.length, o.2.scopes.length, o.2.memory))
      = [("ok", 0, 0, 2), ("index", 0, 0, 2), ("type", 2, 2, 0), ("budget", 1, 0, 2), ("ok", 0, 0, 2)] := by
  decide +kernel

example : isOkArr2 (runOn (wCfg false) wProg 10 (runHistory wHistory {})).1 = true := by
  rw [reuse_eq_fresh wHistory {} (wCfg false) rfl]; decide +kernel

end ExprModel.C07
