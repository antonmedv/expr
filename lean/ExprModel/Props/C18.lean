import ExprModel.Proofs.SpecOps
import ExprModel.Proofs.SpecCtx
import ExprModel.Proofs.SpecSlice
import ExprModel.Props.C01
/-
C18 — Collection builtins satisfy their defining identities.

The theorems are proved about the reference evaluator `Spec.eval`, then ("transferred to the VM") restated about runs
of the compiled programs through C01's refinement theorem.  Closure bodies, collections, environments, contexts and
start states are arbitrary.  Evaluation has effects (call log, allocation counters) and can fail, so every identity
says which observables it preserves:

* `=` between two `SM` computations: same value or error class **and** the same final state (call log, memory
  total, created total) from every start state;
* identities whose one side builds an intermediate array (`filter`, `map`, a run-time range) are exact equations up
  to an explicit allocation charge (`chargeLen`, `chargeRange`), from which the equal-value / equal-log corollaries
  follow when the budget is not reached.
-/
namespace ExprModel.C18
open ExprModel ExprModel.Spec

/-- `all(xs, {p}) = not any(xs, {not p})`: equal as computations — same value or error class (a
    predicate failing, or returning a non-bool, at element k fails both sides at element k with the
    same class), same call log (both stop at the first falsifying element), same allocation totals. -/
theorem all_eq_not_any_not (c : SCfg) (ctx : Ctx) (m m' mu mc mc' mn : Meta) (op op' : String)
    (hop : isNotOp op) (hop' : isNotOp op') (xs p : Node) :
    eval c ctx (.builtin m "all" [xs, .closure mc p]) =
    eval c ctx (.unary mu op (.builtin m' "any" [xs, .closure mc' (.unary mn op' p)])) := by
  rw [eval_all, eval_not _ _ _ _ hop, eval_any]
  simp only [bind_assoc]
  refine bind_congr fun coll => bind_congr fun n => ?_
  rw [predAt_closure, predAt_closure, predAt_not _ _ _ _ _ hop', allM_eq_not_anyM_not]
  simp only [bind_assoc, pure_bind]
  rfl

example : isNotOp "not" ∧ isNotOp "!" := ⟨Or.inl rfl, Or.inr rfl⟩

/-- `none(xs, {p}) = not any(xs, {p})`: equal as computations (value / error class, call log,
    allocation totals). -/
theorem none_eq_not_any (c : SCfg) (ctx : Ctx) (m m' mu : Meta) (op : String) (hop : isNotOp op)
    (xs b : Node) :
    eval c ctx (.builtin m "none" [xs, b]) =
    eval c ctx (.unary mu op (.builtin m' "any" [xs, b])) := by
  rw [eval_none, eval_not _ _ _ _ hop, eval_any]
  simp only [bind_assoc]
  congr 1

/-- `one(xs, {p}) = (count(xs, {p}) == 1)`: equal as computations (value / error class, call log,
    allocation totals), for a literal `1` that denotes the `int` 1 (any annotation except a float or a
    narrower integer kind) and a `count` node not annotated as a string — with the checker's annotation
    (`int` on both) the comparison is the specialised `OpEqualInt`, without annotation the generic one. -/
theorem one_eq_count_one (c : SCfg) (ctx : Ctx) (m m' me m1 : Meta) (xs b : Node)
    (h1 : intConst m1.kd 1 = .int .int 1) (hk : m'.kd ≠ .string) :
    eval c ctx (.builtin m "one" [xs, b]) =
    eval c ctx (.binary me "==" (.builtin m' "count" [xs, b]) (.int m1 1)) := by
  rw [eval_one, eval_eqOp, eval_count, Spec.eval_int, h1]
  simp only [bind_assoc, pure_bind]
  exact congrArg _ (funext fun coll => congrArg _ (funext fun n => congrArg _ (funext fun bs =>
    (eqTail_int_int (fun h => hk h.1) _ _).symm)))

example : intConst ({ kd := .num .int } : Meta).kd 1 = .int .int 1 ∧ intConst ({} : Meta).kd 1 = .int .int 1 :=
  ⟨by simp [intConst, wrap, Kind.bits, Kind.isSigned], by simp [intConst]⟩

/-- what `len(filter(…))` adds to `count(…)`: the kept elements are built and charged to the budget -/
def chargeLen (budget : Int) : R Val × SState → R Val × SState
  | (.ok (.int .int k), s) =>
    let s' := { s with memory := s.memory + k, created := s.created + k.toNat }
    if s'.memory ≥ budget then (.error .budget, s') else (.ok (.int .int k), s')
  | r => r

/-- `len(filter(xs, {p})) = count(xs, {p})` up to the allocation of the filtered array, exactly: for a
    collection that is an array (or string), the left side is the right side followed by charging the
    `k` kept elements (`chargeLen`).  Hence (corollaries below): same call log always, same error when
    `count` fails (same element, same class, same state), same value unless the budget is reached. -/
theorem count_eq_len_filter (c : SCfg) (ctx : Ctx) (m m' ml : Meta) (xs b : Node) (s : SState)
    (hseq : ∀ coll s', eval c ctx xs s = (.ok coll, s') → SeqVal coll) :
    eval c ctx (.builtin ml "len" [.builtin m' "filter" [xs, b]]) s =
    chargeLen c.budget (eval c ctx (.builtin m "count" [xs, b]) s) := by
  rw [eval_len, SM.bind_apply, eval_filter_seq c ctx m' xs b s hseq, eval_count_seq c ctx m xs b s hseq,
    SM.bind_apply, SM.bind_apply]
  rcases h : eval c ctx xs s with ⟨r, s1⟩
  cases r with
  | error e => rfl
  | ok coll =>
    simp only [filterOn, countOn, SM.bind_apply]
    rcases h2 : seqIdx (predAt c ctx coll b) (elemsOf coll).length 0 s1 with ⟨r2, s2⟩
    cases r2 with
    | error e => rfl
    | ok bs =>
      have hl := seqIdx_length _ _ _ _ _ _ h2
      have hk := keep_length (elemsOf coll) bs hl
      have hn : (countTrue bs).toNat = (keep (elemsOf coll) bs).length := by rw [← hk]; simp
      simp only [SM.pure_apply, SM.allocAfter, chargeLen, hk, hn]
      by_cases hb : s2.memory + countTrue bs ≥ c.budget
      · simp only [hb, if_true]
      · simp only [hb, if_false, lengthV, SM.lift_ok, SM.pure_apply, hk]

/-- `w0`, `c0`, `xs0`: the instance on which the `example`s below show the theorems' hypotheses satisfiable -/
def w0 : World := { call := fun _ _ => .error .type_, regexMatch := fun _ _ => none, pow := fun x _ => x }
def c0 : SCfg := { world := w0, env := .map [("M", .map [("a", .int .int 1)])], budget := 1000 }
def xs0 : Node := .array {} [.int {} 5, .int {} 6]
theorem xs0_eval : eval c0 [] xs0 {} = (.ok (.arr .iface [.int .int 5, .int .int 6]), { memory := 2, created := 2 }) := rfl

example : ∀ coll s', eval c0 [] xs0 {} = (.ok coll, s') → SeqVal coll := by
  intro coll s' h
  rw [xs0_eval] at h
  simp only [Prod.mk.injEq, Except.ok.injEq] at h
  rw [← h.1]
  exact ⟨rfl, by simp [elemsOf]⟩

/-- the call log of `len(filter(…))` equals that of `count(…)`, budget reached or not -/
theorem count_len_filter_log (c : SCfg) (ctx : Ctx) (m m' ml : Meta) (xs b : Node) (s : SState)
    (hseq : ∀ coll s', eval c ctx xs s = (.ok coll, s') → SeqVal coll) :
    (eval c ctx (.builtin ml "len" [.builtin m' "filter" [xs, b]]) s).2.log =
    (eval c ctx (.builtin m "count" [xs, b]) s).2.log := by
  rw [count_eq_len_filter c ctx m m' ml xs b s hseq]
  unfold chargeLen
  split
  · rename_i h
    rw [h]
    simp only
    split <;> rfl
  · rfl

/-- a failure of `count` (collection, predicate at element k, non-bool) is the failure of `len(filter)`:
    same class, same state -/
theorem count_len_filter_error (c : SCfg) (ctx : Ctx) (m m' ml : Meta) (xs b : Node) (s s1 : SState)
    (e : ErrClass)
    (hseq : ∀ coll s', eval c ctx xs s = (.ok coll, s') → SeqVal coll)
    (h : eval c ctx (.builtin m "count" [xs, b]) s = (.error e, s1)) :
    eval c ctx (.builtin ml "len" [.builtin m' "filter" [xs, b]]) s = (.error e, s1) := by
  rw [count_eq_len_filter c ctx m m' ml xs b s hseq, h]; rfl

/-- same value when the budget is not reached; `budget` otherwise -/
theorem count_len_filter_value (c : SCfg) (ctx : Ctx) (m m' ml : Meta) (xs b : Node) (s s1 : SState)
    (k : Int)
    (hseq : ∀ coll s', eval c ctx xs s = (.ok coll, s') → SeqVal coll)
    (h : eval c ctx (.builtin m "count" [xs, b]) s = (.ok (.int .int k), s1)) :
    (eval c ctx (.builtin ml "len" [.builtin m' "filter" [xs, b]]) s).1 =
      if s1.memory + k ≥ c.budget then .error .budget else .ok (.int .int k) := by
  rw [count_eq_len_filter c ctx m m' ml xs b s hseq, h]
  simp only [chargeLen]
  split <;> rfl

theorem count_returns_int (c : SCfg) (ctx : Ctx) (m : Meta) (xs b : Node) (s s1 : SState) (v : Val)
    (h : eval c ctx (.builtin m "count" [xs, b]) s = (.ok v, s1)) : ∃ k, v = .int .int k := by
  rw [eval_count] at h
  obtain ⟨coll, s0, _, h⟩ := SM.bind_ok h
  obtain ⟨n, s2, _, h⟩ := SM.bind_ok h
  obtain ⟨bs, s3, _, h⟩ := SM.bind_ok h
  exact ⟨_, (Except.ok.inj (congrArg Prod.fst h)).symm⟩

/-- `filter(xs, {p})` keeps exactly the satisfying elements, in index order: when it succeeds on an array (or
    string) `coll`, the predicate was evaluated at every index in order (`seqIdx`, outcomes `bs`, one per element;
    `seqIdx_get` says what `bs[k]` is), and the result is the `[]interface{}` of the elements whose outcome is `true`
    (`keep`, = filter of the zipped list), a sublist of the elements; the state is that after the predicate
    evaluations plus the charge for the kept elements. -/
theorem filter_keeps_in_order (c : SCfg) (ctx : Ctx) (m : Meta) (xs b : Node) (s s1 : SState) (v : Val)
    (hseq : ∀ coll s', eval c ctx xs s = (.ok coll, s') → SeqVal coll)
    (h : eval c ctx (.builtin m "filter" [xs, b]) s = (.ok v, s1)) :
    ∃ coll s0 bs s2,
      eval c ctx xs s = (.ok coll, s0) ∧
      seqIdx (predAt c ctx coll b) (elemsOf coll).length 0 s0 = (.ok bs, s2) ∧
      bs.length = (elemsOf coll).length ∧
      v = .arr .iface (keep (elemsOf coll) bs) ∧
      keep (elemsOf coll) bs = (((elemsOf coll).zip bs).filter (fun q => q.2)).map (fun q => q.1) ∧
      List.Sublist (keep (elemsOf coll) bs) (elemsOf coll) ∧
      s1 = { s2 with memory := s2.memory + (keep (elemsOf coll) bs).length,
                     created := s2.created + (keep (elemsOf coll) bs).length } := by
  rw [eval_filter_seq c ctx m xs b s hseq] at h
  obtain ⟨coll, s0, hx, h⟩ := SM.bind_ok h
  unfold filterOn at h
  obtain ⟨bs, s2, hb, h⟩ := SM.bind_ok h
  simp only [SM.bind_apply, SM.allocAfter] at h
  by_cases hbud : s2.memory + ((keep (elemsOf coll) bs).length : Nat) ≥ c.budget
  · simp [hbud] at h
  · simp only [hbud, if_false, SM.pure_apply, Prod.mk.injEq, Except.ok.injEq] at h
    exact ⟨coll, s0, bs, s2, hx, hb, seqIdx_length _ _ _ _ _ _ hb, h.1.symm, keep_eq_zip _ _,
      keep_sublist _ _, h.2.symm⟩

/-- what `map` adds to the run of its body over all indices: charged `n`, the length of the collection, after the
    results are built -/
def mapOutcome (budget n : Int) : R (List Val) × SState → R Val × SState
  | (.ok vs, s1) =>
    let s2 := { s1 with memory := s1.memory + n, created := s1.created + vs.length }
    if s2.memory ≥ budget then (.error .budget, s2) else (.ok (.arr .iface vs), s2)
  | (.error e, s1) => (.error e, s1)

theorem map_eq (c : SCfg) (ctx : Ctx) (m : Meta) (xs f : Node) (s s0 : SState) (coll : Val) (n : Int)
    (hx : eval c ctx xs s = (.ok coll, s0)) (hn : lengthV coll = .ok n) :
    eval c ctx (.builtin m "map" [xs, f]) s =
      mapOutcome c.budget n (seqIdx (bodyAt c ctx coll f) n.toNat 0 s0) := by
  rw [eval_map, SM.bind_apply, hx]
  simp only [hn, SM.lift_ok, SM.bind_apply, SM.pure_apply]
  rcases h1 : seqIdx (bodyAt c ctx coll f) n.toNat 0 s0 with ⟨r1, s1⟩
  cases r1 with
  | error e => rfl
  | ok vs =>
    simp only [SM.allocAfter, mapOutcome]
    by_cases hb : s1.memory + n ≥ c.budget
    · simp only [hb, if_true]
    · simp only [hb, if_false]

/-- `len(map(xs, {f}))` and `len(xs)` computed: when every evaluation of `f` succeeds and the budget is not
    reached, both sides succeed with the length of the collection -/
theorem len_map_ok (c : SCfg) (ctx : Ctx) (ml ml' m : Meta) (xs f : Node) (s s0 s1 : SState) (coll : Val)
    (n : Int) (vs : List Val)
    (hx : eval c ctx xs s = (.ok coll, s0)) (hn : lengthV coll = .ok n)
    (hf : seqIdx (bodyAt c ctx coll f) n.toNat 0 s0 = (.ok vs, s1))
    (hb : s1.memory + n < c.budget) :
    eval c ctx (.builtin ml "len" [.builtin m "map" [xs, f]]) s =
      (.ok (.int .int n), { s1 with memory := s1.memory + n, created := s1.created + vs.length }) ∧
    eval c ctx (.builtin ml' "len" [xs]) s = (.ok (.int .int n), s0) := by
  have hl := seqIdx_length _ _ _ _ _ _ hf
  have hn0 := lengthV_nonneg hn
  constructor
  · rw [eval_len, SM.bind_apply, map_eq c ctx m xs f s s0 coll n hx hn, hf]
    have : ¬ (s1.memory + n ≥ c.budget) := by omega
    simp only [mapOutcome, this, if_false, lengthV, SM.lift_ok, SM.bind_apply, SM.pure_apply, hl]
    congr 3; omega
  · rw [eval_len, SM.bind_apply, hx]
    simp only [hn, SM.lift_ok, SM.bind_apply, SM.pure_apply]

/-- conversely, whenever the left side succeeds, the right side (from the same start state) succeeds with the
    same value.  Only the value is preserved: the left side also logs the calls made by `f` and charges the array. -/
theorem len_map (c : SCfg) (ctx : Ctx) (ml ml' m : Meta) (xs f : Node) (s s1 : SState) (v : Val)
    (h : eval c ctx (.builtin ml "len" [.builtin m "map" [xs, f]]) s = (.ok v, s1)) :
    ∃ s0, eval c ctx (.builtin ml' "len" [xs]) s = (.ok v, s0) := by
  -- the left side succeeded, so every step of `map` did: the hypotheses of `len_map_ok` hold
  have hl := h
  rw [eval_len] at hl
  obtain ⟨arr, s2, hm, -⟩ := SM.bind_ok hl
  rw [eval_map] at hm
  obtain ⟨coll, s0, hx, hm⟩ := SM.bind_ok hm
  cases hn : lengthV coll with
  | error e => rw [hn] at hm; exact absurd hm (by simp [SM.bind_apply])
  | ok n =>
    rw [hn, SM.lift_ok, pure_bind] at hm
    obtain ⟨vs, s3, hf, hm⟩ := SM.bind_ok hm
    obtain ⟨_, _, ha, -⟩ := SM.bind_ok hm
    have hb : s3.memory + n < c.budget := by
      simp only [SM.allocAfter] at ha
      split at ha
      · cases ha
      · omega
    obtain ⟨h1, h2⟩ := len_map_ok c ctx ml ml' m xs f s s0 s3 coll n vs hx hn hf hb
    rw [h1] at h
    cases h
    exact ⟨s0, h2⟩

private theorem mapOutcome_error_iff (budget n : Int) (x : R (List Val) × SState) (e : ErrClass) (s' : SState) :
    mapOutcome budget n x = (.error e, s') ↔
      x = (.error e, s') ∨
      ∃ vs s1, x = (.ok vs, s1) ∧ s1.memory + n ≥ budget ∧ e = .budget ∧
        s' = { s1 with memory := s1.memory + n, created := s1.created + vs.length } := by
  obtain ⟨r, s1⟩ := x
  cases r with
  | error e1 => simp [mapOutcome]
  | ok vs =>
    simp only [mapOutcome]
    split
    · rename_i hb
      simp only [Prod.mk.injEq, Except.error.injEq, reduceCtorEq, false_and, false_or, Except.ok.injEq]
      constructor
      · rintro ⟨rfl, rfl⟩
        exact ⟨vs, s1, ⟨rfl, rfl⟩, hb, rfl, rfl⟩
      · rintro ⟨_, _, ⟨rfl, rfl⟩, _, rfl, rfl⟩
        exact ⟨rfl, rfl⟩
    · rename_i hb
      simp only [Prod.mk.injEq, reduceCtorEq, false_and, false_or, Except.ok.injEq, false_iff]
      rintro ⟨_, _, ⟨rfl, rfl⟩, hb', _⟩
      exact hb hb'

/-- error behaviour of `map`: once the collection is evaluated, `map` fails iff some evaluation of `f`
    fails (at the first such index `k`, with that class and in that state, all earlier ones having
    succeeded), or the budget is reached after all of them succeeded -/
theorem map_fails_iff (c : SCfg) (ctx : Ctx) (m : Meta) (xs f : Node) (s s0 s' : SState) (coll : Val)
    (n : Int) (e : ErrClass)
    (hx : eval c ctx xs s = (.ok coll, s0)) (hn : lengthV coll = .ok n) :
    eval c ctx (.builtin m "map" [xs, f]) s = (.error e, s') ↔
      (∃ k, k < n.toNat ∧ ∃ vs sk, seqIdx (bodyAt c ctx coll f) k 0 s0 = (.ok vs, sk) ∧
          bodyAt c ctx coll f k sk = (.error e, s')) ∨
      (∃ vs s1, seqIdx (bodyAt c ctx coll f) n.toNat 0 s0 = (.ok vs, s1) ∧ s1.memory + n ≥ c.budget ∧
          e = .budget ∧ s' = { s1 with memory := s1.memory + n, created := s1.created + vs.length }) := by
  rw [map_eq c ctx m xs f s s0 coll n hx hn, mapOutcome_error_iff, seqIdx_error_iff]
  simp only [Nat.zero_add]

/-- Evaluation looks at nothing of the closure context but its innermost entry: two contexts with the
    same head give the same computation, for every tree (any nesting of builtins inside). -/
theorem eval_depends_on_innermost_only (c : SCfg) (ctx1 ctx2 : Ctx) (h : ctx1.head? = ctx2.head?) (n : Node) :
    eval c ctx1 n = eval c ctx2 n := eval_ctx_head c ctx1 ctx2 h n

/-- Inside `name(xs, {b})` (each of all/none/any/one/count/filter/map: the body at element i is
    `bodyAt c ctx coll b i`) the meaning of the body does not depend on the enclosing context at all — whatever the
    nesting depth, it is the same computation as at top level — and `#` denotes element i of that innermost
    collection. -/
theorem closure_sees_innermost (c : SCfg) (ctx : Ctx) (coll : Val) (b : Node) (i : Nat) (mp : Meta) :
    bodyAt c ctx coll b i = bodyAt c [] coll b i ∧
    bodyAt c ctx coll (.pointer mp) i = SM.lift (fetchV coll (.int .int (i : Int)) false) := by
  constructor
  · exact eval_ctx_head c ((coll, (i : Int)) :: ctx) [(coll, (i : Int))] rfl b
  · exact Spec.eval_pointer c _ mp

/-- after a nested builtin the outer element is visible again: in the context of element `i` of `coll`,
    `[#, inner(…), #]` evaluates `#` to element `i` of `coll` before and after the inner builtin,
    whatever collection the inner builtin iterates over -/
theorem outer_element_restored (c : SCfg) (ctx : Ctx) (coll : Val) (i : Int) (m m1 m2 mi : Meta)
    (name : String) (args : List Node) :
    eval c ((coll, i) :: ctx) (.array m [.pointer m1, .builtin mi name args, .pointer m2]) = (do
      let e ← SM.lift (fetchV coll (.int .int i) false)
      let v ← eval c [(coll, i)] (.builtin mi name args)
      let e' ← SM.lift (fetchV coll (.int .int i) false)
      SM.allocAfter c.budget 3 3
      pure (.arr .iface [e, v, e'])) := by
  have h := eval_ctx_head c ((coll, i) :: ctx) [(coll, i)] rfl (.builtin mi name args)
  have hp : ∀ mp, eval c ((coll, i) :: ctx) (.pointer mp) = SM.lift (fetchV coll (.int .int i) false) :=
    fun mp => Spec.eval_pointer c _ mp
  rw [Spec.eval_array, Spec.evalList_cons _ _ _ _ rfl, Spec.evalList_cons _ _ _ _ rfl,
    Spec.evalList_cons _ _ _ _ rfl, Spec.evalList_nil]
  simp only [hp, h, bind_assoc, pure_bind, List.length_cons, List.length_nil]
  rfl

/-- what a run-time range adds: refused *before* it is built when the total would reach the budget -/
def chargeRange (budget counted : Int) (built : Nat) : R Val × SState → R Val × SState
  | (r, s) =>
    if s.memory + counted ≥ budget then (.error .budget, s)
    else (r, { s with memory := s.memory + counted, created := s.created + built })

/-- elements a range `lo..hi` is charged for: the body of `Spec.rangeCharge` (which says what `rangeSizeSigned` is) -/
def rangeCounted (c : SCfg) (lo hi : Int) : Int :=
  if c.rangeSizeSigned = true then hi - lo + 1 else if hi - lo + 1 < 0 then 0 else hi - lo + 1

/-- the right-hand side of `in_range_eq_two_sided` computed: `normInt` is the left operand as the comparison
    helpers see it (an unsigned `x` converted to `int`) -/
theorem two_sided_value (c : SCfg) (ctx : Ctx) (ma mg ml : Meta) (x lo hi : Node) (s : SState)
    (k : Kind) (v lo' hi' : Int)
    (hx : eval c ctx x s = (.ok (.int k v), s))
    (hlo : eval c ctx lo s = (.ok (.int .int lo'), s))
    (hhi : eval c ctx hi s = (.ok (.int .int hi'), s))
    (hk : k.isInt = true) (hb : BoundsFit k lo' hi') :
    eval c ctx (.binary ma "and" (.binary mg ">=" x lo) (.binary ml "<=" x hi)) s =
      (.ok (.bool (decide (lo' ≤ normInt k v ∧ normInt k v ≤ hi'))), s) :=
  eval_two_sided c ctx ma mg ml x lo hi s k v lo' hi' hx hlo hhi hk hb

/-- `x in lo..hi` is `x >= lo and x <= hi` up to the charge for the range — the partial form: for an integer `x`
    and `int` bounds whose evaluation leaves the state alone (`hx`, `hlo`, `hhi`: identifiers, constants), the
    bounds within 64 bits and representable at the kind of `x` where the comparison converts to it (`BoundsFit`) -/
theorem in_range_eq_two_sided (c : SCfg) (ctx : Ctx) (mi mr ma mg ml : Meta) (x lo hi : Node) (s : SState)
    (k : Kind) (v lo' hi' : Int)
    (hx : eval c ctx x s = (.ok (.int k v), s))
    (hlo : eval c ctx lo s = (.ok (.int .int lo'), s))
    (hhi : eval c ctx hi s = (.ok (.int .int hi'), s))
    (hlo64 : inRange .int lo') (hhi64 : inRange .int hi')
    (hk : k.isInt = true) (hb : BoundsFit k lo' hi') :
    eval c ctx (.binary mi "in" x (.binary mr ".." lo hi)) s =
      chargeRange c.budget (rangeCounted c lo' hi') (rangeElems lo' hi').length
        (eval c ctx (.binary ma "and" (.binary mg ">=" x lo) (.binary ml "<=" x hi)) s) := by
  rw [two_sided_value c ctx ma mg ml x lo hi s k v lo' hi' hx hlo hhi hk hb]
  rw [eval_in, SM.bind_apply, hx]
  simp only [eval_range, rangeCharge, SM.bind_apply, hlo, hhi, toIntR_int' _ hlo64, toIntR_int' _ hhi64, SM.lift_ok,
    SM.pure_apply, SM.allocBefore, chargeRange]
  by_cases hbud : s.memory + rangeCounted c lo' hi' ≥ c.budget
  · simp only [rangeCounted] at hbud
    simp only [rangeCounted, hbud, if_true]
  · simp only [rangeCounted] at hbud
    simp only [rangeCounted, hbud, if_false, inV, SM.lift_ok, SM.pure_apply, range_any_eq k hk lo' hi' v hb]

/-- error propagation: a left operand that fails makes both sides fail with that class in that state
    (before the range is built or any comparison is made) -/
theorem in_range_error (c : SCfg) (ctx : Ctx) (mi mr ma mg ml : Meta) (x lo hi : Node) (s s1 : SState)
    (e : ErrClass) (hx : eval c ctx x s = (.error e, s1)) :
    eval c ctx (.binary mi "in" x (.binary mr ".." lo hi)) s = (.error e, s1) ∧
    eval c ctx (.binary ma "and" (.binary mg ">=" x lo) (.binary ml "<=" x hi)) s = (.error e, s1) := by
  constructor
  · rw [eval_in, SM.bind_apply, hx]
  · rw [eval_andOp c ctx ma rfl, SM.bind_apply, eval_arith c ctx mg ">=" .moreOrEqual rfl, SM.bind_apply, hx]

/-- corollary: same value when the budget is not reached, same call log always -/
theorem in_range_value_log (c : SCfg) (ctx : Ctx) (mi mr ma mg ml : Meta) (x lo hi : Node) (s : SState)
    (k : Kind) (v lo' hi' : Int)
    (hx : eval c ctx x s = (.ok (.int k v), s))
    (hlo : eval c ctx lo s = (.ok (.int .int lo'), s))
    (hhi : eval c ctx hi s = (.ok (.int .int hi'), s))
    (hlo64 : inRange .int lo') (hhi64 : inRange .int hi')
    (hk : k.isInt = true) (hb : BoundsFit k lo' hi') :
    (eval c ctx (.binary mi "in" x (.binary mr ".." lo hi)) s).2.log =
      (eval c ctx (.binary ma "and" (.binary mg ">=" x lo) (.binary ml "<=" x hi)) s).2.log ∧
    (s.memory + rangeCounted c lo' hi' < c.budget →
      (eval c ctx (.binary mi "in" x (.binary mr ".." lo hi)) s).1 =
        (eval c ctx (.binary ma "and" (.binary mg ">=" x lo) (.binary ml "<=" x hi)) s).1) := by
  rw [in_range_eq_two_sided c ctx mi mr ma mg ml x lo hi s k v lo' hi' hx hlo hhi hlo64 hhi64 hk hb,
    two_sided_value c ctx ma mg ml x lo hi s k v lo' hi' hx hlo hhi hk hb]
  constructor
  · simp only [chargeRange]; split <;> rfl
  · intro hbud
    have : ¬ (s.memory + rangeCounted c lo' hi' ≥ c.budget) := by omega
    simp only [chargeRange, this, if_false]

def xI8 : Node := .const {} (.int .int8 (-128))

/-- The identity genuinely fails (on the Spec, as on the real VM) for a left operand of a signed kind
    narrower than `int` when a bound does not fit that kind: `int8(-128) in 127..129` is `true` (the
    element 128 is converted to `int8`, giving -128) while `int8(-128) >= 127 and …` is `false`. -/
theorem in_range_narrow_kind_witness :
    (eval c0 [] (.binary {} "in" xI8 (.binary {} ".." (.int {} 127) (.int {} 129))) {}).1 = .ok (.bool true) ∧
    (eval c0 [] (.binary {} "and" (.binary {} ">=" xI8 (.int {} 127)) (.binary {} "<=" xI8 (.int {} 129))) {}).1
      = .ok (.bool false) ∧
    ¬ BoundsFit .int8 127 129 := by
  refine ⟨rfl, rfl, ?_⟩
  simp [BoundsFit, Kind.rank, inRange, Kind.isSigned, Kind.bits]

/-- the statement without the `BoundsFit` hypothesis (every integer kind of the left operand, any bounds) — still
    for an integer left operand and operands whose evaluation leaves the state unchanged (the right-hand side
    evaluates `x` twice), so already narrower than the property's sentence -/
def in_range_eq_two_sided_goal : Prop :=
  ∀ (c : SCfg) (ctx : Ctx) (mi mr ma mg ml : Meta) (x lo hi : Node) (s : SState) (k : Kind) (v lo' hi' : Int),
    eval c ctx x s = (.ok (.int k v), s) → eval c ctx lo s = (.ok (.int .int lo'), s) →
    eval c ctx hi s = (.ok (.int .int hi'), s) → inRange .int lo' → inRange .int hi' → k.isInt = true →
    eval c ctx (.binary mi "in" x (.binary mr ".." lo hi)) s =
      chargeRange c.budget (rangeCounted c lo' hi') (rangeElems lo' hi').length
        (eval c ctx (.binary ma "and" (.binary mg ">=" x lo) (.binary ml "<=" x hi)) s)

/-- … and it is false (known finding `c18:in-range-narrow-kind`): `BoundsFit` cannot be dropped -/
theorem in_range_eq_two_sided_goal_false : ¬ in_range_eq_two_sided_goal := by
  intro h
  have := h c0 [] {} {} {} {} {} xI8 (.int {} 127) (.int {} 129) {} .int8 (-128) 127 129 rfl rfl rfl
    (by decide) (by decide) rfl
  have h1 := congrArg Prod.fst this
  rw [in_range_narrow_kind_witness.1] at h1
  have e : eval c0 [] (.binary {} "and" (.binary {} ">=" xI8 (.int {} 127)) (.binary {} "<=" xI8 (.int {} 129))) {} =
      (.ok (.bool false), {}) := rfl
  rw [e] at h1
  have hc : (chargeRange c0.budget (rangeCounted c0 127 129) (rangeElems 127 129).length
      ((.ok (.bool false), {}) : R Val × SState)).1 = .ok (.bool false) := rfl
  rw [hc] at h1
  injection h1 with h1
  injection h1 with h1
  cases h1

/-- `M` is a map: `count(M, {true})` is 1 but `len(filter(M, {true}))` is a type error (a map cannot be
    indexed by position) — the identity is about arrays, as the property says -/
theorem count_len_filter_map_witness :
    (eval c0 [] (.builtin {} "count" [.ident {} "M" false, .closure {} (.bool {} true)]) {}).1 = .ok (.int .int 1) ∧
    (eval c0 [] (.builtin {} "len" [.builtin {} "filter" [.ident {} "M" false, .closure {} (.bool {} true)]]) {}).1
      = .error .type_ := ⟨rfl, rfl⟩

/-- non-vacuity of `in_range_eq_two_sided`: `uint8(200) in 1..300` -/
example : eval c0 [] (.const {} (.int .uint8 200)) {} = (.ok (.int .uint8 200), {}) ∧
    eval c0 [] (.int {} 1) {} = (.ok (.int .int 1), {}) ∧ eval c0 [] (.int {} 300) {} = (.ok (.int .int 300), {}) ∧
    inRange .int 1 ∧ inRange .int 300 ∧ Kind.uint8.isInt = true ∧ BoundsFit .uint8 1 300 :=
  ⟨rfl, rfl, rfl, by decide, by decide, rfl, by simp [BoundsFit, Kind.rank]⟩
/-- … and for a signed narrow kind with fitting bounds: `int8(-1) in -5..100` -/
example : BoundsFit .int8 (-5) 100 := by
  intro _; constructor <;> decide

/-- arrays: for `0 ≤ i`, `xs[:i]` and `xs[i:]` (at the level of `sliceV`, with the defaults `0` and
    `len xs` the evaluator supplies) are the first `i` elements and the rest — clamped when `i > len` —
    and concatenate to `xs`; the element type tag is kept -/
theorem slice_partitions (t : ElemT) (xs : List Val) (i : Int) (h0 : 0 ≤ i) (hi : inRange .int i)
    (hlen : inRange .int (xs.length : Nat)) :
    ∃ l r, sliceV (.arr t xs) (.int .int 0) (.int .int i) = .ok (.arr t l) ∧
           sliceV (.arr t xs) (.int .int i) (.int .int (xs.length : Nat)) = .ok (.arr t r) ∧
           l ++ r = xs ∧ l.length = min i.toNat xs.length :=
  ⟨xs.take i.toNat, xs.drop i.toNat, sliceV_arr_prefix t xs i h0 hi, sliceV_arr_suffix t xs i h0 hi hlen,
    List.take_append_drop _ _, List.length_take⟩

example : inRange .int 2 ∧ inRange .int (([Val.nil, Val.nil, Val.nil].length : Nat) : Int) := by decide

/-- a negative `i` fails on both sides, with class `index` -/
theorem slice_negative_fails (t : ElemT) (xs : List Val) (i : Int) (h0 : i < 0) (hi : inRange .int i)
    (hlen : inRange .int (xs.length : Nat)) :
    sliceV (.arr t xs) (.int .int 0) (.int .int i) = .error .index ∧
    sliceV (.arr t xs) (.int .int i) (.int .int (xs.length : Nat)) = .error .index :=
  sliceV_arr_neg t xs i h0 hi hlen

/-- strings (sliced by bytes): for `0 ≤ i`, whenever both pieces are strings — i.e. valid UTF-8, which
    is the case when the cut falls on a character boundary, always for ASCII — `s[:i] + s[i:] = s` -/
theorem slice_partitions_str (s : String) (i : Int) (h0 : 0 ≤ i) (hi : inRange .int i)
    (hlen : inRange .int ((strBytes s).length : Nat)) (a b : String)
    (ha : sliceV (.str s) (.int .int 0) (.int .int i) = .ok (.str a))
    (hb : sliceV (.str s) (.int .int i) (.int .int ((strBytes s).length : Nat)) = .ok (.str b)) :
    a ++ b = s := by
  rw [sliceV_str_prefix s i h0 hi] at ha
  rw [sliceV_str_suffix s i h0 hi hlen] at hb
  exact strCut_partition s i.toNat a b ha hb

theorem slice_negative_fails_str (s : String) (i : Int) (h0 : i < 0) (hi : inRange .int i)
    (hlen : inRange .int ((strBytes s).length : Nat)) :
    sliceV (.str s) (.int .int 0) (.int .int i) = .error .index ∧
    sliceV (.str s) (.int .int i) (.int .int ((strBytes s).length : Nat)) = .error .index :=
  sliceV_str_neg s i h0 hi hlen

/-- `x[:i]` at the level of `eval`: the collection, then the bound, then `sliceV` with the default lower
    bound `0` (for either order in which the code evaluates the two bounds) -/
theorem eval_slice_prefix (c : SCfg) (ctx : Ctx) (m : Meta) (x i : Node) (s s0 s1 : SState) (a iv : Val)
    (hx : eval c ctx x s = (.ok a, s0)) (hi : eval c ctx i s0 = (.ok iv, s1)) :
    eval c ctx (.slice m x none (some i)) s = (sliceV a (.int .int 0) iv, s1) := by
  rw [eval_slice]
  unfold boundOr
  cases c.sliceToFirst <;> simp only [SM.bind_apply, hx, hi, SM.pure_apply, if_true, Bool.false_eq_true, if_false] <;>
    cases sliceV a (.int .int 0) iv <;> rfl

/-- `x[i:]`: the default upper bound is `len x` -/
theorem eval_slice_suffix (c : SCfg) (ctx : Ctx) (m : Meta) (x i : Node) (s s0 s1 : SState) (a iv : Val) (n : Int)
    (hx : eval c ctx x s = (.ok a, s0)) (hi : eval c ctx i s0 = (.ok iv, s1)) (hn : lengthV a = .ok n) :
    eval c ctx (.slice m x (some i) none) s = (sliceV a iv (.int .int n), s1) := by
  rw [eval_slice]
  unfold boundOr
  cases c.sliceToFirst <;>
    simp only [SM.bind_apply, hx, hi, hn, SM.lift_ok, SM.pure_apply, if_true, Bool.false_eq_true, if_false] <;>
    cases sliceV a iv (.int .int n) <;> rfl

/-- `slice_partitions` on expressions: for an array-valued `x` and a bound evaluating to the int `i ≥ 0`,
    `x[:i]` and `x[i:]` (two programs from the same start state) succeed with the first `i` elements and
    the rest, which concatenate to the value of `x`; both end in the same state -/
theorem slice_partitions_eval (c : SCfg) (ctx : Ctx) (m m' : Meta) (x i : Node) (s s0 s1 : SState)
    (t : ElemT) (xs : List Val) (iv : Int)
    (hx : eval c ctx x s = (.ok (.arr t xs), s0)) (hi : eval c ctx i s0 = (.ok (.int .int iv), s1))
    (h0 : 0 ≤ iv) (hr : inRange .int iv) (hlen : inRange .int (xs.length : Nat)) :
    ∃ l r, eval c ctx (.slice m x none (some i)) s = (.ok (.arr t l), s1) ∧
           eval c ctx (.slice m' x (some i) none) s = (.ok (.arr t r), s1) ∧ l ++ r = xs := by
  refine ⟨xs.take iv.toNat, xs.drop iv.toNat, ?_, ?_, List.take_append_drop _ _⟩
  · rw [eval_slice_prefix c ctx m x i s s0 s1 _ _ hx hi, sliceV_arr_prefix t xs iv h0 hr]
  · rw [eval_slice_suffix c ctx m' x i s s0 s1 _ _ _ hx hi rfl, sliceV_arr_suffix t xs iv h0 hr hlen]

/-- ASCII strings: both pieces are strings and concatenate to `s`, for every `i ≥ 0` -/
theorem slice_partitions_ascii (s : String) (h : IsAscii s) (i : Int) (h0 : 0 ≤ i) (hi : inRange .int i)
    (hlen : inRange .int ((strBytes s).length : Nat)) :
    ∃ a b, sliceV (.str s) (.int .int 0) (.int .int i) = .ok (.str a) ∧
           sliceV (.str s) (.int .int i) (.int .int ((strBytes s).length : Nat)) = .ok (.str b) ∧
           a ++ b = s := by
  obtain ⟨a, ha⟩ := strCut_ascii_take s h i.toNat
  obtain ⟨b, hb⟩ := strCut_ascii_drop s h i.toNat
  refine ⟨a, b, ?_, ?_, strCut_partition s i.toNat a b ha hb⟩
  · rw [sliceV_str_prefix s i h0 hi, ha]
  · rw [sliceV_str_suffix s i h0 hi hlen, hb]

example : IsAscii "hello world" := by
  unfold IsAscii
  decide

example : (eval c0 [] (.builtin {} "filter" [xs0, .closure {} (.binary {} ">" (.pointer {}) (.int {} 5))]) {}).1
    = .ok (.arr .iface [.int .int 6]) := rfl
example : (eval c0 [] (.builtin {} "len" [.builtin {} "filter" [xs0, .closure {} (.bool {} true)]]) {}).1
    = .ok (.int .int 2) ∧
    (eval c0 [] (.builtin {} "count" [xs0, .closure {} (.bool {} true)]) {}).1 = .ok (.int .int 2) := ⟨rfl, rfl⟩
/-- hypotheses of `len_map_ok` / `map_fails_iff` for `map([5, 6], {#})` -/
example : lengthV (.arr .iface [.int .int 5, .int .int 6]) = .ok 2 ∧
    seqIdx (bodyAt c0 [] (.arr .iface [.int .int 5, .int .int 6]) (.closure {} (.pointer {}))) (2 : Int).toNat 0
      { memory := 2, created := 2 } = (.ok [.int .int 5, .int .int 6], { memory := 2, created := 2 }) ∧
    ((2 : Int) + 2 < c0.budget) := ⟨rfl, rfl, by decide⟩
/-- a mapper that fails at the second element: `map([5, 6], {1 / (# - 6)})` fails with `divzero` -/
example : (eval c0 [] (.builtin {} "map" [xs0, .closure {} (.binary {} "/" (.int {} 1)
      (.binary {} "-" (.pointer {}) (.int {} 6)))]) {}).1 = .error .divzero := rfl

open ExprModel.Refine (specOf obs RunAgrees progOf FitsU16 EnvOK Good SmallColl floatsOK)
open ExprModel.C01 (m0)

/-! ## transferred to the VM

Every identity above, restated about *runs of the compiled programs*: `compileProgram` (= compiler.Compile,
byte for byte) followed by the byte-level `run` (= (*VM).Run).  The bridge is C01's refinement theorem
`run_conforms_checked`; `Conf` bundles its side conditions for one (tree, compiled program) pair. -/

/-- C01's side conditions for one compiled tree: it compiles to `cp`; its float constants are literals
    no two of which are `==` with different bits (`floatsOK`, decidable); every operand fits 16 bits
    (`FitsU16`, decidable); a map-environment compilation runs on a map; the tree is well-formed and its
    loop collections have fewer than 2^63 elements -/
structure Conf (c : Cfg) (cfg : CompCfg) (n : Node) (cp : Compiled) : Prop where
  compiles : compileProgram cfg n = .ok cp
  floats : floatsOK n = true
  fits : FitsU16 cp.code
  env : EnvOK c cfg
  good : Good (SmallColl c) n

/-- what a VM run is observed on: value or error class, and (memory total, created total, call log) -/
def vmOut (c : Cfg) (cp : Compiled) (fuel : Nat) : R Val × SState :=
  ((run c (progOf cp) fuel).1, obs (run c (progOf cp) fuel).2)

/-- C01, as an equation: for enough fuel the observable outcome of the compiled program's run is `Spec.run` -/
theorem vm_conforms {c : Cfg} {cfg : CompCfg} {n : Node} {cp : Compiled} (h : Conf c cfg n cp) :
    ∃ N, ∀ fuel, N ≤ fuel → vmOut c cp fuel = Spec.run (specOf c) cfg.cast n := by
  obtain ⟨N, hN⟩ := C01.run_conforms_checked cfg n cp c h.compiles h.floats h.fits h.env h.good
  exact ⟨N, fun fuel hf => Prod.ext (hN fuel hf).1 (hN fuel hf).2.1⟩

/-- the generic transfer: any relation between the two `Spec.run` outcomes holds between the observable
    outcomes of the two compiled programs' runs, for enough fuel -/
theorem transfer {c : Cfg} {cfgL cfgR : CompCfg} {nL nR : Node} {cpL cpR : Compiled}
    (hL : Conf c cfgL nL cpL) (hR : Conf c cfgR nR cpR)
    (rel : R Val × SState → R Val × SState → Prop)
    (hspec : rel (Spec.run (specOf c) cfgL.cast nL) (Spec.run (specOf c) cfgR.cast nR)) :
    ∃ N, ∀ fuel, N ≤ fuel → rel (vmOut c cpL fuel) (vmOut c cpR fuel) := by
  obtain ⟨N1, h1⟩ := vm_conforms hL
  obtain ⟨N2, h2⟩ := vm_conforms hR
  refine ⟨max N1 N2, fun fuel hf => ?_⟩
  rw [h1 fuel (by omega), h2 fuel (by omega)]
  exact hspec

theorem specRun_congr (sc : SCfg) (cast : Option Nat) (nL nR : Node) (h : eval sc [] nL = eval sc [] nR) :
    Spec.run sc cast nL = Spec.run sc cast nR := by
  rw [run_eq, run_eq, h]

theorem specRun_none (sc : SCfg) (n : Node) : Spec.run sc none n = eval sc [] n {} :=
  run_none sc n

private theorem transfer_eq {c : Cfg} {cfgL cfgR : CompCfg} {nL nR : Node} {cpL cpR : Compiled}
    (hL : Conf c cfgL nL cpL) (hR : Conf c cfgR nR cpR) (hcast : cfgL.cast = cfgR.cast)
    (h : eval (specOf c) [] nL = eval (specOf c) [] nR) :
    ∃ N, ∀ fuel, N ≤ fuel → vmOut c cpL fuel = vmOut c cpR fuel :=
  transfer hL hR (· = ·) (by rw [hcast]; exact specRun_congr _ _ _ _ h)

private theorem transfer_eval {c : Cfg} {cfgL cfgR : CompCfg} {nL nR : Node} {cpL cpR : Compiled}
    (hL : Conf c cfgL nL cpL) (hR : Conf c cfgR nR cpR) (hcL : cfgL.cast = none) (hcR : cfgR.cast = none)
    (rel : R Val × SState → R Val × SState → Prop)
    (h : rel (eval (specOf c) [] nL {}) (eval (specOf c) [] nR {})) :
    ∃ N, ∀ fuel, N ≤ fuel → rel (vmOut c cpL fuel) (vmOut c cpR fuel) :=
  transfer hL hR rel (by rw [hcL, hcR, specRun_none, specRun_none]; exact h)

/-- `all(xs, {p})` and `not any(xs, {not p})`, compiled and run: for enough fuel both runs end with the same
    value or error class, the same call log and the same allocation totals -/
theorem all_eq_not_any_not_vm (c : Cfg) (cfgL cfgR : CompCfg) (hcast : cfgL.cast = cfgR.cast)
    (m m' mu mc mc' mn : Meta) (op op' : String) (hop : isNotOp op) (hop' : isNotOp op') (xs p : Node)
    (cpL cpR : Compiled)
    (hL : Conf c cfgL (.builtin m "all" [xs, .closure mc p]) cpL)
    (hR : Conf c cfgR (.unary mu op (.builtin m' "any" [xs, .closure mc' (.unary mn op' p)])) cpR) :
    ∃ N, ∀ fuel, N ≤ fuel → vmOut c cpL fuel = vmOut c cpR fuel :=
  transfer_eq hL hR hcast (all_eq_not_any_not (specOf c) [] m m' mu mc mc' mn op op' hop hop' xs p)

theorem none_eq_not_any_vm (c : Cfg) (cfgL cfgR : CompCfg) (hcast : cfgL.cast = cfgR.cast)
    (m m' mu : Meta) (op : String) (hop : isNotOp op) (xs b : Node) (cpL cpR : Compiled)
    (hL : Conf c cfgL (.builtin m "none" [xs, b]) cpL)
    (hR : Conf c cfgR (.unary mu op (.builtin m' "any" [xs, b])) cpR) :
    ∃ N, ∀ fuel, N ≤ fuel → vmOut c cpL fuel = vmOut c cpR fuel :=
  transfer_eq hL hR hcast (none_eq_not_any (specOf c) [] m m' mu op hop xs b)

theorem one_eq_count_one_vm (c : Cfg) (cfgL cfgR : CompCfg) (hcast : cfgL.cast = cfgR.cast)
    (m m' me m1 : Meta) (xs b : Node) (h1 : intConst m1.kd 1 = .int .int 1) (hk : m'.kd ≠ .string)
    (cpL cpR : Compiled)
    (hL : Conf c cfgL (.builtin m "one" [xs, b]) cpL)
    (hR : Conf c cfgR (.binary me "==" (.builtin m' "count" [xs, b]) (.int m1 1)) cpR) :
    ∃ N, ∀ fuel, N ≤ fuel → vmOut c cpL fuel = vmOut c cpR fuel :=
  transfer_eq hL hR hcast (one_eq_count_one (specOf c) [] m m' me m1 xs b h1 hk)

/-- `len(filter(xs, {p}))` run on the VM is `count(xs, {p})` run on the VM followed by the allocation
    charge: same log always, same error, same value below the budget -/
theorem count_eq_len_filter_vm (c : Cfg) (cfgL cfgR : CompCfg) (hcL : cfgL.cast = none) (hcR : cfgR.cast = none)
    (m m' ml : Meta) (xs b : Node) (cpL cpR : Compiled)
    (hseq : ∀ coll s', eval (specOf c) [] xs {} = (.ok coll, s') → SeqVal coll)
    (hL : Conf c cfgL (.builtin m "count" [xs, b]) cpL)
    (hR : Conf c cfgR (.builtin ml "len" [.builtin m' "filter" [xs, b]]) cpR) :
    ∃ N, ∀ fuel, N ≤ fuel → vmOut c cpR fuel = chargeLen c.budget (vmOut c cpL fuel) :=
  transfer_eval hL hR hcL hcR (fun a b => b = chargeLen c.budget a)
    (count_eq_len_filter (specOf c) [] m m' ml xs b {} hseq)

/-- whenever the run of `len(map(xs, {f}))` succeeds, the run of `len(xs)` succeeds with the same value -/
theorem len_map_vm (c : Cfg) (cfgL cfgR : CompCfg) (hcL : cfgL.cast = none) (hcR : cfgR.cast = none)
    (ml ml' m : Meta) (xs f : Node) (cpL cpR : Compiled)
    (hL : Conf c cfgL (.builtin ml "len" [.builtin m "map" [xs, f]]) cpL)
    (hR : Conf c cfgR (.builtin ml' "len" [xs]) cpR) :
    ∃ N, ∀ fuel, N ≤ fuel → ∀ v, (vmOut c cpL fuel).1 = .ok v → (vmOut c cpR fuel).1 = .ok v :=
  transfer_eval hL hR hcL hcR (fun a b => ∀ v, a.1 = .ok v → b.1 = .ok v) (by
    intro v hv
    rcases h : eval (specOf c) [] (.builtin ml "len" [.builtin m "map" [xs, f]]) {} with ⟨r, s1⟩
    rw [h] at hv
    simp only at hv
    subst hv
    obtain ⟨s0, h0⟩ := len_map (specOf c) [] ml ml' m xs f {} s1 v h
    rw [h0])

/-- the run of `filter(xs, {p})`, when it succeeds, returns exactly the elements whose predicate outcome is
    `true`, in index order -/
theorem filter_keeps_in_order_vm (c : Cfg) (cfg : CompCfg) (hc : cfg.cast = none) (m : Meta) (xs b : Node)
    (cp : Compiled)
    (hseq : ∀ coll s', eval (specOf c) [] xs {} = (.ok coll, s') → SeqVal coll)
    (h : Conf c cfg (.builtin m "filter" [xs, b]) cp) :
    ∃ N, ∀ fuel, N ≤ fuel → ∀ v, (vmOut c cp fuel).1 = .ok v →
      ∃ coll s0 bs s2, eval (specOf c) [] xs {} = (.ok coll, s0) ∧
        seqIdx (predAt (specOf c) [] coll b) (elemsOf coll).length 0 s0 = (.ok bs, s2) ∧
        bs.length = (elemsOf coll).length ∧ v = .arr .iface (keep (elemsOf coll) bs) ∧
        List.Sublist (keep (elemsOf coll) bs) (elemsOf coll) := by
  obtain ⟨N, hN⟩ := vm_conforms h
  refine ⟨N, fun fuel hf v hv => ?_⟩
  rw [hN fuel hf, hc, specRun_none] at hv
  rcases he : eval (specOf c) [] (.builtin m "filter" [xs, b]) {} with ⟨r, s1⟩
  rw [he] at hv
  simp only at hv
  subst hv
  obtain ⟨coll, s0, bs, s2, h1, h2, h3, h4, _, h6, _⟩ :=
    filter_keeps_in_order (specOf c) [] m xs b {} s1 v hseq he
  exact ⟨coll, s0, bs, s2, h1, h2, h3, h4, h6⟩

/-- `x in lo..hi` run on the VM is `x >= lo and x <= hi` run on the VM up to the range's allocation -/
theorem in_range_eq_two_sided_vm (c : Cfg) (cfgL cfgR : CompCfg) (hcL : cfgL.cast = none) (hcR : cfgR.cast = none)
    (mi mr ma mg ml : Meta) (x lo hi : Node) (k : Kind) (v lo' hi' : Int) (cpL cpR : Compiled)
    (hx : eval (specOf c) [] x {} = (.ok (.int k v), {}))
    (hlo : eval (specOf c) [] lo {} = (.ok (.int .int lo'), {}))
    (hhi : eval (specOf c) [] hi {} = (.ok (.int .int hi'), {}))
    (hlo64 : inRange .int lo') (hhi64 : inRange .int hi')
    (hk : k.isInt = true) (hb : BoundsFit k lo' hi')
    (hL : Conf c cfgL (.binary mi "in" x (.binary mr ".." lo hi)) cpL)
    (hR : Conf c cfgR (.binary ma "and" (.binary mg ">=" x lo) (.binary ml "<=" x hi)) cpR) :
    ∃ N, ∀ fuel, N ≤ fuel →
      vmOut c cpL fuel = chargeRange c.budget (rangeCounted (specOf c) lo' hi') (rangeElems lo' hi').length
        (vmOut c cpR fuel) ∧
      (vmOut c cpR fuel).1 = .ok (.bool (decide (lo' ≤ normInt k v ∧ normInt k v ≤ hi'))) :=
  transfer_eval hL hR hcL hcR (fun a b => a = chargeRange c.budget (rangeCounted (specOf c) lo' hi') (rangeElems lo' hi').length b ∧
      b.1 = .ok (.bool (decide (lo' ≤ normInt k v ∧ normInt k v ≤ hi')))) (by
    refine ⟨in_range_eq_two_sided (specOf c) [] mi mr ma mg ml x lo hi {} k v lo' hi' hx hlo hhi hlo64 hhi64 hk hb, ?_⟩
    rw [two_sided_value (specOf c) [] ma mg ml x lo hi {} k v lo' hi' hx hlo hhi hk hb])

/-- `x[:i]` and `x[i:]` compiled and run: the first `i` elements and the rest, which concatenate to the
    value of `x`; both runs end with the same counters and log -/
theorem slice_partitions_vm (c : Cfg) (cfgL cfgR : CompCfg) (hcL : cfgL.cast = none) (hcR : cfgR.cast = none)
    (m m' : Meta) (x i : Node) (s0 s1 : SState) (t : ElemT) (xs : List Val) (iv : Int) (cpL cpR : Compiled)
    (hx : eval (specOf c) [] x {} = (.ok (.arr t xs), s0)) (hi : eval (specOf c) [] i s0 = (.ok (.int .int iv), s1))
    (h0 : 0 ≤ iv) (hr : inRange .int iv) (hlen : inRange .int (xs.length : Nat))
    (hL : Conf c cfgL (.slice m x none (some i)) cpL) (hR : Conf c cfgR (.slice m' x (some i) none) cpR) :
    ∃ l r, l ++ r = xs ∧ ∃ N, ∀ fuel, N ≤ fuel →
      vmOut c cpL fuel = (.ok (.arr t l), s1) ∧ vmOut c cpR fuel = (.ok (.arr t r), s1) := by
  obtain ⟨l, r, h1, h2, h3⟩ := slice_partitions_eval (specOf c) [] m m' x i {} s0 s1 t xs iv hx hi h0 hr hlen
  refine ⟨l, r, h3, ?_⟩
  exact transfer_eval hL hR hcL hcR (fun a b => a = (.ok (.arr t l), s1) ∧ b = (.ok (.arr t r), s1)) ⟨h1, h2⟩


def rng : Node := .binary m0 ".." (.int m0 1) (.int m0 3)
def gt (k : Int) : Node := .binary m0 ">" (.pointer m0) (.int m0 k)

def compiled (n : Node) : Compiled :=
  match compileProgram {} n with
  | .ok cp => cp
  | .error _ => default

def tAll : Node := .builtin m0 "all" [rng, .closure m0 (gt 0)]
def tNotAny : Node := .unary m0 "not" (.builtin m0 "any" [rng, .closure m0 (.unary m0 "not" (gt 0))])
def tNone : Node := .builtin m0 "none" [rng, .closure m0 (gt 2)]
def tNotAny2 : Node := .unary m0 "not" (.builtin m0 "any" [rng, .closure m0 (gt 2)])
def tOne : Node := .builtin m0 "one" [rng, .closure m0 (gt 2)]
def tCountEq1 : Node := .binary m0 "==" (.builtin m0 "count" [rng, .closure m0 (gt 2)]) (.int m0 1)
def tCount : Node := .builtin m0 "count" [rng, .closure m0 (gt 1)]
def tLenFilter : Node := .builtin m0 "len" [.builtin m0 "filter" [rng, .closure m0 (gt 1)]]
def tFilter : Node := .builtin m0 "filter" [rng, .closure m0 (gt 1)]
def tLenMap : Node := .builtin m0 "len" [.builtin m0 "map" [rng, .closure m0 (.pointer m0)]]
def tLen : Node := .builtin m0 "len" [rng]
def tIn : Node := .binary m0 "in" (.int m0 2) rng
def tTwoSided : Node := .binary m0 "and" (.binary m0 ">=" (.int m0 2) (.int m0 1)) (.binary m0 "<=" (.int m0 2) (.int m0 3))

/-- what is decided about a tree by running the compiler once: it compiles, `floatsOK`, `FitsU16` -/
def compilesOK (n : Node) : Bool :=
  match compileProgram {} n with
  | .ok cp => floatsOK n && decide (FitsU16 cp.code)
  | .error _ => false

private theorem conf_of_compilesOK {c : Cfg} {n : Node} (h : compilesOK n = true) (hg : Good (SmallColl c) n) :
    Conf c {} n (compiled n) := by
  unfold compilesOK at h
  unfold compiled
  cases hcp : compileProgram {} n with
  | error e => rw [hcp] at h; cases h
  | ok cp =>
    rw [hcp] at h
    simp only [Bool.and_eq_true, decide_eq_true_eq] at h
    exact ⟨hcp, h.1, h.2, (fun hm => by cases hm), hg⟩

private theorem good_loop (c : Cfg) {name : String} {body : Node} (hb : Good (SmallColl c) body) :
    Good (SmallColl c) (.builtin m0 name [rng, .closure m0 body]) :=
  ⟨.inr (C01.ex_small c), ⟨trivial, trivial⟩, hb, trivial⟩

theorem conf_tAll (c : Cfg) : Conf c {} tAll (compiled tAll) :=
  (conf_of_compilesOK (by decide) (good_loop c ⟨trivial, trivial⟩))

theorem conf_tNotAny (c : Cfg) : Conf c {} tNotAny (compiled tNotAny) :=
  (conf_of_compilesOK (by decide) (good_loop c ⟨trivial, trivial⟩))

example (c : Cfg) : ∃ N, ∀ fuel, N ≤ fuel → vmOut c (compiled tAll) fuel = vmOut c (compiled tNotAny) fuel :=
  all_eq_not_any_not_vm c {} {} rfl m0 m0 m0 m0 m0 m0 "not" "not" (.inl rfl) (.inl rfl) rng (gt 0) _ _
    (conf_tAll c) (conf_tNotAny c)

theorem conf_loop (c : Cfg) (name : String) (_hn : name ≠ "len") (body : Node) (hb : Good (SmallColl c) body)
    (hcomp : compileProgram {} (.builtin m0 name [rng, .closure m0 body]) = .ok (compiled (.builtin m0 name [rng, .closure m0 body])))
    (hfl : floatsOK (.builtin m0 name [rng, .closure m0 body]) = true)
    (hfit : FitsU16 (compiled (.builtin m0 name [rng, .closure m0 body])).code) :
    Conf c {} (.builtin m0 name [rng, .closure m0 body]) (compiled (.builtin m0 name [rng, .closure m0 body])) :=
  ⟨hcomp, hfl, hfit, (fun h => by cases h), ⟨.inr (C01.ex_small c), ⟨trivial, trivial⟩, hb, trivial⟩⟩

set_option maxRecDepth 8000 in
example (c : Cfg) : ∃ N, ∀ fuel, N ≤ fuel → vmOut c (compiled tNone) fuel = vmOut c (compiled tNotAny2) fuel :=
  none_eq_not_any_vm c {} {} rfl m0 m0 m0 "not" (.inl rfl) rng (.closure m0 (gt 2)) _ _
    (conf_of_compilesOK (by decide) (good_loop c ⟨trivial, trivial⟩))
    (conf_of_compilesOK (by decide) (good_loop c ⟨trivial, trivial⟩))

set_option maxRecDepth 8000 in
example (c : Cfg) : ∃ N, ∀ fuel, N ≤ fuel → vmOut c (compiled tOne) fuel = vmOut c (compiled tCountEq1) fuel :=
  one_eq_count_one_vm c {} {} rfl m0 m0 m0 m0 rng (.closure m0 (gt 2)) rfl (by decide) _ _
    (conf_of_compilesOK (by decide) (good_loop c ⟨trivial, trivial⟩))
    (conf_of_compilesOK (by decide) ⟨(good_loop c ⟨trivial, trivial⟩), trivial⟩)

theorem rng_seq (sc : SCfg) (ctx : Ctx) (σ : SState) : ∀ coll s', eval sc ctx rng σ = (.ok coll, s') → SeqVal coll :=
  fun _ _ h => C01.eval_rng h ▸ ⟨rfl, by decide⟩

set_option maxRecDepth 8000 in
example (c : Cfg) : ∃ N, ∀ fuel, N ≤ fuel →
    vmOut c (compiled tLenFilter) fuel = chargeLen c.budget (vmOut c (compiled tCount) fuel) :=
  count_eq_len_filter_vm c {} {} rfl rfl m0 m0 m0 rng (.closure m0 (gt 1)) _ _ (rng_seq _ _ _)
    (conf_of_compilesOK (by decide) (good_loop c ⟨trivial, trivial⟩))
    (conf_of_compilesOK (by decide) ⟨.inl rfl, (good_loop c ⟨trivial, trivial⟩), trivial⟩)

set_option maxRecDepth 8000 in
example (c : Cfg) : ∃ N, ∀ fuel, N ≤ fuel → ∀ v, (vmOut c (compiled tLenMap) fuel).1 = .ok v →
    (vmOut c (compiled tLen) fuel).1 = .ok v :=
  len_map_vm c {} {} rfl rfl m0 m0 m0 rng (.closure m0 (.pointer m0)) _ _
    (conf_of_compilesOK (by decide) ⟨.inl rfl, ⟨.inr (C01.ex_small c), ⟨trivial, trivial⟩, trivial, trivial⟩, trivial⟩)
    (conf_of_compilesOK (by decide) ⟨.inl rfl, ⟨trivial, trivial⟩, trivial⟩)

set_option maxRecDepth 8000 in
example (c : Cfg) : Conf c {} tFilter (compiled tFilter) :=
  conf_of_compilesOK (by decide) (good_loop c ⟨trivial, trivial⟩)

set_option maxRecDepth 8000 in
example (c : Cfg) : ∃ N, ∀ fuel, N ≤ fuel →
    vmOut c (compiled tIn) fuel = chargeRange c.budget (rangeCounted (specOf c) 1 3) (rangeElems 1 3).length
      (vmOut c (compiled tTwoSided) fuel) ∧
    (vmOut c (compiled tTwoSided) fuel).1 = .ok (.bool (decide ((1 : Int) ≤ normInt .int 2 ∧ normInt .int 2 ≤ 3))) :=
  in_range_eq_two_sided_vm c {} {} rfl rfl m0 m0 m0 m0 m0 (.int m0 2) (.int m0 1) (.int m0 3) .int 2 1 3 _ _
    rfl rfl rfl (by decide) (by decide) rfl (by intro h; exact absurd h (by decide))
    (conf_of_compilesOK (by decide) ⟨trivial, trivial, trivial⟩)
    (conf_of_compilesOK (by decide) ⟨⟨trivial, trivial⟩, trivial, trivial⟩)

def arr3 : Node := .const m0 (.arr (.num .int) [.int .int 5, .int .int 6, .int .int 7])
def tPrefix : Node := .slice m0 arr3 none (some (.int m0 1))
def tSuffix : Node := .slice m0 arr3 (some (.int m0 1)) none

set_option maxRecDepth 8000 in
example (c : Cfg) : ∃ l r, l ++ r = [Val.int .int 5, .int .int 6, .int .int 7] ∧ ∃ N, ∀ fuel, N ≤ fuel →
    vmOut c (compiled tPrefix) fuel = (.ok (.arr (.num .int) l), {}) ∧
    vmOut c (compiled tSuffix) fuel = (.ok (.arr (.num .int) r), {}) :=
  slice_partitions_vm c {} {} rfl rfl m0 m0 arr3 (.int m0 1) {} {} (.num .int) _ 1 _ _ rfl rfl (by decide) (by decide)
    (by decide)
    (conf_of_compilesOK (by decide) ⟨trivial, trivial, trivial⟩)
    (conf_of_compilesOK (by decide) ⟨trivial, trivial, trivial⟩)


open ExprModel.Refine ExprModel in
/-- The compiled code of any tree `n` (in particular the body of a closure, at any nesting depth), placed anywhere
    in a program, run by the byte-level VM from two states whose scope stacks represent two closure contexts with the
    **same innermost entry** (collection and index) — whatever lies below it — and the same counters, ends alike:
    the same value pushed, or the same failure class, with the same counters and call log.  C01's refinement (for an
    arbitrary context) composed with `eval_depends_on_innermost_only`.  Hypotheses as in C01 `compile_correct_partial`. -/
theorem closure_sees_innermost_vm (n : Node) (cfg : CompCfg) (pool pool' : Pool) (code : List LInstr) (F : Val → Prop)
    (hc : compileNode cfg n pool = .ok (code, pool')) (hF : AliasFree F) (hinv : PoolInv F pool) (hfl : FloatsIn F n)
    (P : Prog) (pre post : List LInstr)
    (hP : P.code = (encodeAll ((pre ++ code ++ post).map (·.instr))).toArray) (hK : PoolExt pool' P.consts)
    (hfit : FitsU16 code) (c : Cfg) (henv : EnvOK c cfg) (hg : Good (SmallColl c) n)
    (ctx1 ctx2 : Ctx) (hhead : ctx1.head? = ctx2.head?) (s1 s2 : VM)
    (hip1 : s1.ip = lsize pre) (hip2 : s2.ip = lsize pre) (hl1 : s1.limit = c.budget) (hl2 : s2.limit = c.budget)
    (hsc1 : ScopesOK ctx1 s1.scopes) (hsc2 : ScopesOK ctx2 s2.scopes) (hobs : obs s1 = obs s2) :
    (∃ v σ' t1 t2, Steps c P s1 t1 ∧ Steps c P s2 t2 ∧ t1.stack = v :: s1.stack ∧ t2.stack = v :: s2.stack ∧
        t1.scopes = s1.scopes ∧ t2.scopes = s2.scopes ∧ obs t1 = σ' ∧ obs t2 = σ') ∨
    (∃ e σ' a1 b1 a2 b2, Steps c P s1 a1 ∧ step c P a1 = .error (e, b1) ∧ Steps c P s2 a2 ∧
        step c P a2 = .error (e, b2) ∧ obs b1 = σ' ∧ obs b2 = σ') := by
  have h1 := C01.compile_correct_partial n cfg pool pool' code F hc hF hinv hfl P pre post hP hK hfit c henv hg ctx1
    s1 hip1 hl1 hsc1
  have h2 := C01.compile_correct_partial n cfg pool pool' code F hc hF hinv hfl P pre post hP hK hfit c henv hg ctx2
    s2 hip2 hl2 hsc2
  have heq : eval (specOf c) ctx2 n (obs s2) = eval (specOf c) ctx1 n (obs s1) := by
    rw [eval_depends_on_innermost_only (specOf c) ctx1 ctx2 hhead n, hobs]
  rcases hr : eval (specOf c) ctx1 n (obs s1) with ⟨r, σ'⟩
  have g1 := h1 r σ' hr
  have g2 := h2 r σ' (heq.trans hr)
  cases r with
  | ok v =>
    obtain ⟨t1, st1, _, hs1, hc1, _, ho1⟩ := g1
    obtain ⟨t2, st2, _, hs2, hc2, _, ho2⟩ := g2
    exact Or.inl ⟨v, σ', t1, t2, st1, st2, hs1, hs2, hc1, hc2, ho1, ho2⟩
  | error e =>
    obtain ⟨a1, b1, sa1, _, hb1, ho1⟩ := g1
    obtain ⟨a2, b2, sa2, _, hb2, ho2⟩ := g2
    exact Or.inr ⟨e, σ', a1, b1, a2, b2, sa1, hb1, sa2, hb2, ho1, ho2⟩

/-- non-vacuity of the scope hypotheses: the same innermost scope (element 1 of `[5, 6]`) on top of nothing, and on
    top of two enclosing loops over other collections — both represent contexts with the same head -/
example :
    let coll : Val := .arr .iface [.int .int 5, .int .int 6]
    let sc : Scope := [("array", coll), ("i", .int .int 1)]
    let out1 : Scope := [("array", .arr .iface [.str "x"]), ("i", .int .int 0)]
    let out2 : Scope := [("array", .arr .iface []), ("i", .int .int 7), ("count", .int .int 3)]
    Refine.ScopesOK [(coll, 1)] [sc] ∧
    Refine.ScopesOK [(coll, 1), (.arr .iface [.str "x"], 0), (.arr .iface [], 7)] [sc, out1, out2] ∧
    ([(coll, (1 : Int))] : Ctx).head? = ([(coll, 1), (.arr .iface [.str "x"], 0), (.arr .iface [], 7)] : Ctx).head? := by
  refine ⟨⟨_, _, rfl, rfl, rfl⟩, ⟨_, _, rfl, rfl, rfl⟩, rfl⟩

end ExprModel.C18
