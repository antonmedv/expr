import ExprModel.Proofs.LexString
import ExprModel.Proofs.LexNumTok
import ExprModel.Gen.LexTables
/-
C12 — Literals and token positions are lexed faithfully.  The model `ExprModel.Lex` (`lex`, `parseNumber`, `unescape`)
is parameterised by the literal tables of the lexer source and by the if/else-if chain of parser.go that classifies a
Number token.  The translator regenerates both (`Gen.lexTables`, `Gen.numCfg`); `tables_pinned` and `numcfg_is_repaired`
check that they are the values the theorems are stated for; the harness compares `lex` / `parseNumber` with the code.
-/
namespace ExprModel.C12
open ExprModel ExprModel.Lex

/-- the class strings, keyword operators and escape tables of lexer.go / state.go / utils.go are the ones
every theorem here is stated for -/
theorem tables_pinned : Gen.lexTables = LexTables.std := by decide +kernel

/-- parser.go classifies a Number token by one of the two known chains: float test first (`NumCfg.asIs`, the
code before commit 01cf413) or hexadecimal test first (`NumCfg.repaired`, the code after it) -/
theorem numcfg_known : Gen.numCfg = NumCfg.asIs ∨ Gen.numCfg = NumCfg.repaired := by decide

/-- … and it is the hexadecimal-first one: the theorems stated for `NumCfg.repaired` (`hex_roundtrip`,
`hex_literal`) are about the code; a return of parser.go to the float-first chain breaks this theorem -/
theorem numcfg_is_repaired : Gen.numCfg = NumCfg.repaired := by decide

def withCase : List Nat → List Bool → List (Nat × Bool)
  | [], _ => []
  | d :: ds, [] => (d, false) :: withCase ds []
  | d :: ds, u :: us => (d, u) :: withCase ds us

theorem withCase_fst (ds : List Nat) (us : List Bool) : (withCase ds us).map (·.1) = ds := by
  induction ds generalizing us with
  | nil => rfl
  | cons d ds ih => cases us <;> simp [withCase, ih]

theorem withCase_mem {ds : List Nat} {us : List Bool} {p : Nat × Bool} (h : p ∈ withCase ds us) : p.1 ∈ ds := by
  have : p.1 ∈ (withCase ds us).map (·.1) := List.mem_map.mpr ⟨p, h, rfl⟩
  rwa [withCase_fst] at this

/-- `n` in decimal, `seps[i]` underscores after the i-th digit -/
def decimalSpelling (n : Nat) (seps : List Nat) : String :=
  String.ofList (withSeps ((digitsOf 10 n).map decChar) seps)

/-- `0x` / `0X`, `k` underscores, then `n` in hexadecimal with a letter case per digit and `seps[i]`
underscores after the i-th digit -/
def hexSpelling (mark : Char) (n : Nat) (ups : List Bool) (k : Nat) (seps : List Nat) : String :=
  String.ofList ('0' :: mark :: (List.replicate k '_' ++ withSeps (hexChars (withCase (digitsOf 16 n) ups)) seps))

example : decimalSpelling 1234567 [0, 3, 0, 0, 1] = "12___345_67" := by decide
example : hexSpelling 'x' 0x1e5f [true, false, true] 1 [0, 2] = "0x_1e__5f" := by decide
example : hexSpelling 'X' 255 [true] 0 [] = "0XFf" := by decide

/-- Decimal digits (leading zeros allowed) with any placement of separators parse to their value. -/
theorem decimal_roundtrip_digits (cfg : NumCfg) (hcfg : cfg = .asIs ∨ cfg = .repaired)
    (ds : List Nat) (hne : ds ≠ []) (hd : ∀ d ∈ ds, d < 10) (hv : ofDigits 10 ds < 2 ^ 63) (seps : List Nat) :
    parseNumber cfg (String.ofList (withSeps (ds.map decChar) seps)) = .ok (.int (ofDigits 10 ds)) := by
  have h : cfg.DecimalOK := by
    rcases hcfg with rfl | rfl
    · exact asIs_decimalOK
    · exact repaired_decimalOK
  simp only [parseNumber, String.toList_ofList]
  exact parseNumberChars_decimal cfg h ds hne hd hv seps

/-- every `n < 2^63`, written in decimal with any admissible placement of `_`, parses to exactly `n` — under
either chain of `numcfg_known` -/
theorem decimal_roundtrip (cfg : NumCfg) (hcfg : cfg = .asIs ∨ cfg = .repaired) (n : Nat) (hn : n < 2 ^ 63)
    (seps : List Nat) : parseNumber cfg (decimalSpelling n seps) = .ok (.int n) := by
  have := decimal_roundtrip_digits cfg hcfg (digitsOf 10 n) (digitsOf_ne_nil 10 n)
    (digitsOf_lt 10 (by decide) n) (by rw [ofDigits_digitsOf 10 (by decide)]; exact hn) seps
  rw [ofDigits_digitsOf 10 (by decide)] at this
  exact this

/-- … in particular for the chain regenerated from parser.go on this run -/
theorem decimal_roundtrip_code (n : Nat) (hn : n < 2 ^ 63) (seps : List Nat) :
    parseNumber Gen.numCfg (decimalSpelling n seps) = .ok (.int n) :=
  decimal_roundtrip Gen.numCfg numcfg_known n hn seps

def hex_roundtrip_goal (cfg : NumCfg) : Prop :=
  ∀ (mark : Char), mark = 'x' ∨ mark = 'X' → ∀ (n : Nat), n < 2 ^ 63 → ∀ (ups : List Bool) (k : Nat) (seps : List Nat),
    parseNumber cfg (hexSpelling mark n ups k seps) = .ok (.int n)

private theorem hexSpelling_parse (cfg : NumCfg) (mark : Char) (hm : mark = 'x' ∨ mark = 'X') (n : Nat) (hn : n < 2 ^ 63)
    (ups : List Bool) (k : Nat) (seps : List Nat)
    (hclass : (∀ p ∈ withCase (digitsOf 16 n) ups, p.1 < 16) →
      cfg.classify ('0' :: mark :: hexChars (withCase (digitsOf 16 n) ups)) = .int 0) :
    parseNumber cfg (hexSpelling mark n ups k seps) = .ok (.int n) := by
  have hd : ∀ p ∈ withCase (digitsOf 16 n) ups, p.1 < 16 :=
    fun p hp => digitsOf_lt 16 (by decide) n p.1 (withCase_mem hp)
  have := parseNumberChars_hex cfg mark hm (withCase (digitsOf 16 n) ups)
    (by intro h
        have := congrArg (List.map (·.1)) h
        rw [withCase_fst] at this
        exact digitsOf_ne_nil 16 n this)
    hd (hclass hd) (by rw [withCase_fst, ofDigits_digitsOf 16 (by decide)]; exact hn) k seps
  rw [withCase_fst, ofDigits_digitsOf 16 (by decide)] at this
  simp only [parseNumber, hexSpelling, String.toList_ofList]
  exact this

/-- hexadecimal-first chain (the code's: `numcfg_is_repaired`): every `n < 2^63` in hexadecimal — either prefix
letter, any mix of upper and lower case digits (`e`/`E` included), separators anywhere after the prefix — parses to `n`. -/
theorem hex_roundtrip : hex_roundtrip_goal NumCfg.repaired := by
  intro mark hm n hn ups k seps
  exact hexSpelling_parse _ mark hm n hn ups k seps ((repaired_hexOK mark hm).classify _)

/-- what is left of the round trip under the float-first chain `NumCfg.asIs` (it holds for either chain):
lower-case prefix `0x` and no hexadecimal digit `e`/`E` (digit value 14) in the number. -/
theorem hex_roundtrip_partial (cfg : NumCfg) (hcfg : cfg = .asIs ∨ cfg = .repaired) (n : Nat) (hn : n < 2 ^ 63)
    (hnoE : ∀ d ∈ digitsOf 16 n, d ≠ 14) (ups : List Bool) (k : Nat) (seps : List Nat) :
    parseNumber cfg (hexSpelling 'x' n ups k seps) = .ok (.int n) := by
  have hc : cfg.HexNoEOK 'x' := by
    rcases hcfg with rfl | rfl
    · exact asIs_hexNoEOK
    · exact hexOK_noE (repaired_hexOK 'x' (Or.inl rfl))
  exact hexSpelling_parse cfg 'x' (Or.inl rfl) n hn ups k seps fun hd =>
    hc.classify _ hd fun p hp => hnoE p.1 (withCase_mem hp)

/-- the hypotheses of `hex_roundtrip_partial` are satisfiable: `2^63 - 1`; `31 = 0x1f` has no digit 14 -/
example : (9223372036854775807 : Nat) < 2 ^ 63 ∧ ∀ d ∈ digitsOf 16 31, d ≠ 14 := by decide

/-- … for the chain regenerated from parser.go on this run -/
theorem hex_roundtrip_partial_code (n : Nat) (hn : n < 2 ^ 63) (hnoE : ∀ d ∈ digitsOf 16 n, d ≠ 14)
    (ups : List Bool) (k : Nat) (seps : List Nat) :
    parseNumber Gen.numCfg (hexSpelling 'x' n ups k seps) = .ok (.int n) :=
  hex_roundtrip_partial Gen.numCfg numcfg_known n hn hnoE ups k seps

theorem hex_roundtrip_code_of_repaired (h : Gen.numCfg = NumCfg.repaired) : hex_roundtrip_goal Gen.numCfg :=
  h ▸ hex_roundtrip

/-- the full hexadecimal round trip for the chain regenerated from parser.go on this run -/
theorem hex_roundtrip_code : hex_roundtrip_goal Gen.numCfg := hex_roundtrip_code_of_repaired numcfg_is_repaired

/-- under the float-first chain `NumCfg.asIs`, `0xE` (= 14) is sent to ParseFloat, `0x1e5` too, and `0X1F` goes
to ParseInt base 10, which rejects it; the hexadecimal-first chain reads all three. -/
theorem hex_witness :
    parseNumber NumCfg.asIs "0xE" = .ok (.float "0xE") ∧
    parseNumber NumCfg.asIs "0x1e5" = .ok (.float "0x1e5") ∧
    parseNumber NumCfg.asIs "0X1F" = .error "syntax" ∧
    parseNumber NumCfg.repaired "0xE" = .ok (.int 14) ∧
    parseNumber NumCfg.repaired "0x1e5" = .ok (.int 485) ∧
    parseNumber NumCfg.repaired "0X1F" = .ok (.int 31) := by decide +kernel

theorem hex_roundtrip_fails_asIs : ¬ hex_roundtrip_goal NumCfg.asIs := by
  intro h
  have := h 'x' (Or.inl rfl) 14 (by decide) [true] 0 []
  revert this
  decide

/-- a number text with a `.`, `e` or `E` and no `x`/`X` (every decimal or exponent spelling) is handed to
`strconv.ParseFloat` (not modelled) unchanged except for the removal of `_`. -/
theorem float_classified (cfg : NumCfg) (hcfg : cfg = .asIs ∨ cfg = .repaired) (text : List Char)
    (h1 : ∃ c ∈ text, c = '.' ∨ c = 'e' ∨ c = 'E') (h2 : ∀ c ∈ text, c ≠ 'x' ∧ c ≠ 'X') :
    parseNumber cfg (String.ofList text) = .ok (.float (String.ofList (stripUnderscores text))) := by
  simp only [parseNumber, String.toList_ofList, parseNumberChars]
  obtain ⟨c, hc, hc'⟩ := h1
  have hmem : c ∈ stripUnderscores text := by
    simp only [stripUnderscores, List.mem_filter]
    refine ⟨hc, ?_⟩
    rcases hc' with rfl | rfl | rfl <;> decide
  have hf : NumTest.holds (stripUnderscores text) (.containsAny ['.', 'e', 'E']) = true :=
    containsAny_true _ _ c hmem (by rcases hc' with rfl | rfl | rfl <;> simp)
  have hx : NumTest.holds (stripUnderscores text) (.containsAny ['x', 'X']) = false :=
    containsAny_false _ _ (by
      intro d hd x hx
      have hd' : d ∈ text := (List.mem_filter.mp hd).1
      have := h2 d hd'
      simp at hx
      rcases hx with rfl | rfl <;> simp [this])
  have hcl : cfg.classify (stripUnderscores text) = .float := by
    rcases hcfg with rfl | rfl
    · simp [NumCfg.classify, NumCfg.asIs, classifyIn, hf]
    · simp [NumCfg.classify, NumCfg.repaired, classifyIn, hf, hx]
  simp [hcl]

example : parseNumber NumCfg.asIs "1_0.5e-3" = .ok (.float "10.5e-3") := by decide

/-- the literal a string value is written as: `cs` pairs every character of the value with the way it is
spelled (`Spell.raw`, `.named` = `\a \b \f \n \r \t \v \\` or the escaped quote, `.x` = `\xHH`, `.u` = `\uXXXX`,
`.U` = `\UXXXXXXXX` with a letter case per digit, `.oct` = `\NNN`) -/
def stringSpelling (q : Char) (cs : List (Char × Spell)) : String := String.ofList (renderLit q cs)

example : stringSpelling '"' [('a', .raw), ('\n', .named), ('"', .named), ('é', .x [true]), ('é', .u []),
    ('😀', .U [false, false, false, true, true]), ('A', .oct), ('\'', .raw), ('\t', .raw)]
    = "\"a\\n\\\"\\xE9\\u00e9\\U0001F600\\101'\t\"" := by decide +kernel

/-- for every string value (any Unicode scalar values: control characters, quotes, backslashes, non-BMP),
either quote, and every admissible choice of spelling per character, lexing the literal yields exactly one
String token holding that value, at 1:0, followed by EOF.  `cc` is any classification of runes that does not
call the quote a space (true of `unicode.IsSpace`). -/
theorem string_roundtrip (cc : CharClass) (q : Char) (hq : q = '"' ∨ q = '\'') (hsp : cc.isSpace q = false)
    (cs : List (Char × Spell)) (hok : ∀ p ∈ cs, p.2.Ok q p.1) :
    lex cc LexTables.std (stringSpelling q cs) =
      .ok [{ kind := .string, value := String.ofList (cs.map (·.1)), loc := ⟨1, 0⟩ },
           { kind := .eof, value := "", loc := ⟨1, (renderLit q cs).length - 1⟩ }] := by
  simp only [lex, stringSpelling, String.toList_ofList]
  exact lexChars_lit cc hq hsp (renderBody_reads q hq cs hok)

/-- every character has an admissible spelling (`\U`): the quantification over `Spell.Ok` choices is never empty -/
theorem spelling_exists (q c : Char) : ∃ sp : Spell, sp.Ok q c := ⟨.U [], trivial⟩

/-- … with the tables regenerated from the source on this run and any ASCII-exact classification -/
theorem string_roundtrip_code (cc : CharClass) (hcc : cc.AsciiExact) (q : Char) (hq : q = '"' ∨ q = '\'')
    (cs : List (Char × Spell)) (hok : ∀ p ∈ cs, p.2.Ok q p.1) :
    lex cc Gen.lexTables (stringSpelling q cs) =
      .ok [{ kind := .string, value := String.ofList (cs.map (·.1)), loc := ⟨1, 0⟩ },
           { kind := .eof, value := "", loc := ⟨1, (renderLit q cs).length - 1⟩ }] := by
  rw [tables_pinned]
  refine string_roundtrip cc q hq ?_ cs hok
  rcases hq with rfl | rfl
  · rw [hcc.space _ (by decide)]; decide
  · rw [hcc.space _ (by decide)]; decide

/-- quirks of the code the round trip has to respect (and the model mirrors): a raw carriage return inside a
literal becomes a line feed; `\'` inside a double-quoted literal is rejected by `scanEscape` although
`unescapeChar` knows it; `\400` passes `scanEscape` and is rejected by `unescapeChar` (error reported after
the closing quote); `\xE9` denotes U+00E9, not the byte E9; a surrogate `\uD800` becomes U+FFFD -/
theorem string_quirks :
    lexChars CharClass.ascii LexTables.std ['"', 'a', '\r', 'b', '"'] =
      .ok [⟨.string, "a\nb", ⟨1, 0⟩⟩, ⟨.eof, "", ⟨1, 4⟩⟩] ∧
    lexChars CharClass.ascii LexTables.std "\"\\'\"".toList = .error (⟨1, 3⟩, "escape") ∧
    lexChars CharClass.ascii LexTables.std "'\\''".toList = .ok [⟨.string, "'", ⟨1, 0⟩⟩, ⟨.eof, "", ⟨1, 3⟩⟩] ∧
    lexChars CharClass.ascii LexTables.std "\"\\400\"".toList = .error (⟨1, 6⟩, "unescape") ∧
    lexChars CharClass.ascii LexTables.std "\"\\xE9\"".toList = .ok [⟨.string, "é", ⟨1, 0⟩⟩, ⟨.eof, "", ⟨1, 5⟩⟩] ∧
    lexChars CharClass.ascii LexTables.std "\"\\uD800\"".toList = .ok [⟨.string, "\uFFFD", ⟨1, 0⟩⟩, ⟨.eof, "", ⟨1, 7⟩⟩] ∧
    lexChars CharClass.ascii LexTables.std "\"a\nb\"".toList = .error (⟨2, 0⟩, "unterminated") := by decide +kernel

/-- for every source and every classification of runes, when `lex` succeeds its tokens lie in the source one
after the other, separated only by white space, each token located at the position (`advLoc ⟨1,0⟩ (text before it)`:
line 1-based, column 0-based, in runes) of the first character of its raw text, whose relation to the token value
is `TextOf` (identical text; or the text `unescape`s to the value of a String token; or `not`, runes that
`acceptWord` skips (`cc.wordBlank`), `in` for the operator `not in`); the last token is EOF. -/
theorem token_positions (cc : CharClass) (src : String) (toks : List Token)
    (h : lex cc LexTables.std src = .ok toks) : Laid cc LexTables.std ⟨1, 0⟩ src.toList toks :=
  lexChars_laid cc src.toList toks h

/-- … token by token: every token except EOF carries the position of the first character of its text -/
theorem token_positions_each (cc : CharClass) (src : String) (toks : List Token)
    (h : lex cc LexTables.std src = .ok toks) :
    ∀ t ∈ toks, t.kind ≠ .eof → ∃ pre raw post, src.toList = pre ++ raw ++ post ∧ raw ≠ [] ∧
      (∀ c, raw.head? = some c → cc.isSpace c = false) ∧ t.loc = posOf pre ∧ TextOf cc LexTables.std t raw :=
  (token_positions cc src toks h).positions

theorem lex_ends_with_eof (cc : CharClass) (src : String) (toks : List Token)
    (h : lex cc LexTables.std src = .ok toks) :
    ∃ ts t, toks = ts ++ [t] ∧ t.kind = .eof ∧ ∀ x ∈ ts, x.kind ≠ .eof :=
  (token_positions cc src toks h).last_eof

/-- the fuel of the model's main loop (`|source| + 1` root steps) is never what ends a run: every step reads at
least one rune or stops -/
theorem lex_total (cc : CharClass) (src : String) (e : LexErr) (h : lex cc LexTables.std src = .error e) :
    e.2 ≠ "fuel" := lexChars_no_fuel cc src.toList e h

theorem posOf_line (pre : List Char) : (posOf pre).line = 1 + pre.count '\n' := advLoc_line _ _
theorem posOf_col_first_line (pre : List Char) (h : ∀ c ∈ pre, c ≠ '\n') : (posOf pre).col = pre.length := by
  rw [posOf, advLoc_noNL _ _ h]; simp
theorem posOf_col_after_newline (a b : List Char) (h : ∀ c ∈ b, c ≠ '\n') :
    (posOf (a ++ '\n' :: b)).col = b.length := advLoc_col_afterNL _ a b h

/-- … for the tables regenerated from the source on this run -/
theorem token_positions_code (cc : CharClass) (src : String) (toks : List Token)
    (h : lex cc Gen.lexTables src = .ok toks) : Laid cc LexTables.std ⟨1, 0⟩ src.toList toks :=
  token_positions cc src toks (tables_pinned ▸ h)

/-- non-vacuity: multi-line, multi-byte, `not in`, a range -/
example : lex CharClass.ascii LexTables.std "a\n  not  in [1..2,\n\t\"é\\n\"]" =
    .ok [⟨.identifier, "a", ⟨1, 0⟩⟩, ⟨.operator, "not in", ⟨2, 2⟩⟩, ⟨.bracket, "[", ⟨2, 10⟩⟩,
      ⟨.number, "1", ⟨2, 11⟩⟩, ⟨.operator, "..", ⟨2, 12⟩⟩, ⟨.number, "2", ⟨2, 14⟩⟩, ⟨.operator, ",", ⟨2, 15⟩⟩,
      ⟨.string, "é\n", ⟨3, 1⟩⟩, ⟨.bracket, "]", ⟨3, 6⟩⟩, ⟨.eof, "", ⟨3, 6⟩⟩] := by decide +kernel

/-- the shape of lexer.go `acceptWord` that skips every space rune (`notInAnySpace = true`): a line feed between
`not` and `in` and a bracket right after `in`; the operator is located at `not`, the tokens after it on the next line -/
example : lex { CharClass.ascii with notInAnySpace := true } LexTables.std "a not\n\tin[b]" =
    .ok [⟨.identifier, "a", ⟨1, 0⟩⟩, ⟨.operator, "not in", ⟨1, 2⟩⟩, ⟨.bracket, "[", ⟨2, 3⟩⟩,
      ⟨.identifier, "b", ⟨2, 4⟩⟩, ⟨.bracket, "]", ⟨2, 5⟩⟩, ⟨.eof, "", ⟨2, 5⟩⟩] := by decide +kernel

/-- … and with the shape that skips U+0020 only (`notInAnySpace = false`, the default) the same text is `not`, `in` -/
example : lex CharClass.ascii LexTables.std "a not\n\tin[b]" =
    .ok [⟨.identifier, "a", ⟨1, 0⟩⟩, ⟨.operator, "not", ⟨1, 2⟩⟩, ⟨.operator, "in", ⟨2, 1⟩⟩, ⟨.bracket, "[", ⟨2, 3⟩⟩,
      ⟨.identifier, "b", ⟨2, 4⟩⟩, ⟨.bracket, "]", ⟨2, 5⟩⟩, ⟨.eof, "", ⟨2, 5⟩⟩] := by decide +kernel

/-- EOF is placed at `prev`: here at 1:1, the position *of* the last character, not the one after it -/
example : lex CharClass.ascii LexTables.std "ab" = .ok [⟨.identifier, "ab", ⟨1, 0⟩⟩, ⟨.eof, "", ⟨1, 1⟩⟩] := by decide +kernel

/-- a decimal spelling alone in the source is exactly one Number token whose value is the spelling (so
`decimal_roundtrip` applies to what the parser receives) -/
theorem decimal_lexes (cc : CharClass) (hcc : cc.AsciiExact) (n : Nat) (seps : List Nat) :
    ∃ l, lex cc LexTables.std (decimalSpelling n seps) =
      .ok [{ kind := .number, value := decimalSpelling n seps, loc := ⟨1, 0⟩ }, { kind := .eof, value := "", loc := l }] := by
  simp only [lex, decimalSpelling, String.toList_ofList]
  obtain ⟨c, cs, e, hc, hcs⟩ := withSeps_decimal _ (digitsOf_ne_nil 10 n) (digitsOf_lt 10 (by decide) n) seps
  rw [e]
  exact spells_alone (spells_decDigits hcc c cs hc hcs) (intFollow_nil cc)

/-- likewise for every hexadecimal spelling, either prefix letter, `e`/`E` digits included (the float-first chain
of parser.go is what loses those, not the lexer) -/
theorem hex_lexes (cc : CharClass) (hcc : cc.AsciiExact) (mark : Char) (hm : mark = 'x' ∨ mark = 'X') (n : Nat)
    (ups : List Bool) (k : Nat) (seps : List Nat) :
    ∃ l, lex cc LexTables.std (hexSpelling mark n ups k seps) =
      .ok [{ kind := .number, value := hexSpelling mark n ups k seps, loc := ⟨1, 0⟩ }, { kind := .eof, value := "", loc := l }] := by
  simp only [lex, hexSpelling, String.toList_ofList]
  exact spells_alone
    (spells_hexInt hcc mark _ (by rcases hm with rfl | rfl <;> decide)
      (withSeps_hex _ (fun p hp => digitsOf_lt 16 (by decide) n p.1 (withCase_mem hp)) k seps))
    (intFollow_nil cc)

/-- lexer and number conversion together, for the code's own tables and chain -/
theorem decimal_literal (cc : CharClass) (hcc : cc.AsciiExact) (n : Nat) (hn : n < 2 ^ 63) (seps : List Nat) :
    ∃ t l, lex cc Gen.lexTables (decimalSpelling n seps) = .ok [t, { kind := .eof, value := "", loc := l }] ∧
      t.kind = .number ∧ t.loc = ⟨1, 0⟩ ∧ parseNumber Gen.numCfg t.value = .ok (.int n) := by
  obtain ⟨l, h⟩ := decimal_lexes cc hcc n seps
  refine ⟨{ kind := .number, value := decimalSpelling n seps, loc := ⟨1, 0⟩ }, l, ?_, rfl, rfl,
    decimal_roundtrip_code n hn seps⟩
  rw [tables_pinned]
  exact h

/-- lexer and number conversion together for hexadecimal spellings, stated for `LexTables.std` and the
hexadecimal-first chain, which `tables_pinned` and `numcfg_is_repaired` show to be the code's -/
theorem hex_literal (cc : CharClass) (hcc : cc.AsciiExact) (mark : Char) (hm : mark = 'x' ∨ mark = 'X')
    (n : Nat) (hn : n < 2 ^ 63) (ups : List Bool) (k : Nat) (seps : List Nat) :
    ∃ t l, lex cc LexTables.std (hexSpelling mark n ups k seps) = .ok [t, { kind := .eof, value := "", loc := l }] ∧
      t.kind = .number ∧ t.loc = ⟨1, 0⟩ ∧ parseNumber NumCfg.repaired t.value = .ok (.int n) := by
  obtain ⟨l, h⟩ := hex_lexes cc hcc mark hm n ups k seps
  exact ⟨{ kind := .number, value := hexSpelling mark n ups k seps, loc := ⟨1, 0⟩ }, l, h, rfl, rfl,
    hex_roundtrip mark hm n hn ups k seps⟩

/-- a digit, further digits / `_`, an optional `.` + digits, an optional `e`/`E` + optional sign + digits
(`FloatParts`: every text strconv.FormatFloat gives a finite non-negative value in the formats e E f g G, and
the same with separators) alone in the source is exactly one Number token with that text -/
theorem float_lexes (cc : CharClass) (hcc : cc.AsciiExact) (p : FloatParts) (hp : p.WF) :
    ∃ l, lex cc LexTables.std (String.ofList p.text) =
      .ok [{ kind := .number, value := String.ofList p.text, loc := ⟨1, 0⟩ }, { kind := .eof, value := "", loc := l }] := by
  simp only [lex, String.toList_ofList]
  exact spells_alone (spells_float_of hcc p hp) ⟨intFollow_nil cc, p.signSafe_nil⟩

/-- with a fraction or an exponent present, the token's text reaches `strconv.ParseFloat` unchanged except for
the removal of `_` (whose result is the FloatNode's value) -/
theorem float_literal (cc : CharClass) (hcc : cc.AsciiExact) (cfg : NumCfg) (hcfg : cfg = .asIs ∨ cfg = .repaired)
    (p : FloatParts) (hp : p.WF) (hfl : p.frac.isSome = true ∨ p.exp.isSome = true) :
    ∃ t l, lex cc LexTables.std (String.ofList p.text) = .ok [t, { kind := .eof, value := "", loc := l }] ∧
      t.kind = .number ∧ t.loc = ⟨1, 0⟩ ∧
      parseNumber cfg t.value = .ok (.float (String.ofList (stripUnderscores p.text))) := by
  obtain ⟨l, h⟩ := float_lexes cc hcc p hp
  refine ⟨{ kind := .number, value := String.ofList p.text, loc := ⟨1, 0⟩ }, l, h, rfl, rfl, ?_⟩
  refine float_classified cfg hcfg p.text ?_ ?_
  · rcases hfl with hf | he
    · cases hfr : p.frac with
      | none => simp [hfr] at hf
      | some fs => exact ⟨'.', by simp [FloatParts.text, FloatParts.fracText, hfr], Or.inl rfl⟩
    · cases hex : p.exp with
      | none => simp [hex] at he
      | some q =>
        obtain ⟨e, sg, xs⟩ := q
        exact ⟨e, by simp [FloatParts.text, FloatParts.expText, hex], Or.inr ((hp.exp _ _ _ hex).1)⟩
  · intro c hc
    rcases hp.chars c hc with h | h
    · exact (by decide : ∀ y ∈ LexTables.std.decDigits, y ≠ 'x' ∧ y ≠ 'X') c (List.contains_iff_mem.mp h)
    · exact (by decide : ∀ y ∈ ['.', 'e', 'E', '+', '-'], y ≠ 'x' ∧ y ≠ 'X') c h

/-- the shape is inhabited: `1e+06` and `0.000001` as strconv prints them, `1_0.5e-3` with a separator -/
example : (FloatParts.mk '1' ['_', '0'] (some ['5']) (some ('e', ['-'], ['3']))).text = "1_0.5e-3".toList ∧
    (FloatParts.mk '1' [] none (some ('e', ['+'], ['0', '6']))).text = "1e+06".toList ∧
    (FloatParts.mk '0' [] (some "000001".toList) none).text = "0.000001".toList := by decide

example : (FloatParts.mk '1' ['_', '0'] (some ['5']) (some ('e', ['-'], ['3']))).WF := by
  refine ⟨by decide, by decide, ?_, ?_⟩
  · intro fs h; cases h; decide
  · intro e sg xs h; cases h; decide

end ExprModel.C12
