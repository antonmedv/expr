import ExprModel.Proofs.WalkPath
import ExprModel.Gen.AstShape
import ExprModel.Gen.Walk
/-
C10 — AST traversal reaches every node exactly once.

Tie: `Gen.nodeFields` (the Node / []Node fields of every struct of ast/node.go) and `Gen.walkTargets`
(the child walks of every case of `walker.walk` in ast/visitor.go) are regenerated on every run;
`walk_table_complete` re-checks that the walker lists exactly the fields, in declaration order.  The
traversal theorems then hold for `walk Gen.walkTargets` — the model the harness compares with the real
`ast.Walk` — for all trees and all visitors.
-/
namespace ExprModel.C10
open ExprModel Node

private theorem mem_NK_all (k : NK) : k ∈ NK.all := by cases k <;> decide

private theorem forall_NK {p : NK → Prop} (h : ∀ k ∈ NK.all, p k) (k : NK) : p k := h k (mem_NK_all k)

/-- The node structs of ast/node.go have exactly the child fields of the model's `Node` type. -/
theorem node_fields_as_modelled : ∀ k : NK, Gen.nodeFields k = (refSlots k).map Slot.erase :=
  forall_NK (by decide +kernel)

/-- the table of child walks read off `walker.walk` is the model's reference table, kind by kind -/
theorem walk_table_is_reference : Gen.walkTargets = refSlots :=
  funext (forall_NK (by decide +kernel))

/-- **WalkTable completeness.** For every node kind, the child slots `walker.walk` walks are exactly the
    `Node` / `[]Node` fields of the struct, in declaration order (a slice field is ranged over). -/
theorem walk_table_complete : ∀ k : NK, (Gen.walkTargets k).map Slot.erase = Gen.nodeFields k := fun k => by
  rw [walk_table_is_reference, node_fields_as_modelled]

/-- nil guards are exactly on the two fields the parser leaves nil (`SliceNode.From`, `SliceNode.To`) -/
theorem walk_guards_as_modelled : ∀ k : NK, (Gen.walkTargets k).map (·.kind) = (refSlots k).map (·.kind) := fun k => by
  rw [walk_table_is_reference]

/-- the children of a node, as the theorems below use them, are the contents of the fields node.go declares -/
theorem children_are_the_fields (n : Node) :
    n.children = (Gen.nodeFields n.nk).flatMap fun fb =>
      match n.getSlot fb.1 with
      | .one c => [c] | .opt o => o.toList | .many cs => cs | .absent => [] := by
  rw [node_fields_as_modelled]
  -- per kind both sides compute to the same list, up to a trailing `++ []` where a field is a list
  cases n with
  | slice m x f t => cases f <;> cases t <;> rfl
  | method m x _ a _ => exact congrArg (x :: ·) (List.append_nil a).symm
  | func _ _ a _ | builtin _ _ a | array _ a | map _ a => exact (List.append_nil a).symm
  | _ => rfl

/-- `walker.walk`: a nil slot is skipped (`if *node == nil { return }`); otherwise `Enter` is the first
    statement, the type switch re-reads `*node` after it, every case ends with `Exit`, every node kind has a
    case, anything else panics; `ast.Walk` just starts it. -/
theorem walker_shape :
    Gen.walkNilGuard = true ∧
    Gen.walkFirstStmt = "w.visitor.Enter(node)" ∧ Gen.walkSwitchSubject = "(*node)" ∧
    (∀ s ∈ Gen.walkCaseLastStmts, s = "w.visitor.Exit(node)") ∧ Gen.walkCaseLastStmts.length = 22 ∧
    (∀ k : NK, Gen.walkHasCase k = true) ∧ Gen.walkCases.map (·.1) = NK.all ∧ Gen.walkDefaultPanics = true ∧
    Gen.walkEntryBody = ["w := walker{ visitor: visitor, }", "w.walk(node)"] ∧
    Gen.visitorInterface = "interface { Enter(node *Node) Exit(node *Node) }" := by
  exact ⟨rfl, rfl, rfl, by decide, rfl, forall_NK (by decide +kernel), rfl, rfl, rfl, rfl⟩

theorem compiler_dispatch_total : ∀ k : NK, k ∈ Gen.compilerDispatch :=
  forall_NK (by decide +kernel)

/-- the type checker has a case for every node kind (its default branch records an error instead of
    panicking); the compiler's default panics -/
theorem checker_dispatch_total :
    (∀ k : NK, k ∈ Gen.checkerDispatch) ∧ Gen.checkerDefaultPanics = false ∧ Gen.compilerDefaultPanics = true := by
  exact ⟨forall_NK (by decide +kernel), rfl, rfl⟩

/-- `expr.Compile`: check, patch operators, user visitors, check again, optimize, compile — all three
    rewriting stages go through `ast.Walk` on the root slot `&tree.Node`, and the tree handed to the
    second check and to the compiler is the rewritten one. -/
theorem pipeline_order :
    Gen.compileCalls = ["config.Check()", "parser.Parse(input)", "checker.Check(tree, config)",
      "compiler.PatchOperators(&tree.Node, config)", "ast.Walk(&tree.Node, v)", "checker.Check(tree, config)",
      "optimizer.Optimize(&tree.Node, config)", "fileError.Bind(tree.Source)", "compiler.Compile(tree, config)"] ∧
    Gen.exprPatchBody = ["return func(c *conf.Config) { c.Visitors = append(c.Visitors, visitor) }"] :=
  ⟨rfl, rfl⟩

/-- **The patched tree is re-checked.**  In `expr.Compile` a failing first check is fatal only when there are no
    visitors; after the operator patch and the user visitors' walks of the root slot the tree is type-checked
    again *unconditionally* (the guard `len(config.Visitors) >= 0` is always true) and an error of that check is
    returned — so what is optimised and compiled carries the type annotations of the patched tree. -/
theorem patched_tree_is_rechecked :
    Gen.compileCheckBlock =
      ["_, err = checker.Check(tree, config)",
       "if err != nil && len(config.Visitors) == 0 { return nil, err }",
       "compiler.PatchOperators(&tree.Node, config)"] ∧
    (Gen.compilePatchBlock =
      ["if len(config.Visitors) >= 0 { for _, v := range config.Visitors { ast.Walk(&tree.Node, v) } _, err = checker.Check(tree, config) if err != nil { return nil, err } }"] ∨
     -- the same three statements without the always-true guard: either shape of the source is accepted
     Gen.compilePatchBlock =
      ["for _, v := range config.Visitors { ast.Walk(&tree.Node, v) }", "_, err = checker.Check(tree, config)",
       "if err != nil { return nil, err }"]) := by
  refine ⟨rfl, ?_⟩
  first
  | exact Or.inl rfl
  | exact Or.inr rfl

/-- the walker with the table regenerated from the source is the walker over `children` / `withChildren`: every theorem
    below is its `walkU` counterpart of `Proofs/WalkThm.lean`, `Proofs/WalkPath.lean` rewritten with this -/
theorem walk_eq_walkU {σ : Type} (v : Visitor σ) (fuel : Nat) : walk Gen.walkTargets v fuel = walkU v fuel := by
  rw [walk_table_is_reference, walk_ref_eq_walkU]

/-- **Bracketing, all trees, all visitors** (replacing, stateful).  In the Enter/Exit log of a walk of
    `n`: first `Enter n`; then exactly the events of walking, in field order, the children of the node
    `Enter` left in the slot; last `Exit` of that node rebuilt around what the child walks left in the
    child slots — and what `Exit` leaves in the slot is the result of the walk. -/
theorem events_bracketed {σ : Type} (v : Visitor σ) (f : Nat) (n : Node) (s : σ) (log : List Event)
    (n' : Node) (s' : σ) (log' : List Event)
    (h : walk Gen.walkTargets v.logged (f + 1) n (s, log) = some (n', (s', log'))) :
    ∃ ks s2 mid,
      walkList (walk Gen.walkTargets v.logged f) (v.enter n s).1.children ((v.enter n s).2, log ++ [.enter n])
        = some (ks, (s2, log ++ [.enter n] ++ mid)) ∧
      v.exit ((v.enter n s).1.withChildren ks) s2 = (n', s') ∧
      log' = log ++ [.enter n] ++ mid ++ [.exit ((v.enter n s).1.withChildren ks)] := by
  rw [walk_eq_walkU] at h ⊢
  exact walkU_bracket v f (walkU_logAppends v f) n s log n' s' log' h

/-- … and the events of the children are those of the successive child walks, concatenated, each child
    walk's result taking the child's place -/
theorem events_children_in_order {σ : Type} (v : Visitor σ) (f : Nat) (c : Node) (cs : List Node) (s : σ)
    (log : List Event) (ks : List Node) (s' : σ) (log' : List Event)
    (h : walkList (walk Gen.walkTargets v.logged f) (c :: cs) (s, log) = some (ks, (s', log'))) :
    ∃ c' s1 e1 cs' e2,
      walk Gen.walkTargets v.logged f c (s, log) = some (c', (s1, log ++ e1)) ∧
      walkList (walk Gen.walkTargets v.logged f) cs (s1, log ++ e1) = some (cs', (s', log ++ e1 ++ e2)) ∧
      ks = c' :: cs' ∧ log' = log ++ e1 ++ e2 := by
  rw [walk_eq_walkU] at h ⊢
  exact walkList_logged_cons v f c cs s log ks s' log' h

/-- **The prescribed stream.**  For every tree and every visitor that does not replace nodes, the walk
    terminates (fuel above the height), leaves the tree unchanged, and its log is `trace n`:
    `Enter n`, the traces of all children in field order, `Exit n`. -/
theorem events_observing {σ : Type} (v : Visitor σ) (hv : v.Observing) (f : Nat) (n : Node) (s : σ)
    (log : List Event) (hf : n.height ≤ f) :
    ∃ s', walk Gen.walkTargets v.logged f n (s, log) = some (n, (s', log ++ n.trace)) := by
  rw [walk_eq_walkU]
  exact walkU_observing v hv f n s log hf

/-- **Once each.**  The nodes handed to `Enter` are all sub-nodes of the tree in pre-order, those handed
    to `Exit` all sub-nodes in post-order — every occurrence exactly once (`size n` calls each). -/
theorem each_node_once (n : Node) :
    walk Gen.walkTargets Visitor.idle.logged (n.height) n ((), []) = some (n, ((), n.trace)) ∧
    n.trace.filterMap Event.entered = n.preorder ∧ n.trace.filterMap Event.exited = n.postorder ∧
    n.preorder.length = n.size ∧ n.postorder.length = n.size := by
  refine ⟨?_, trace_entered n, trace_exited n, preorder_length n, postorder_length n⟩
  obtain ⟨s', h⟩ := events_observing Visitor.idle ⟨fun _ _ => rfl, fun _ _ => rfl⟩ n.height n () [] (Nat.le_refl _)
  simpa using h

theorem orders_unfold (n : Node) :
    n.preorder = n :: (n.children.map preorder).flatten ∧
    n.postorder = (n.children.map postorder).flatten ++ [n] ∧
    n.trace = .enter n :: ((n.children.map trace).flatten ++ [.exit n]) :=
  ⟨preorder_eq n, postorder_eq n, trace_eq n⟩

/-- **Recursion equation of the walk** (all visitors): the result is `Exit` applied to the node `Enter`
    produced with every child replaced by the result of its own walk, states threaded left to right. -/
theorem replacement_effective_eqn {σ : Type} (v : Visitor σ) (f : Nat) (n : Node) (s : σ) :
    walk Gen.walkTargets v (f + 1) n s =
      match walkList (walk Gen.walkTargets v f) (v.enter n s).1.children (v.enter n s).2 with
      | none => none
      | some (ks, s2) => some (v.exit ((v.enter n s).1.withChildren ks) s2) := by
  rw [walk_eq_walkU, walk_eq_walkU]; rfl

/-- what the child walks return is written back to the very slots the children were read from -/
theorem replacement_written_back {σ : Type} (rec : Node → σ → Option (Node × σ)) (n : Node) (s : σ)
    (ks : List Node) (s' : σ) (h : walkList rec n.children s = some (ks, s')) :
    (n.withChildren ks).children = ks ∧ (n.withChildren ks).nk = n.nk ∧ (n.withChildren ks).getMeta = n.getMeta :=
  ⟨children_withChildren n ks (walkList_length rec _ _ _ _ h), withChildren_nk n ks, withChildren_getMeta n ks⟩

/-- **Replacements take effect.**  A visitor that rewrites on `Exit` (any state): the walk returns the
    bottom-up rewriting of the tree — `ex` applied at every node of the tree, children first, left to
    right, each time on the node rebuilt around its already rewritten children. -/
theorem replacement_effective {σ : Type} (ex : Node → σ → Node × σ) (f : Nat) (n : Node) (s : σ) (hf : n.height ≤ f) :
    walk Gen.walkTargets (Visitor.onExitS ex) f n s = some (bottomUpS ex n s) ∧
    bottomUpS ex n s =
      ex (n.withChildren (seqS (n.children.map (bottomUpS ex)) s).1) (seqS (n.children.map (bottomUpS ex)) s).2 := by
  rw [walk_eq_walkU]
  exact ⟨walkU_onExitS ex f n s hf, bottomUpS_eq ex n s⟩

/-- stateless version, with `bottomUp` written out by structural recursion over every field -/
theorem replacement_effective_stateless (g : Node → Node) (f : Nat) (n : Node) (hf : n.height ≤ f) :
    walk Gen.walkTargets (Visitor.onExit g) f n () = some (bottomUp g n, ()) := by
  rw [walk_eq_walkU]
  exact walkU_onExit g f n hf

/-- **At any position.**  If the visitor leaves the ancestors of position `p` alone, the tree after the
    walk holds at position `p` the rewriting of the sub-tree that was at `p`. -/
theorem replacement_at_position (g : Node → Node) (p : List Nat) (n : Node) (h : spineInert g p n) (f : Nat)
    (hf : n.height ≤ f) :
    ∃ r, walk Gen.walkTargets (Visitor.onExit g) f n () = some (r, ()) ∧
      nodeAt p r = (nodeAt p n).map (bottomUp g) :=
  ⟨bottomUp g n, replacement_effective_stateless g f n hf, bottomUp_at g p n h⟩

/-- **A replacement at any position** (stateful visitor).  The visitor that locates position `p` (path of child
    ordinals) by counting its `Enter`/`Exit` calls and rewrites there on `Exit` returns `n` with exactly the
    sub-tree at `p` rewritten — whatever kinds of nodes and slots lie on the way. -/
theorem replacement_at_any_position (g : Node → Node) (p : List Nat) (f : Nat) (n : Node) (hf : n.height ≤ f) :
    walk Gen.walkTargets (Visitor.atPath (0 :: p) g) f n ⟨[], 0⟩ = some (rewriteAt g p n, ⟨[], 1⟩) := by
  rw [walk_eq_walkU]
  exact walkU_atPath_root g p f n hf

/-- … and `rewriteAt` does put the rewritten sub-tree at `p` -/
theorem rewriteAt_at (g : Node → Node) : ∀ (p : List Nat) (n c : Node), nodeAt p n = some c →
    nodeAt p (rewriteAt g p n) = some (g c) := by
  intro p
  induction p with
  | nil => intro n c h; simp only [nodeAt, Option.some.injEq] at h; subst h; rfl
  | cons i p ih =>
    intro n c h
    simp only [nodeAt] at h
    cases hi : n.children[i]? with
    | none => simp [hi] at h
    | some d =>
      simp only [hi] at h
      simp only [rewriteAt, nodeAt]
      rw [children_withChildren _ _ (by simp)]
      simp only [List.getElem?_modify_eq, hi]
      exact ih d c h

/-- `ast.Patch`: the new node takes type and location of the node it replaces and is otherwise itself -/
theorem patch_copies_meta (old new : Node) :
    (astPatch old new).getMeta = old.getMeta ∧ (astPatch old new).nk = new.nk ∧
    (astPatch old new).children = new.children ∧ (astPatch old new).withMeta new.getMeta = new ∧
    Gen.astPatchBody = ["newNode.SetType((*node).Type())", "newNode.SetLocation((*node).Location())", "*node = newNode"] := by
  exact ⟨Node.getMeta_withMeta _ _, Node.nk_withMeta _ _, Node.children_withMeta _ _,
    (Node.withMeta_withMeta _ _ _).trans (Node.withMeta_getMeta_self _), rfl⟩

/-- the walker's table of the code before commit d5aa4cc: `SliceNode.Node` is not walked -/
def sliceNodeDropped : WalkTable := fun k =>
  if k = .SliceNode then [⟨.fFrom, .optional⟩, ⟨.fTo, .optional⟩] else refSlots k

def enteredNames (evs : List Event) : List String :=
  evs.filterMap fun e => match e with
    | .enter (.ident _ name _) => some name
    | _ => none

/-- with `SliceNode.Node` missing from the table, in `a[b:c]` only `b` and `c` are entered -/
theorem incomplete_table_witness :
    let t := Node.slice {} (.ident {} "a" false) (some (.ident {} "b" false)) (some (.ident {} "c" false))
    (walk sliceNodeDropped Visitor.idle.logged 3 t ((), [])).map (fun r => enteredNames r.2.2) = some ["b", "c"] ∧
    (walk refSlots Visitor.idle.logged 3 t ((), [])).map (fun r => enteredNames r.2.2) = some ["a", "b", "c"] := by
  decide

/-- a nil slot is neither entered nor exited, whatever the table says about guarding it:
    `a[:]` walked with an unguarded table gives the same stream as with the guarded one -/
theorem nil_slot_skipped :
    let t := Node.slice {} (.ident {} "a" false) none none
    let unguarded : WalkTable := fun k => if k = .SliceNode then [⟨.fNode, .single⟩, ⟨.fFrom, .single⟩, ⟨.fTo, .single⟩] else refSlots k
    (walk unguarded Visitor.idle.logged 3 t ((), [])).map (fun r => enteredNames r.2.2) = some ["a"] ∧
    (walk refSlots Visitor.idle.logged 3 t ((), [])).map (fun r => enteredNames r.2.2) = some ["a"] := by
  decide

/-- the slice `a[b:c]`: all three identifiers are entered, `a` first -/
example :
    let a := Node.ident {loc := ⟨1, 0⟩} "a" false
    let b := Node.ident {loc := ⟨1, 2⟩} "b" false
    let c := Node.ident {loc := ⟨1, 4⟩} "c" false
    let t := Node.slice {} a (some b) (some c)
    t.trace = [.enter t, .enter a, .exit a, .enter b, .exit b, .enter c, .exit c, .exit t] := by
  simp [trace, foldN, foldO]

/-- replacing `a` under the slice: the ancestors are inert for a visitor that only rewrites identifiers -/
example :
    let g : Node → Node := fun n => match n with | .ident m "a" s => .ident m "z" s | n => n
    let t := Node.slice {} (.ident {} "a" false) (some (.int {} 1)) none
    spineInert g [0] t ∧ nodeAt [0] (bottomUp g t) = some (.ident {} "z" false) := by
  exact ⟨⟨rfl, fun _ _ => trivial⟩, rfl⟩

end ExprModel.C10
