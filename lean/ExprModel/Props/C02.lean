import ExprModel.Proofs.OptInRange
import ExprModel.Proofs.OptReject
import ExprModel.Proofs.OptWalk
import ExprModel.Proofs.CheckerAnnot
import ExprModel.Opt.ObsEq
import ExprModel.Gen.Pipeline
/-
C02 — The optimizer is observationally transparent.

Model: `ExprModel/Opt/*` (the five passes of optimizer/*.go as `Exit`-only rules over the bottom-up traversal of
ast.Walk, the driver loop of `optimizer.Optimize`, one switch of `Opt.Flags` per reproduced deviation).
Tie: `Gen.Pipeline` (pass order, loop limits, thresholds, operator sets, stage order of expr.Compile) and harness/c02.go.

Proved against `Spec.eval`: each rewrite is sound where its guard holds (`…_equiv`); soundness survives the traversal,
the repetition loop and the composition of passes (`…_congruence`); hence `optimize_transparent_partial`.  For every
switch that guards a rewrite a `…_witness` of what its `false` side (`Flags.asWas`) does wrong; harness/c02.go exhibits
each on the real code.  (`walkSliceNode` has none: a walk that skips `SliceNode.Node` loses rewrites, not soundness —
`walk_congruence` holds for either value.)
The full-strength `optimize_transparent_goal` is refuted for `Flags.asWas` and for `Flags.asIs`, the code of /repo
(literal arrays become `[]int`, observable through `==`).
-/
namespace ExprModel.C02
open ExprModel ExprModel.Spec ExprModel.Opt ExprModel.OptProofs

/-- numbers equal in kind and value, sequences element by element, maps key by key -/
def ObsEq (a b : Val) : Prop := obsEqB a b = true

def ObsRes (a b : R Val) : Prop :=
  match a, b with
  | .ok x, .ok y => ObsEq x y
  | .error _, .error _ => True
  | _, _ => False

def Pass.goName : Pass → String
  | .inArray => "inArray" | .fold => "fold" | .constExpr => "constExpr" | .inRange => "inRange" | .constRange => "constRange"

/-- `optimizer.Optimize` runs the passes in the order of the model -/
theorem pass_order_pinned : Gen.Pipeline.optimizePasses.map (·.1) = passOrder.map Pass.goName := rfl

/-- `for limit := 1000; limit >= 0; limit--`: at most 1001 walks of `fold`; 101 of `constExpr`, and only
    when functions are registered; the other passes are single walks -/
theorem loop_limits_pinned :
    Gen.Pipeline.optimizePasses.map (fun p => (p.2.1, p.2.2.1)) =
      [(none, ""), (some (foldWalks - 1), ">="), (some (constExprWalks - 1), ">="), (none, ""), (none, "")] ∧
    Gen.Pipeline.optimizePasses.map (·.2.2.2) =
      ["", "", "config != nil && len(config.ConstExprFns) > 0", "", ""] := ⟨rfl, rfl⟩

/-- `if size < 1 || size > 1e6` in const_range.go -/
theorem const_range_limit_pinned :
    Gen.Pipeline.constRangeMaxSize = constRangeMax ∧ Gen.Pipeline.constRangeMinSize = 1 ∧
    -- `constRangeNoOverflow`: emptiness is decided on the bounds; a size that wraps below 1 skips the fold
    Gen.Pipeline.constRangeEmptyTest = "max.Value < min.Value" ∧
    Gen.Pipeline.constRangeSkipTest = "size < 1 || size > 1e6" := ⟨rfl, rfl, rfl, rfl⟩

/-- the operators each pass compares `Operator` with -/
theorem operator_sets_pinned :
    Gen.Pipeline.foldUnaryOps = ["-", "+"] ∧ Gen.Pipeline.foldBinaryOps = ["+", "-", "*", "/", "%", "**"] ∧
    Gen.Pipeline.inArrayOps = ["in", "not in"] ∧ Gen.Pipeline.inRangeOps = ["in", "not in"] ∧
    Gen.Pipeline.inRangeInnerOps = [".."] ∧ Gen.Pipeline.constRangeOps = [".."] := ⟨rfl, rfl, rfl, rfl, rfl, rfl⟩

/-- expr.Compile: Check, PatchOperators, visitors, Check, Optimize (only under `config.Optimize`), Compile -/
theorem compile_stage_order_pinned :
    Gen.Pipeline.compileStages = ["config.Check", "parser.Parse", "checker.Check", "compiler.PatchOperators", "ast.Walk",
      "checker.Check", "optimizer.Optimize", "compiler.Compile"] ∧ Gen.Pipeline.optimizeGuard = "config.Optimize" := ⟨rfl, rfl⟩

/-- the visitors are built as the model assumes: `inRange` is told whether a config (a type-checked tree) is present -/
theorem visitor_fields_pinned :
    Gen.Pipeline.optimizeVisitorFields =
      [("inArray", ""), ("fold", ""), ("constExpr", "fns: config.ConstExprFns"), ("inRange", "typed: config != nil"),
       ("constRange", "")] := rfl

/-- in_range.go (`inRangeKindGuard`, `inRangeSimpleLeft`): the kinds `rangeKind` admits are the model's `rangeKd`, a nil type is refused when
    the tree is typed, `simpleNode` admits what `simpleLeft` admits, and both are conjoined as in `inRangeRule` -/
theorem in_range_guards_pinned :
    (Kind.all.all fun k => rangeKd (.num k) == Gen.Pipeline.inRangeKinds.contains k.name) = true ∧
    Gen.Pipeline.inRangeNilTypeAdmitted = false ∧ rangeKd .invalid = false ∧
    Gen.Pipeline.inRangeSimpleLeaves = ["IdentifierNode", "PointerNode", "IntegerNode"] ∧
    Gen.Pipeline.inRangeSimpleThrough = ["PropertyNode"] ∧
    Gen.Pipeline.inRangeGuard = "(v.typed && !rangeKind(n.Left.Type())) || !simpleNode(n.Left)" :=
  ⟨by decide, rfl, rfl, rfl, rfl, rfl⟩

/-- `simpleLeft` is `simpleNode`: the listed leaves, and property access through a simple operand -/
theorem simpleLeft_spec (n : Node) :
    simpleLeft n = true ↔
      n.kindName ∈ Gen.Pipeline.inRangeSimpleLeaves ∨ (∃ m x name ns, n = .prop m x name ns ∧ simpleLeft x = true) := by
  cases n
  case ident | pointer | int => exact ⟨fun _ => .inl (by simp only [Node.kindName]; decide), fun _ => rfl⟩
  case prop m x name ns =>
    refine ⟨fun h => .inr ⟨m, x, name, ns, rfl, h⟩, fun h => ?_⟩
    rcases h with h | ⟨_, _, _, _, he, h⟩
    · exact absurd h (by simp only [Node.kindName]; decide)
    · cases he
      exact h
  all_goals
    refine ⟨fun h => (by cases h), fun h => ?_⟩
    rcases h with h | ⟨_, _, _, _, he, _⟩
    · exact absurd h (by simp only [Node.kindName]; decide)
    · cases he

/-- fold.go (`foldPlainOnly`): `plain` = no type or kind `int` (the model's `plainKd`), required of every literal of the
    unary signs and of `+ - * /`, and of none of `%`, `**` -/
theorem fold_plain_pinned :
    Gen.Pipeline.foldPlainCond = "t == nil || t.Kind() == reflect.Int" ∧
    Gen.Pipeline.foldPlainGuarded = ["unary -", "unary +", "binary +", "binary -", "binary *", "binary /"] ∧
    plainKd .invalid = true ∧ (Kind.all.all fun k => plainKd (.num k) == (k == .int)) = true ∧ plainKd .string = false :=
  ⟨rfl, rfl, rfl, by decide, rfl⟩

/-- in_array.go (`inArrayStrGuard`): the integer-set rewrite asks for kind `int`, the string-set rewrite for kind `string` -/
theorem in_array_guards_pinned :
    Gen.Pipeline.inArrayIntSkip = "t == nil || t.Kind() != reflect.Int" ∧
    Gen.Pipeline.inArrayStrSkip = "t == nil || t.Kind() != reflect.String" := ⟨rfl, rfl⟩

/-- const_expr.go (`constExprConvert`): an integer literal is converted at every numeric kind other than `int` -/
theorem const_expr_convert_pinned :
    Gen.Pipeline.constExprConvertKinds =
      ["int8", "int16", "int32", "int64", "uint", "uint8", "uint16", "uint32", "uint64", "float32", "float64"] :=
  rfl

theorem const_expr_convert_complete :
    (Kind.all.all fun k => k == .int || Gen.Pipeline.constExprConvertKinds.contains k.name) = true := by decide

/-- the model's rule for `fold` reacts to no binary operator outside the source's list -/
theorem fold_ignores_other_operators (fl : Flags) (w : World) (m ma mb : Meta) (op : String) (a b : Int) (st : St)
    (h : op ∉ Gen.Pipeline.foldBinaryOps) :
    foldRule fl w (.binary m op (.int ma a) (.int mb b)) st = (.binary m op (.int ma a) (.int mb b), st) := by
  have hs := foldRule_step fl w (.binary m op (.int ma a) (.int mb b)) st
  generalize foldRule fl w _ st = out at hs ⊢
  -- a rejection or a new node would name an operator of the list
  cases hs with
  | keep => rfl
  | reject hr =>
    obtain ⟨_, _, _, _, _, he, hop⟩ := hr
    cases he
    rcases hop with rfl | rfl <;> exact absurd (by decide) h
  | new hn =>
    cases hn with
    | arith h4 =>
      simp only [Bool.or_eq_true, beq_iff_eq] at h4
      rcases h4 with ((rfl | rfl) | rfl) | rfl <;> exact absurd (by decide) h
    | mod => exact absurd (by decide) h
    | pow => exact absurd (by decide) h

variable {c : SCfg}

/-- `hr`: the folded value is a Go `int` — because the rule wraps it, or hands the operand on (`fold_pos`) -/
private theorem fold_binary_lit (ctx : Ctx) (mv m ma mb : Meta) (op : String) (a b v : Int) (hk : plainKd mv.kd = true)
    (ha : IntLitOK ma a) (hb : IntLitOK mb b) (hv : cval (.binary m op (.int ma a) (.int mb b)) = some v)
    (hr : inRange .int v) : eval c ctx (.int mv v) = eval c ctx (.binary m op (.int ma a) (.int mb b)) :=
  (eval_int_plain ctx mv hk hr).trans (eval_binary_lits ctx m ma mb op a b v ha hb hv).symm

private theorem fold_unary_lit (ctx : Ctx) (mv m mi : Meta) (op : String) (i v : Int) (hk : plainKd mv.kd = true)
    (hi : IntLitOK mi i) (hv : cval (.unary m op (.int mi i)) = some v) (hr : inRange .int v) :
    eval c ctx (.int mv v) = eval c ctx (.unary m op (.int mi i)) :=
  (eval_int_plain ctx mv hk hr).trans (eval_unary_lits ctx m mi op i v hi hv).symm

theorem fold_add_int (ctx : Ctx) (m ma mb : Meta) (a b : Int) (ha : IntLitOK ma a) (hb : IntLitOK mb b) :
    eval c ctx (.int ⟨m.loc, ma.kd⟩ (wrap .int (a + b))) = eval c ctx (.binary m "+" (.int ma a) (.int mb b)) :=
  fold_binary_lit ctx _ m ma mb "+" a b _ ha.1 ha hb rfl (wrap_inRange _)

theorem fold_sub_int (ctx : Ctx) (m ma mb : Meta) (a b : Int) (ha : IntLitOK ma a) (hb : IntLitOK mb b) :
    eval c ctx (.int ⟨m.loc, ma.kd⟩ (wrap .int (a - b))) = eval c ctx (.binary m "-" (.int ma a) (.int mb b)) :=
  fold_binary_lit ctx _ m ma mb "-" a b _ ha.1 ha hb rfl (wrap_inRange _)

theorem fold_mul_int (ctx : Ctx) (m ma mb : Meta) (a b : Int) (ha : IntLitOK ma a) (hb : IntLitOK mb b) :
    eval c ctx (.int ⟨m.loc, ma.kd⟩ (wrap .int (a * b))) = eval c ctx (.binary m "*" (.int ma a) (.int mb b)) :=
  fold_binary_lit ctx _ m ma mb "*" a b _ ha.1 ha hb rfl (wrap_inRange _)

/-- Go's truncated division; the divisor is not zero (a zero divisor is rejected at compile time) -/
theorem fold_div_int (ctx : Ctx) (m ma mb : Meta) (a b : Int) (ha : IntLitOK ma a) (hb : IntLitOK mb b) (hz : b ≠ 0) :
    eval c ctx (.int ⟨m.loc, ma.kd⟩ (wrap .int (Int.tdiv a b))) = eval c ctx (.binary m "/" (.int ma a) (.int mb b)) :=
  fold_binary_lit ctx _ m ma mb "/" a b _ ha.1 ha hb (by simp [cval, hz]) (wrap_inRange _)

theorem fold_mod_int (ctx : Ctx) (m ma mb : Meta) (a b : Int) (ha : IntLitOK ma a) (hb : IntLitOK mb b) (hz : b ≠ 0)
    (hm : plainKd m.kd = true) :
    eval c ctx (.int m (wrap .int (Int.tmod a b))) = eval c ctx (.binary m "%" (.int ma a) (.int mb b)) :=
  fold_binary_lit ctx m m ma mb "%" a b _ hm ha hb (by simp [cval, hz]) (wrap_inRange _)

theorem fold_neg (ctx : Ctx) (m mi : Meta) (i : Int) (hi : IntLitOK mi i) :
    eval c ctx (.int ⟨m.loc, mi.kd⟩ (wrap .int (-i))) = eval c ctx (.unary m "-" (.int mi i)) :=
  fold_unary_lit ctx _ m mi "-" i _ hi.1 hi rfl (wrap_inRange _)

theorem fold_pos (ctx : Ctx) (m mi : Meta) (i : Int) (hi : IntLitOK mi i) :
    eval c ctx (.int ⟨m.loc, mi.kd⟩ i) = eval c ctx (.unary m "+" (.int mi i)) :=
  fold_unary_lit ctx _ m mi "+" i _ hi.1 hi rfl hi.2

theorem fold_str_concat (ctx : Ctx) (m ma mb : Meta) (a b : String) :
    eval c ctx (.str m (a ++ b)) = eval c ctx (.binary m "+" (.str ma a) (.str mb b)) :=
  (Spec.eval_str c ctx m _).trans (eval_str_concat ctx m ma mb a b).symm

private theorem obsEqListB_map_self {α : Type} (f : α → Val) (hf : ∀ a, obsEqB (f a) (f a) = true) :
    ∀ l : List α, obsEqListB (l.map f) (l.map f) = true
  | [] => rfl
  | a :: l => by
    rw [List.map_cons, obsEqListB, hf a, obsEqListB_map_self f hf l]
    rfl

theorem obsEq_ints (vs : List Int) : obsEqListB (vs.map (Val.int .int)) (vs.map (Val.int .int)) = true :=
  obsEqListB_map_self _ (fun v => by simp [obsEqB, Val.deepEq]) vs

theorem obsEq_strs (ss : List String) : obsEqListB (ss.map Val.str) (ss.map Val.str) = true :=
  obsEqListB_map_self _ (fun s => by simp [obsEqB, Val.deepEq]) ss

/-- a literal array of integer literals: the folded constant is a `[]int` with the same elements — equal
    only *observationally* (the original is a `[]interface{}`), and it is not counted against the budget -/
theorem fold_int_array (ctx : Ctx) (m : Meta) (xs : List Node) (vs : List Int) (h : allInts xs = some vs) (hok : IntLitsOK xs) :
    eval c ctx (.array m xs) =
      (SM.allocAfter c.budget xs.length xs.length >>= fun _ => pure (.arr .iface (vs.map (Val.int .int)))) ∧
    eval c ctx (.const m (.arr (.num .int) (vs.map (Val.int .int)))) = pure (.arr (.num .int) (vs.map (Val.int .int))) ∧
    ObsEq (.arr (.num .int) (vs.map (Val.int .int))) (.arr .iface (vs.map (Val.int .int))) := by
  refine ⟨?_, rfl, obsEq_ints vs⟩
  rw [Spec.eval_array, evalList_ints ctx xs vs h hok]
  simp only [Spec.SM.pure_bind, List.length_map, allInts_length h]

theorem fold_str_array (ctx : Ctx) (m : Meta) (xs : List Node) (ss : List String) (h : allStrs xs = some ss) :
    eval c ctx (.array m xs) =
      (SM.allocAfter c.budget xs.length xs.length >>= fun _ => pure (.arr .iface (ss.map Val.str))) ∧
    eval c ctx (.const m (.arr .str (ss.map Val.str))) = pure (.arr .str (ss.map Val.str)) ∧
    ObsEq (.arr .str (ss.map Val.str)) (.arr .iface (ss.map Val.str)) := by
  refine ⟨?_, rfl, obsEq_strs ss⟩
  rw [Spec.eval_array, evalList_strs ctx xs ss h]
  simp only [Spec.SM.pure_bind, List.length_map, allStrs_length h]

/-- for a left operand that is dynamically an `int`, the constant-set lookup simulates the scan of the literal
    array (which also allocates it) -/
theorem inArray_int_equiv (ctx : Ctx) (m ma mc : Meta) (l : Node) (xs : List Node) (vs : List Int)
    (hd : DynInt c l) (hx : allInts xs = some vs) (hok : IntLitsOK xs) :
    RelM (eval c ctx (.binary m "in" l (.const mc (intSet vs)))) (eval c ctx (.binary m "in" l (.array ma xs))) ∧
    RelM (eval c ctx (.binary m "not in" l (.const mc (intSet vs)))) (eval c ctx (.binary m "not in" l (.array ma xs))) := by
  rw [eval_in_evalIn, eval_in_evalIn, eval_notin_evalIn, eval_notin_evalIn]
  exact ⟨inArray_int_core ctx false l ma mc xs vs hd hx hok, inArray_int_core ctx true l ma mc xs vs hd hx hok⟩

/-- the string-set rewrite is sound when the left operand is dynamically a string (in_array.go tests the
    static kind; with `inArrayStrGuard` off, nothing) -/
theorem inArray_str_equiv (ctx : Ctx) (m ma mc : Meta) (l : Node) (xs : List Node) (ss : List String)
    (hd : DynStr c l) (hx : allStrs xs = some ss) :
    RelM (eval c ctx (.binary m "in" l (.const mc (strSet ss)))) (eval c ctx (.binary m "in" l (.array ma xs))) ∧
    RelM (eval c ctx (.binary m "not in" l (.const mc (strSet ss)))) (eval c ctx (.binary m "not in" l (.array ma xs))) := by
  rw [eval_in_evalIn, eval_in_evalIn, eval_notin_evalIn, eval_notin_evalIn]
  exact ⟨inArray_str_core ctx false l ma mc xs ss hd hx, inArray_str_core ctx true l ma mc xs ss hd hx⟩

/-- `x in a..b` ⇝ `x >= a and x <= b` for a left operand that is dynamically `int`, `int64` or unsigned and can be
    evaluated twice (`RangeLeftOK`: no calls, no allocation; in_range.go tests the static kind and the shape of the
    operand, and with `inRangeKindGuard` / `inRangeSimpleLeft` off neither) -/
theorem inRange_equiv (fl : Flags) (m mr mf mt : Meta) (op : String) (l : Node) (a b : Int) (st : St)
    (_hop : op = "in" ∨ op = "not in") (ha : IntLitOK mf a) (hb : IntLitOK mt b) (hl : RangeLeftOK c l)
    (hs : c.rangeSizeSigned = true → a ≤ b + 1) (ctx : Ctx) :
    RelM (eval c ctx (inRangeRule fl (.binary m op l (.binary mr ".." (.int mf a) (.int mt b))) st).1)
         (eval c ctx (.binary m op l (.binary mr ".." (.int mf a) (.int mt b)))) :=
  (inRangeRule_sound fl _ (by simp only [InRangeOK]; exact fun _ _ => ⟨ha, hb, fun _ _ => hl, hs⟩) st).ev ctx

/-- the kinds in_range.go admits (`Opt.rangeKd`) are exactly the kinds of `inRange_equiv` -/
theorem rangeKd_iff (k : Kind) : rangeKd (.num k) = true ↔ RangeK k := by
  cases k <;> simp [rangeKd, RangeK, Kind.rank]

/-- a literal range becomes the constant with the same elements; only the allocation differs -/
theorem constRange_equiv (fl : Flags) (m ma mb : Meta) (lo hi : Int) (st : St) (ha : IntLitOK ma lo) (hb : IntLitOK mb hi)
    (hsz : fl.constRangeNoOverflow = false → inRange .int (hi - lo + 1)) (hs : c.rangeSizeSigned = true → lo ≤ hi + 1) (ctx : Ctx) :
    RelM (eval c ctx (constRangeRule fl (.binary m ".." (.int ma lo) (.int mb hi)) st).1)
         (eval c ctx (.binary m ".." (.int ma lo) (.int mb hi))) :=
  (constRangeRule_sound fl _ (by simp only [ConstRangeOK]; exact fun _ => ⟨ha, hb, hsz, hs⟩) st).ev ctx

/-- a ConstExpr call whose compile-time evaluation succeeds is replaced by its result: sound when the
    arguments evaluate to the values passed (`constArgs_eval`) and the registered function is the environment's -/
theorem constExpr_equiv (fl : Flags) (fns : ConstFns) (m : Meta) (name : String) (args : List Node) (fast : Bool) (st : St)
    (hg : ConstExprOK c fl fns (.func m name args fast)) (ctx : Ctx) :
    RelM (eval c ctx (constExprRule fl fns c.world (.func m name args fast) st).1) (eval c ctx (.func m name args fast)) :=
  (constExprRule_sound fl fns _ hg st).ev ctx

/-- the syntactic reason for the first half of `ConstExprOK`: literal arguments evaluate to what is passed -/
theorem constArgs_eval (fl : Flags) (ctx : Ctx) : ∀ (args : List Node) (vs : List Val),
    (fl.constExprConvert = true ∨ IntLitsOK args) → constArgs fl args = some vs → evalList c ctx args = pure vs
  | [], _, _, h => by cases h; rfl
  | a :: rest, _, hk, h => by
    obtain ⟨v, vr, ha, hr, rfl⟩ := constArgs_cons h
    obtain ⟨hv, hp⟩ := constArg_eval (c := c) fl ctx (hk.imp id fun hok => hok a List.mem_cons_self) ha
    exact evalList_cons_pure hp hv (constArgs_eval fl ctx rest vr (hk.imp id IntLitsOK.tail) hr)

/-- A node-local rewrite whose result simulates the node it replaces, in every context, is preserved by
    the bottom-up traversal (`ast.Walk` with an `Exit`-only visitor), whatever the visitor's state.
    `reOK`: a `matches` node with a pre-compiled regexp has a literal pattern (parser invariant). -/
theorem walk_congruence (ws : Bool) (rule : Opt.Rule) (hrule : ∀ N st, Sim c (rule N st).1 N)
    (n : Node) (hn : reOK n = true) (st : St) : Sim c (walk ws rule n st).1 n :=
  walk_sim ws rule hrule n hn st

theorem walkList_congruence (ws : Bool) (rule : Opt.Rule) (hrule : ∀ N st, Sim c (rule N st).1 N)
    (ns : List Node) (hn : reOKList ns = true) (st : St) : SimL c (walkList ws rule ns st).1 ns :=
  walkList_sim ws rule hrule ns hn st

theorem walkOpt_congruence (ws : Bool) (rule : Opt.Rule) (hrule : ∀ N st, Sim c (rule N st).1 N)
    (o : Option Node) (hn : reOKOpt o = true) (st : St) : SimO c (walkOpt ws rule o st).1 o :=
  walkOpt_sim ws rule hrule o hn st

/-- a rule that is sound at every node stays sound through the `for limit …` loop of `optimizer.Optimize`, for every
    number of iterations -/
theorem repeat_congruence (ws : Bool) (rule : Opt.Rule) (hrule : ∀ N st, Sim c (rule N st).1 N)
    (k : Nat) (n n' : Node) (hn : reOK n = true) (h : repeatPass ws rule k n = .ok n') : Sim c n' n :=
  (repeatPass_keeps (walkKeeps_sim ws hrule hn) k n (sim_refl c n)).ok h

theorem eval_monotone_in_memory (n : Node) (ctx : Ctx) : RelM (eval c ctx n) (eval c ctx n) :=
  eval_mono c n ctx

/-- the guards of the five passes: what has to hold at a node for the rewrite firing there to be sound -/
def GuardOK (c : SCfg) (fl : Flags) (fns : ConstFns) : Pass → Node → Prop
  | .inArray, N => InArrayOK c fl N
  | .fold, N => FoldOKf fl N
  | .constExpr, N => ConstExprOK c fl fns N
  | .inRange, N => InRangeOK c fl N
  | .constRange, N => ConstRangeOK c fl N

private theorem passRule_sound (fl : Flags) (fns : ConstFns) : ∀ (p : Pass) (N : Node), GuardOK c fl fns p N → ∀ st,
    Sim c (passRule fl fns c.world p N st).1 N
  | .inArray, N, h => inArrayRule_sound fl N h
  | .fold, N, h => foldRule_sound fl c.world N h
  | .constExpr, N, h => constExprRule_sound fl fns N h
  | .inRange, N, h => inRangeRule_sound fl N h
  | .constRange, N, h => constRangeRule_sound fl N h

theorem optimizeWith_sim_core (fl : Flags) (fns : ConstFns) (g : Guard)
    (h1 : ∀ N st, g .inArray N = true → Sim c (inArrayRule fl N st).1 N)
    (h2 : ∀ N st, g .fold N = true → Sim c (foldRule fl c.world N st).1 N)
    (h3 : ∀ N st, g .constExpr N = true → Sim c (constExprRule fl fns c.world N st).1 N)
    (h4 : ∀ N st, g .inRange N = true → Sim c (inRangeRule fl N st).1 N)
    (h5 : ∀ N st, g .constRange N = true → Sim c (constRangeRule fl N st).1 N)
    (n n' : Node) (hn : reOK n = true)
    (h : optimizeWith g fl fns c.world n = .ok n') : Sim c n' n :=
  optimizeWith_sim_of fl fns g (fun p => by
    cases p
    · exact h1
    · exact h2
    · exact h3
    · exact h4
    · exact h5) n n' hn h

/-- `guarded g p r` consults `g` at `Exit`, on the node as its rewritten children and the earlier passes have left it:
    `hg` speaks of those intermediate nodes, not of the nodes of `n`. -/
theorem optimizeWith_sim (fl : Flags) (fns : ConstFns) (g : Guard)
    (hg : ∀ p N, g p N = true → GuardOK c fl fns p N) (n n' : Node) (hn : reOK n = true)
    (h : optimizeWith g fl fns c.world n = .ok n') : Sim c n' n :=
  optimizeWith_sim_of fl fns g (fun p N st hN => passRule_sound fl fns p N (hg p N hN) st) n n' hn h

private theorem run_of_sim {n' n : Node} (hs : Sim c n' n) (cast : Option Nat) :
    (Spec.run c cast n).1 = .error .budget ∨ (Spec.run c cast n').1 = (Spec.run c cast n).1 := by
  have h0 := hs.ev [] {} {} (Int.le_refl _)
  rw [Spec.run_eq, Spec.run_eq]
  rcases hu : eval c [] n {} with ⟨r, t⟩
  rcases ho : eval c [] n' {} with ⟨r', t'⟩
  rw [hu, ho] at h0
  rcases h0 with h0 | ⟨h0, _⟩
  · simp only at h0; subst h0; exact .inl rfl
  · simp only at h0; subst h0
    exact .inr rfl

/-- **Transparency, under the guards.**  Let `g` select rewrite sites at which the guards hold
    (`hg`), and suppose the optimizer did not rewrite anywhere else on `n` (`hrun`: the restricted and the
    real optimizer agree on `n`).  If `optimizer.Optimize` accepts `n`, then running the optimised tree
    gives exactly the result (value or failure class) of running `n` — unless the run of `n` exceeds
    the memory budget (the optimised tree allocates less; then nothing is claimed). -/
theorem optimize_transparent_partial (fl : Flags) (fns : ConstFns) (g : Guard)
    (hg : ∀ p N, g p N = true → GuardOK c fl fns p N) (n n' : Node) (hn : reOK n = true)
    (hrun : optimizeWith g fl fns c.world n = optimize fl fns c.world n)
    (h : optimize fl fns c.world n = .ok n') (cast : Option Nat) :
    (Spec.run c cast n).1 = .error .budget ∨ (Spec.run c cast n').1 = (Spec.run c cast n).1 :=
  run_of_sim (optimizeWith_sim fl fns g hg n n' hn (hrun.trans h)) cast

/-- `optimize_transparent_partial` read for a run of `n` that succeeds: the optimised tree yields the same value -/
theorem optimize_transparent_partial_obs (fl : Flags) (fns : ConstFns) (g : Guard)
    (hg : ∀ p N, g p N = true → GuardOK c fl fns p N) (n n' : Node) (hn : reOK n = true)
    (hrun : optimizeWith g fl fns c.world n = optimize fl fns c.world n)
    (h : optimize fl fns c.world n = .ok n') (v : Val) (hv : (Spec.run c none n).1 = .ok v) :
    (Spec.run c none n').1 = .ok v := by
  rcases optimize_transparent_partial fl fns g hg n n' hn hrun h none with hb | he
  · rw [hv] at hb; cases hb
  · rw [he, hv]

/-- `fold` sets its error only at a constant integer division or modulo by zero -/
theorem fold_rejects_only_divzero (fl : Flags) (w : World) (N : Node) (st : St)
    (h : (foldRule fl w N st).2.err ≠ st.err) :
    ∃ m op ma a mb, N = .binary m op (.int ma a) (.int mb 0) ∧ (op = "/" ∨ op = "%") :=
  (foldRule_step fl w N st).err h

/-- at a constant integer division or modulo by zero `fold` reports the location of that node — stated here with
    `foldPlainOnly` off (`Flags.asWas`).  With the switch on (`Flags.asIs`) it does so for `%` always and for `/` only
    over literals annotated `int` or not at all (`OptProofs.foldRule_divzero` has both cases): a `/` by zero over
    retyped literals is not folded, hence not rejected. -/
theorem fold_divzero_location (fl : Flags) (w : World) (m ma mb : Meta) (op : String) (a : Int) (st : St)
    (hop : op = "/" ∨ op = "%") (hp : fl.foldPlainOnly = false) :
    (foldRule fl w (.binary m op (.int ma a) (.int mb 0)) st).2.err = some m.loc :=
  foldRule_divzero fl w m ma mb op a st hop (.inl hp)

/-- `in_array`, `in_range` and `const_range` never reject -/
theorem other_passes_never_reject (fl : Flags) (N : Node) (st : St) :
    (inArrayRule fl N st).2 = st ∧ (inRangeRule fl N st).2 = st ∧ (constRangeRule fl N st).2 = st :=
  ⟨(inArrayRule_step fl N st).snd_eq, (inRangeRule_step fl N st).snd_eq, (constRangeRule_step fl N st).snd_eq⟩

/-- `const_expr` rejects only when the compile-time call of a registered function on literal arguments fails -/
theorem constExpr_rejects_only_failed_call (fl : Flags) (fns : ConstFns) (w : World) (N : Node) (st : St)
    (h : (constExprRule fl fns w N st).2.err ≠ st.err) :
    ∃ m name args fast id vs e, N = .func m name args fast ∧ fns.lookup name = some id ∧
      constArgs fl args = some vs ∧ w.call id vs = .error e :=
  (constExprRule_step fl fns w N st).err h

/-- the registered ConstExpr functions are the environment's functions (what `expr.ConstExpr` sets up) -/
def FnsOfEnv (c : SCfg) (fns : ConstFns) : Prop :=
  ∀ name id, fns.lookup name = some id → ∀ vs, callMember c.world c.env name vs = c.world.call id vs

/-- C02 at full strength for a setting `fl` of the deviation switches: whenever the optimizer accepts a
    tree, the optimised tree and the original one both fail or both yield observationally equal values,
    for every environment, world, budget and result cast. -/
def optimize_transparent_goal (fl : Flags) : Prop :=
  ∀ (c : SCfg) (fns : ConstFns) (n n' : Node) (cast : Option Nat), reOK n = true → FnsOfEnv c fns →
    optimize fl fns c.world n = .ok n' → ObsRes (Spec.run c cast n').1 (Spec.run c cast n).1

/-- the tree contains an integer `/` or `%` whose operands are constant integer expressions (literals, unary
    signs, `+ - * / %`, evaluated in Go's `int`) and whose divisor is zero — `OptProofs.dz`, defined on the
    tree as written, before any folding -/
def HasConstDivZero (n : Node) : Prop := dz n = true

example : HasConstDivZero (.binary {} "+" (.ident {} "x" false) (.binary {} "%" (.int {} 7) (.binary {} "-" (.int {} 1) (.int {} 1)))) := by
  show dz _ = true; rfl

/-- **The only trees the optimizer rejects**: if `optimizer.Optimize` fails, the tree contains a constant integer
    division or modulo by zero, or the compile-time call of a ConstExpr function on literal arguments failed
    (for every setting of the switches, every world, with or without ConstExpr functions).  The second disjunct says
    that SOME registered function fails on SOME literal arguments: nothing in it ties `name`, `args` to `n`
    (`OptProofs.ErrAt`, from which it is read, does not either). -/
theorem optimize_rejects_only_divzero (fl : Flags) (fns : ConstFns) (w : World) (n : Node) (l : Loc)
    (h : optimize fl fns w n = .error l) :
    HasConstDivZero n ∨
    ∃ name args id vs e, fns.lookup name = some id ∧ constArgs fl args = some vs ∧ w.call id vs = .error e := by
  unfold optimize optimizeWith at h
  simp only [guarded_all, bind, Except.bind, pure, Except.pure] at h
  have hin := walk_back fl.walkSliceNode (inArrayRule fl) (inArray_backward fl)
    (fun N st hh => absurd (by rw [inArray_no_err]) hh) n {}
  have hfold := repeatPass_back fl.walkSliceNode (foldRule fl w) (fold_backward fl w) (fold_err_dzHere fl w) foldWalks
    (walk fl.walkSliceNode (inArrayRule fl) n {}).1
  split at h
  · exact .inl (hin.2.1 (hfold.error ‹_›))
  · split at h
    · cases h
    · split at h
      · right
        obtain ⟨N, st, he⟩ := (repeatPass_errAt _ _ _ _).error ‹_›
        obtain ⟨m, name, args, fast, id, vs, e, _, h1, h2', h3'⟩ := constExpr_rejects_only_failed_call fl fns w N st he
        exact ⟨name, args, id, vs, e, h1, h2', h3'⟩
      · cases h

/-- without ConstExpr functions: "the only expression the optimizer may reject … is one containing a constant
    integer division or modulo by zero" -/
theorem optimize_rejects_only_divzero_plain (fl : Flags) (w : World) (n : Node) (l : Loc)
    (h : optimize fl [] w n = .error l) : HasConstDivZero n := by
  rcases optimize_rejects_only_divzero fl [] w n l h with h | ⟨_, _, _, _, _, h1, _⟩
  · exact h
  · cases h1

/-- a world with three environment functions: `I8 : func(int8) int8`, `I64 : func(int64) int64` (identities)
    and `X : func() int` -/
def w0 : World :=
  { call := fun id args => match id, args with
      | "I8", [.int .int8 n] => .ok (.int .int8 n)
      | "I64", [.int .int64 n] => .ok (.int .int64 n)
      | "X", [] => .ok (.int .int 2)
      | _, _ => .error .type_
    regexMatch := fun _ _ => none
    pow := fun x _ => x }

def cfg (env : Val) (budget : Int := 1000000) : SCfg := { world := w0, env := env, budget := budget }

private def mI (col : Nat) : Meta := ⟨⟨1, col⟩, .num .int⟩
private def mB (col : Nat) : Meta := ⟨⟨1, col⟩, .bool⟩
private def mS (col : Nat) : Meta := ⟨⟨1, col⟩, .string⟩
private def mA (col : Nat) : Meta := ⟨⟨1, col⟩, .slice⟩

/-- `1 in ["a"]` -/
def t8 : Node := .binary (mB 2) "in" (.int (mI 0) 1) (.array (mA 5) [.str (mS 6) "a"])
/-- `nil in ["a"]` -/
def t8n : Node := .binary (mB 4) "in" (.nil ⟨⟨1, 0⟩, .invalid⟩) (.array (mA 7) [.str (mS 8) "a"])

/-- (`inArrayStrGuard` off) the string-set rewrite ignores the left type: `false` becomes a run-time error -/
theorem in_array_left_type_witness :
    (∃ n', optimize Flags.asWas [] w0 t8 = .ok n' ∧ (Spec.run (cfg (.map [])) none n').1 = .error .type_) ∧
    (Spec.run (cfg (.map [])) none t8).1 = .ok (.bool false) ∧
    (∃ n', optimize Flags.asWas [] w0 t8n = .ok n' ∧ (Spec.run (cfg (.map [])) none n').1 = .error .type_) ∧
    (Spec.run (cfg (.map [])) none t8n).1 = .ok (.bool false) :=
  ⟨⟨_, rfl, rfl⟩, rfl, ⟨_, rfl, rfl⟩, rfl⟩

/-- with the guard `Left.Type().Kind() == reflect.String` the deviation is gone -/
theorem in_array_left_type_repaired :
    ∃ n', optimize Flags.asIs [] w0 t8 = .ok n' ∧ (Spec.run (cfg (.map [])) none n').1 = .ok (.bool false) :=
  ⟨_, rfl, rfl⟩

/-- `S in 1..3` -/
def t9s : Node := .binary (mB 2) "in" (.ident (mS 0) "S" false) (.binary (mA 6) ".." (.int (mI 5) 1) (.int (mI 8) 3))
/-- `I8 in -5..255` -/
def t9i : Node := .binary (mB 3) "in" (.ident ⟨⟨1, 0⟩, .num .int8⟩ "I8" false)
  (.binary (mA 8) ".." (.unary (mI 6) "-" (.int (mI 7) 5)) (.int (mI 10) 255))
/-- `X() in 1..1` -/
def t9x : Node := .binary (mB 4) "in" (.func (mI 0) "X" [] false) (.binary (mA 8) ".." (.int (mI 7) 1) (.int (mI 10) 1))

def env9 : Val := .map [("I8", .int .int8 7), ("S", .str "a"), ("X", .fn "X")]

/-- (`inRangeKindGuard`, `inRangeSimpleLeft` off) the in-range rewrite ignores the left type: a string operand fails instead of `false`; an `int8`
    operand is compared with bounds narrowed to `int8` (`7 in -5..255`: `true` becomes `false`) -/
theorem in_range_left_type_witness :
    (∃ n', optimize Flags.asWas [] w0 t9s = .ok n' ∧ (Spec.run (cfg env9) none n').1 = .error .type_) ∧
    (Spec.run (cfg env9) none t9s).1 = .ok (.bool false) ∧
    (∃ n', optimize Flags.asWas [] w0 t9i = .ok n' ∧ (Spec.run (cfg env9) none n').1 = .ok (.bool false)) ∧
    (Spec.run (cfg env9) none t9i).1 = .ok (.bool true) :=
  ⟨⟨_, rfl, rfl⟩, rfl, ⟨_, rfl, rfl⟩, rfl⟩

/-- (`inRangeSimpleLeft` off) the left operand is evaluated twice: call log `[X X]` instead of `[X]` -/
theorem in_range_left_twice_witness :
    (∃ n', optimize Flags.asWas [] w0 t9x = .ok n' ∧ (Spec.run (cfg env9) none n').2.log.length = 2) ∧
    (Spec.run (cfg env9) none t9x).2.log.length = 1 :=
  ⟨⟨_, rfl, rfl⟩, rfl⟩

theorem in_range_repaired :
    (∃ n', optimize Flags.asIs [] w0 t9s = .ok n' ∧ (Spec.run (cfg env9) none n').1 = .ok (.bool false)) ∧
    (∃ n', optimize Flags.asIs [] w0 t9x = .ok n' ∧ (Spec.run (cfg env9) none n').2.log.length = 1) ∧
    (∃ n', optimize Flags.asIs [] w0 t9i = .ok n' ∧ (Spec.run (cfg env9) none n').1 = .ok (.bool true)) :=
  ⟨⟨_, rfl, rfl⟩, ⟨_, rfl, rfl⟩, ⟨_, rfl, rfl⟩⟩

/-- `I8f(200 / 3)`: the checker has retyped both literals to the parameter type `int8` -/
def t10 : Node := .func ⟨⟨1, 0⟩, .num .int8⟩ "I8f"
  [.binary (mI 8) "/" (.int ⟨⟨1, 4⟩, .num .int8⟩ 200) (.int ⟨⟨1, 10⟩, .num .int8⟩ 3)] false

def env10 : Val := .map [("I64f", .fn "I64"), ("I8f", .fn "I8")]

/-- (`foldPlainOnly` off) literals already retyped for a parameter are folded with `int` arithmetic:
    `int8(200) / int8(3) = -18` becomes `int8(200 / 3) = 66` -/
theorem fold_retyped_witness :
    (∃ n', optimize Flags.asWas [] w0 t10 = .ok n' ∧ (Spec.run (cfg env10) none n').1 = .ok (.int .int8 66)) ∧
    (Spec.run (cfg env10) none t10).1 = .ok (.int .int8 (-18)) :=
  ⟨⟨_, rfl, rfl⟩, rfl⟩

theorem fold_retyped_repaired : optimize Flags.asIs [] w0 t10 = .ok t10 := rfl

/-- `I64f((7 % 2) * 3)`: only the right literal is retyped (`%` is not an arithmetic operation for the checker) -/
def t10m : Node := .func ⟨⟨1, 0⟩, .num .int64⟩ "I64f"
  [.binary (mI 13) "*" (.binary (mI 8) "%" (.int (mI 6) 7) (.int (mI 10) 2)) (.int ⟨⟨1, 15⟩, .num .int64⟩ 3)] false

/-- (`foldPlainOnly` off) the folded literal takes the annotation of the *left* operand: `1 * int64(3)`
    becomes the `int` literal 3, which `func(int64)` refuses at run time -/
theorem fold_mixed_annotation_witness :
    (∃ n', optimize Flags.asWas [] w0 t10m = .ok n' ∧ (Spec.run (cfg env10) none n').1 = .error .type_) ∧
    (Spec.run (cfg env10) none t10m).1 = .ok (.int .int64 3) ∧
    (∃ n', optimize Flags.asIs [] w0 t10m = .ok n' ∧ (Spec.run (cfg env10) none n').1 = .ok (.int .int64 3)) :=
  ⟨⟨_, rfl, rfl⟩, rfl, ⟨_, rfl, rfl⟩⟩

/-- `I64f(1)` with `I64f` registered as ConstExpr -/
def t11 : Node := .func ⟨⟨1, 0⟩, .num .int64⟩ "I64f" [.int ⟨⟨1, 5⟩, .num .int64⟩ 1] false

/-- (`constExprConvert` off) ConstExpr passes the literal as `int`: the compile-time call fails although the call succeeds at run time -/
theorem const_expr_int_kind_witness :
    optimize Flags.asWas [("I64f", "I64")] w0 t11 = .error ⟨1, 0⟩ ∧
    (Spec.run (cfg env10) none t11).1 = .ok (.int .int64 1) :=
  ⟨rfl, rfl⟩

theorem const_expr_int_kind_repaired :
    ∃ n', optimize Flags.asIs [("I64f", "I64")] w0 t11 = .ok n' ∧ (Spec.run (cfg env10) none n').1 = .ok (.int .int64 1) :=
  ⟨_, rfl, rfl⟩

/-- `[1, 2] == Ints` -/
def t12 : Node := .binary (mB 7) "==" (.array (mA 0) [.int (mI 1) 1, .int (mI 4) 2]) (.ident (mA 10) "Ints" false)
def env12 : Val := .map [("Ints", .arr (.num .int) [.int .int 1, .int .int 2])]

/-- (c02:array-literal-elem-type) a literal array becomes a `[]int` constant: `==` (reflect.DeepEqual on different slice types) changes
    from `false` to `true` — under `Flags.asIs` as well -/
theorem array_elem_type_witness :
    (∃ n', optimize Flags.asWas [] w0 t12 = .ok n' ∧ (Spec.run (cfg env12) none n').1 = .ok (.bool true)) ∧
    (∃ n', optimize Flags.asIs [] w0 t12 = .ok n' ∧ (Spec.run (cfg env12) none n').1 = .ok (.bool true)) ∧
    (Spec.run (cfg env12) none t12).1 = .ok (.bool false) :=
  ⟨⟨_, rfl, rfl⟩, ⟨_, rfl, rfl⟩, rfl⟩

/-- `len(1..10)` -/
def t13 : Node := .builtin (mI 0) "len" [.binary (mA 5) ".." (.int (mI 4) 1) (.int (mI 7) 10)]

/-- (c02:budget-differs) a constant range is not counted against the budget: under a budget of 10 elements the original
    fails, the optimised tree succeeds (on the real code: `len(1..1000000)` under the default budget) -/
theorem budget_witness :
    (∃ n', optimize Flags.asWas [] w0 t13 = .ok n' ∧ (Spec.run (cfg (.map []) 10) none n').1 = .ok (.int .int 10)) ∧
    (∃ n', optimize Flags.asIs [] w0 t13 = .ok n' ∧ (Spec.run (cfg (.map []) 10) none n').1 = .ok (.int .int 10)) ∧
    (Spec.run (cfg (.map []) 10) none t13).1 = .error .budget :=
  ⟨⟨_, rfl, rfl⟩, ⟨_, rfl, rfl⟩, rfl⟩

/-- `len(0..9223372036854775807)` -/
def t14 : Node := .builtin (mI 0) "len" [.binary (mA 5) ".." (.int (mI 4) 0) (.int (mI 7) 9223372036854775807)]

/-- (c02:const-range-size-overflow, `constRangeNoOverflow` off) `size := max - min + 1` wraps below 1 for a range of
    2^63 elements, and the range is folded to the EMPTY constant: `len(0..9223372036854775807)` is 0 when optimised,
    while the range itself exceeds every budget.  With emptiness decided by `max < min` (the switch on) the fold is
    skipped. -/
theorem const_range_overflow_witness :
    (∃ n', optimize { Flags.asIs with constRangeNoOverflow := false } [] w0 t14 = .ok n' ∧
      (Spec.run (cfg (.map [])) none n').1 = .ok (.int .int 0)) ∧
    (Spec.run (cfg (.map [])) none t14).1 = .error .budget ∧
    optimize Flags.asIs [] w0 t14 = .ok t14 :=
  ⟨⟨_, rfl, rfl⟩, rfl, rfl⟩

theorem fnsOfEnv_nil (c : SCfg) : FnsOfEnv c [] := by intro _ _ h; cases h

/-- the full-strength statement is false of the code before the repairs (`Flags.asWas`) … -/
theorem optimize_transparent_goal_fails_asWas : ¬ optimize_transparent_goal Flags.asWas := by
  intro h
  obtain ⟨⟨n', h1, h2⟩, h3, _⟩ := in_array_left_type_witness
  have := h (cfg (.map [])) [] t8 n' none rfl (fnsOfEnv_nil _) h1
  rw [h2, h3] at this
  exact this

/-- … and of the code of /repo (`Flags.asIs`, every repair in place), because of c02:array-literal-elem-type -/
theorem optimize_transparent_goal_fails_asIs : ¬ optimize_transparent_goal Flags.asIs := by
  intro h
  obtain ⟨_, ⟨n', h1, h2⟩, h3⟩ := array_elem_type_witness
  have := h (cfg env12) [] t12 n' none rfl (fnsOfEnv_nil _) h1
  rw [h2, h3] at this
  simp [ObsRes, ObsEq, obsEqB, Val.deepEq] at this

/-- an operand the in_range rewrite accepts (`simpleLeft`) is evaluated without touching the state -/
theorem simpleLeft_pure : ∀ (l : Node), simpleLeft l = true → ∀ ctx, ∃ r : R Val, eval c ctx l = SM.lift r := by
  intro l h ctx
  fun_induction simpleLeft l with
  | case1 m name ns => exact ⟨_, Spec.eval_ident c ctx m name ns⟩
  | case2 m =>
    rw [Spec.eval_pointer]
    split
    · exact ⟨_, rfl⟩
    · exact ⟨.error .type_, rfl⟩
  | case3 m v => exact ⟨.ok (intConst m.kd v), Spec.eval_int c ctx m v⟩
  | case4 m x name ns ih =>
    obtain ⟨r, hr⟩ := ih h
    rw [Spec.eval_prop, hr]
    cases r with
    | ok v => exact ⟨_, rfl⟩
    | error e => exact ⟨.error e, rfl⟩
  | case5 => cases h

example : IntLitOK ⟨⟨1, 0⟩, .num .int⟩ 9223372036854775807 := ⟨rfl, by decide⟩
example : IntLitOK {} (-9223372036854775808) := ⟨rfl, by decide⟩

/-- `I in [1, 2]` with `I : int` in the environment -/
def tEx : Node := .binary (mB 2) "in" (.ident (mI 0) "I" false) (.array (mA 5) [.int (mI 6) 1, .int (mI 9) 2])
def envEx : Val := .map [("I", .int .int 2)]
/-- its optimised form: `I in {1, 2}` (a constant `map[int]struct{}`) -/
def tEx' : Node := .binary (mB 2) "in" (.ident (mI 0) "I" false) (.const {} (.set (.num .int) [.int .int 1, .int .int 2]))

/-- the filter that lets exactly the in_array rewrite of `tEx` through -/
def gEx : Guard := fun p N => match p, N with
  | .inArray, .binary _ "in" (.ident _ "I" false) (.array _ [.int ⟨_, .num .int⟩ 1, .int ⟨_, .num .int⟩ 2]) => true
  | _, _ => false

theorem dynInt_I : DynInt (cfg envEx) (.ident (mI 0) "I" false) := by
  intro ctx s v t h
  rw [Spec.eval_ident] at h
  exact ⟨2, by cases h; rfl⟩

/-- the hypotheses of `optimize_transparent_partial` hold for a non-trivial instance (the rewrite fires) -/
example : ∃ n', optimize Flags.asIs [] w0 tEx = .ok n' ∧ (Spec.run (cfg envEx) none n').1 = .ok (.bool true) ∧
    (Spec.run (cfg envEx) none tEx).1 = .ok (.bool true) := by
  have hg : ∀ p N, gEx p N = true → GuardOK (cfg envEx) Flags.asIs [] p N := by
    intro p N h
    unfold gEx at h
    split at h
    · rename_i m1 m2 m3 l1 l2 l3 l4
      simp only [GuardOK, InArrayOK]
      refine ⟨fun _ _ => ⟨dynInt_I, ?_⟩, fun h _ => absurd rfl h⟩
      · intro x hx m v hxv
        simp only [List.mem_cons, List.not_mem_nil, or_false] at hx
        rcases hx with rfl | rfl <;> cases hxv <;> exact ⟨rfl, by decide⟩
    · cases h
  have h1 : optimizeWith gEx Flags.asIs [] w0 tEx = .ok tEx' := rfl
  have h2 : optimize Flags.asIs [] w0 tEx = .ok tEx' := rfl
  refine ⟨tEx', h2, ?_, rfl⟩
  exact optimize_transparent_partial_obs (c := cfg envEx) Flags.asIs [] gEx hg tEx tEx' rfl (h1.trans h2.symm) h2 _ rfl

/-! Transparency of the code of /repo (`Flags.asIs`).  What the optimizer tests itself (the guard switches of
`Opt.Flags`) is not assumed.  What remains as hypothesis, at the sites where a rewrite fires:

* `KindSound`: the static kind of the left operand of `in` is its dynamic kind — in EVERY closure context.  No theorem
  derives it from the checker's soundness (C03); it is unsatisfiable for an operand that mentions `#` (take a context
  whose collection holds values of another kind), so `g` must exclude such sites;
* integer literals are Go `int`s; the annotation of a folded node agrees with its literal (`FoldOKf`); the literals of
  `%` and the bounds of a literal range are annotated `int` (the checker never retypes those);
* the functions registered with ConstExpr are the environment's (`expr.ConstExpr` takes them from `Env`);
* NOT covered (`g` must exclude them, see `hrun`): folding of `**` (IEEE operations are opaque to the kernel) and of
  literal arrays (`fold_int_array`: only `ObsEq`; `==` and function parameters observe the difference:
  `array_elem_type_witness`, c02:array-literal-elem-type);
* a run of the ORIGINAL tree that exceeds the budget is excused (`budget_witness`, c02:budget-differs). -/

/-- static kind = dynamic kind, for the kinds the optimizer consults -/
def KindSound (c : SCfg) (l : Node) : Prop :=
  ∀ ctx s v t, eval c ctx l s = (.ok v, t) →
    (∀ k, l.kd = .num k → k.isInt = true → ∃ x, v = .int k x) ∧ (l.kd = .string → ∃ x, v = .str x)

/-- `Now`, here and in `foldNow_*`, `tNow`, `gNow`: under `Flags.asIs`, the switches set as the code of /repo has them.
    What is left of `GuardOK` there: the clauses a rule tests itself are gone, the kind clauses of `in` are the one
    hypothesis `KindSound` (`guardNow_imp`) -/
def GuardNow (c : SCfg) (fns : ConstFns) : Pass → Node → Prop
  | .inArray, .binary _ _ l (.array _ xs) => KindSound c l ∧ (allInts xs ≠ none → IntLitsOK xs)
  | .fold, N => FoldOKf Flags.asIs N
  | .constExpr, .func _ name _ _ =>
    ∀ id, fns.lookup name = some id → ∀ vs, callMember c.world c.env name vs = c.world.call id vs
  | .inRange, .binary _ _ l (.binary _ _ (.int mf a) (.int mt b)) =>
    IntLitOK mf a ∧ IntLitOK mt b ∧ KindSound c l ∧ (c.rangeSizeSigned = true → a ≤ b + 1)
  | .constRange, .binary _ op (.int ma lo) (.int mb hi) =>
    op = ".." → IntLitOK ma lo ∧ IntLitOK mb hi ∧ (c.rangeSizeSigned = true → lo ≤ hi + 1)
  | _, _ => True

/-- under `Flags.asIs` the fold guard asks nothing about the annotation of the literals of `+ - * /` -/
theorem foldNow_binary (m ma mb : Meta) (op : String) (a b : Int) (h4 : op = "+" ∨ op = "-" ∨ op = "*" ∨ op = "/") :
    FoldOKf Flags.asIs (.binary m op (.int ma a) (.int mb b)) ↔ inRange .int a ∧ inRange .int b ∧ m.kd = ma.kd := by
  have h1 : op ≠ "**" := by rcases h4 with rfl | rfl | rfl | rfl <;> decide
  have h2 : op ≠ "%" := by rcases h4 with rfl | rfl | rfl | rfl <;> decide
  simp [FoldOKf, h1, h2, Flags.asIs]

theorem foldNow_unary (m mi : Meta) (op : String) (i : Int) :
    FoldOKf Flags.asIs (.unary m op (.int mi i)) ↔ inRange .int i ∧ m.kd = mi.kd := by
  simp [FoldOKf, Flags.asIs]

theorem rangeKd_num {kd : RKind} (h : rangeKd kd = true) : ∃ k, kd = .num k ∧ RangeK k ∧ k.isInt = true := by
  cases kd with
  | num k => exact ⟨k, rfl, (rangeKd_iff k).mp h, ((rangeKd_iff k).mp h).isInt⟩
  | _ => simp [rangeKd] at h

private theorem KindSound.dynInt {l : Node} (h : KindSound c l) (hk : l.kd = .num .int) : DynInt c l :=
  fun ctx s v t he => (h ctx s v t he).1 .int hk rfl

private theorem KindSound.dynStr {l : Node} (h : KindSound c l) (hk : l.kd = .string) : DynStr c l :=
  fun ctx s v t he => (h ctx s v t he).2 hk

/-- that the operand does not touch the state comes from the shape the rule tested (`simpleLeft_pure`), the kind of
    its value from `KindSound` -/
private theorem KindSound.rangeLeftOK {l : Node} (h : KindSound c l) (hk : rangeKd l.kd = true)
    (hs : simpleLeft l = true) : RangeLeftOK c l := by
  obtain ⟨k, hkk, hrk, hint⟩ := rangeKd_num hk
  intro ctx
  obtain ⟨r, hr⟩ := simpleLeft_pure (c := c) l hs ctx
  refine ⟨r, hr, fun v hv => ?_⟩
  subst hv
  obtain ⟨x, hx⟩ := (h ctx {} v {} (by rw [hr]; rfl)).1 k hkk hint
  exact ⟨k, x, hx, hrk⟩

theorem guardNow_imp (fns : ConstFns) (p : Pass) (N : Node) (h : GuardNow c fns p N) :
    GuardOK c Flags.asIs fns p N := by
  cases p with
  | fold => exact h
  | constRange =>
    simp only [GuardOK]
    unfold ConstRangeOK
    split
    · intro hop
      obtain ⟨ha, hb, hs⟩ := h hop
      exact ⟨ha, hb, fun hf => (by cases hf), hs⟩
    · trivial
  | inArray =>
    simp only [GuardOK]
    unfold InArrayOK
    split
    · obtain ⟨hk, hx⟩ := h
      exact ⟨fun hkd hai => ⟨hk.dynInt hkd, hx hai⟩, fun _ hstr => hk.dynStr (hstr rfl)⟩
    · trivial
  | constExpr =>
    simp only [GuardOK]
    unfold ConstExprOK
    split
    · exact fun id vs hid hvs => ⟨fun ctx => constArgs_eval Flags.asIs ctx _ vs (.inl rfl) hvs, h id hid vs⟩
    · trivial
  | inRange =>
    simp only [GuardOK]
    unfold InRangeOK
    split
    · obtain ⟨ha, hb, hk, hs⟩ := h
      exact fun _ _ => ⟨ha, hb, fun hkd hsl => hk.rangeLeftOK (hkd rfl) (hsl rfl), hs⟩
    · trivial

/-- **Transparency of the optimizer of /repo (`Flags.asIs`)**: `optimize_transparent_partial` with `GuardNow`, the
    hypotheses listed above, for the guards — for every environment, world, budget and result cast. -/
theorem optimize_transparent_asIs_partial (fns : ConstFns) (g : Guard)
    (hg : ∀ p N, g p N = true → GuardNow c fns p N) (n n' : Node) (hn : reOK n = true)
    (hrun : optimizeWith g Flags.asIs fns c.world n = optimize Flags.asIs fns c.world n)
    (h : optimize Flags.asIs fns c.world n = .ok n') (cast : Option Nat) :
    (Spec.run c cast n).1 = .error .budget ∨ (Spec.run c cast n').1 = (Spec.run c cast n).1 :=
  optimize_transparent_partial Flags.asIs fns g (fun p N hp => guardNow_imp fns p N (hg p N hp)) n n' hn hrun h cast

/-- a non-trivial instance: `I in 1..3` (`I : int` in the environment) is rewritten to `I >= 1 and I <= 3` under
    `Flags.asIs`, and `GuardNow` holds at that site -/
def tNow : Node := .binary (mB 2) "in" (.ident (mI 0) "I" false) (.binary (mA 6) ".." (.int (mI 5) 1) (.int (mI 8) 3))

def tNow' : Node := .binary (mB 2) "and" (.binary {} ">=" (.ident (mI 0) "I" false) (.int (mI 5) 1))
  (.binary {} "<=" (.ident (mI 0) "I" false) (.int (mI 8) 3))

def gNow : Guard := fun p N => match p, N with
  | .inRange, .binary _ "in" (.ident ⟨_, .num .int⟩ "I" false) (.binary _ ".." (.int ⟨_, .num .int⟩ 1) (.int ⟨_, .num .int⟩ 3)) => true
  | _, _ => false

example : ∃ n', optimize Flags.asIs [] w0 tNow = .ok n' ∧ (Spec.run (cfg envEx) none n').1 = .ok (.bool true) := by
  have hg : ∀ p N, gNow p N = true → GuardNow (cfg envEx) [] p N := by
    intro p N h
    unfold gNow at h
    split at h
    · simp only [GuardNow]
      refine ⟨⟨rfl, by decide⟩, ⟨rfl, by decide⟩, ?_, fun h => by cases h⟩
      intro ctx s v t he
      rw [Spec.eval_ident] at he
      cases he
      exact ⟨fun k hk _ => ⟨2, by cases hk; rfl⟩, fun hk => by cases hk⟩
    · cases h
  have h0 : optimizeWith gNow Flags.asIs [] w0 tNow = .ok tNow' := rfl
  have h2 : optimize Flags.asIs [] w0 tNow = .ok tNow' := rfl
  have h1 := h0.trans h2.symm
  refine ⟨tNow', h2, ?_⟩
  rcases optimize_transparent_asIs_partial (c := cfg envEx) [] gNow hg tNow tNow' rfl h1 h2 none with hb | he
  · exact absurd hb (by rw [show (Spec.run (cfg envEx) none tNow).1 = .ok (.bool true) from rfl]; intro h; cases h)
  · rw [he]; rfl

/-! For type-checked trees the annotation hypotheses are discharged.  `wa n` (Proofs/OptAnnot.lean): integer literals
are Go ints and the annotation of a unary sign / of `+ - * /` / of `%` over `int`-annotated operands agrees with its
operand.  The checker establishes it (`check_wellAnnotated`); `inArray` and `fold` preserve it (`inArray_keepsWA`,
`fold_keepsWA`), and nothing after fold consults annotations. -/

/-- what is still asked at a fold site: no `**` (IEEE), literal operands of `%` annotated `int` (the checker
    never retypes those), no literal-array fold (c02:array-literal-elem-type).  The first and the last are clauses of
    `FoldOKf`, in its words; its other clauses follow from `wa` where the rule fires (`foldOKf_of_wa`). -/
def FoldRest : Node → Prop
  | .binary _ op (.int ma _) (.int mb _) => op ≠ "**" ∧ (op = "%" → plainKd ma.kd = true ∧ plainKd mb.kd = true)
  | .array _ xs => xs.isEmpty = true ∨ (allInts xs = none ∧ allStrs xs = none)
  | _ => True

/-- at a node where `fold` fires on a well-annotated tree, the guard of `foldRule_sound` holds: the literals are Go ints
    (`wa`), un-retyped (the rule tested it), and the new literal is annotated like the node (`foldNew_keepsWA`) -/
private theorem foldOKf_of_wa {fl : Flags} {w : World} (hf : fl.foldPlainOnly = true) {N n' : Node} (h : FoldNew fl w N n')
    (hw : wa N = true) (hr : FoldRest N) : FoldOKf fl N := by
  have hk := (foldNew_keepsWA hf h hw).2
  have no : ∀ {q : Prop}, fl.foldPlainOnly = false → q := fun h => absurd (hf.symm.trans h) (by decide)
  cases h with
  | sign =>
    simp only [wa, waHere, Bool.and_eq_true, decide_eq_true_eq] at hw
    exact ⟨hw.2, hk.symm, no⟩
  | @arith _ op _ _ _ _ _ h4 =>
    simp only [wa, waHere, Bool.and_eq_true, decide_eq_true_eq] at hw
    have hne : op ≠ "%" := by rintro rfl; exact absurd h4 (by decide)
    exact ⟨hr.1, hw.1.2, hw.2, fun h => absurd h hne, fun _ => ⟨hk.symm, no⟩⟩
  | @mod m ma a mb b =>
    have hh := wa_here _ hw
    simp only [wa, waHere, Bool.and_eq_true, decide_eq_true_eq] at hw
    obtain ⟨pa, pb⟩ := hr.2 rfl
    exact ⟨hr.1, hw.1.2, hw.2, fun _ => ⟨pa, pb, by simpa [waHere, arith4, pa, pb, Node.kd, Node.getMeta] using hh⟩,
      fun h => absurd rfl h⟩
  | pow => exact absurd rfl hr.1
  | concat => trivial
  | ints | strs => exact hr

theorem fold_sound_wa (fl : Flags) (hf : fl.foldPlainOnly = true) (N : Node) (hw : wa N = true) (hr : FoldRest N) (st : St) :
    Sim c (foldRule fl c.world N st).1 N :=
  (foldRule_step fl c.world N st).sim fun _ h => foldNew_sim h (foldOKf_of_wa hf h hw hr)

/-- `g` with fold confined to well-annotated nodes.  `optimizeWith_sim_of` asks for rules that are sound at EVERY node
    the filter lets through, and fold is sound only at well-annotated ones; on a well-annotated tree the confinement
    changes nothing (`optimizeWith_withWA`, by `OptProofs.repeatPass_agree`). -/
def withWA (g : Guard) : Guard := fun p N => g p N && (p != .fold || wa N)

theorem withWA_other (g : Guard) (p : Pass) (hp : p ≠ .fold) (r : Opt.Rule) : guarded (withWA g) p r = guarded g p r := by
  funext N st
  have : (p != Pass.fold) = true := by simpa using hp
  simp only [guarded, withWA, this, Bool.true_or, Bool.and_true]

theorem optimizeWith_withWA (fl : Flags) (hf : fl.foldPlainOnly = true) (fns : ConstFns) (w : World) (g : Guard)
    (n : Node) (hw : wa n = true) : optimizeWith (withWA g) fl fns w n = optimizeWith g fl fns w n := by
  unfold optimizeWith
  simp only [withWA_other g .inArray (by decide), withWA_other g .constExpr (by decide),
    withWA_other g .inRange (by decide), withWA_other g .constRange (by decide)]
  have hw1 := (walk_wa fl.walkSliceNode _ (guarded_keepsWA g .inArray _ (inArray_keepsWA fl)) n {} hw).1
  rw [repeatPass_agree fl.walkSliceNode (guarded (withWA g) .fold (foldRule fl w)) (guarded g .fold (foldRule fl w))
    (guarded_keepsWA g .fold _ (fold_keepsWA fl w hf))
    (fun N st hN => by simp only [guarded, withWA, hN, Bool.or_true, Bool.and_true]) foldWalks _ hw1]

/-- **Transparency of the optimizer of /repo (`Flags.asIs`), for well-annotated (type-checked) trees.**
    Hypotheses that remain, at the sites where a rewrite fires (`g`, `hrun`): at passes other than fold `GuardNow`
    (`KindSound` of the left operand of `in`, Go-int bounds of literal ranges, ConstExpr functions taken from the
    environment); at fold sites only `FoldRest`.  A budget error of the original run is excused (c02:budget-differs). -/
theorem optimize_transparent_checked_partial (fns : ConstFns) (g : Guard)
    (hg : ∀ p N, p ≠ .fold → g p N = true → GuardNow c fns p N)
    (hgf : ∀ N, g .fold N = true → FoldRest N)
    (n n' : Node) (hn : reOK n = true) (hw : wa n = true)
    (hrun : optimizeWith g Flags.asIs fns c.world n = optimize Flags.asIs fns c.world n)
    (h : optimize Flags.asIs fns c.world n = .ok n') (cast : Option Nat) :
    (Spec.run c cast n).1 = .error .budget ∨ (Spec.run c cast n').1 = (Spec.run c cast n).1 := by
  have hopt : optimizeWith (withWA g) Flags.asIs fns c.world n = .ok n' :=
    (optimizeWith_withWA Flags.asIs rfl fns c.world g n hw).trans (hrun.trans h)
  refine run_of_sim (optimizeWith_sim_of Flags.asIs fns (withWA g) (fun p N st hN => ?_) n n' hn hopt) cast
  simp only [withWA, Bool.and_eq_true] at hN
  by_cases hp : p = .fold
  · subst hp
    exact fold_sound_wa Flags.asIs rfl N (by simpa using hN.2) (hgf N hN.1) st
  · exact passRule_sound Flags.asIs fns p N (guardNow_imp fns p N (hg p N hp hN.1)) st

/-- a tree fresh from the parser (no annotations, integer literals are Go ints) is well annotated -/
theorem parser_tree_wellAnnotated (n : Node) (h : CheckerAnnot.fresh n = true) : wa n = true :=
  CheckerAnnot.fresh_wa n h

/-- **`checker.Check` establishes the annotation discipline the optimizer relies on** (for a checker
    that retypes literals for numeric parameters only, `retypeAnyParam = false`: the code after commit 6162013): the tree it returns for a
    well-annotated input — a parser tree, or the result of a previous check, as in `expr.Compile`, which checks
    twice — is well annotated. -/
theorem check_wellAnnotated (cfg : CheckCfg) (hd : cfg.dt.retypeAnyParam = false) (n n' : Node) (t : OTy)
    (hw : wa n = true) (h : check cfg n = .ok n' t) : wa n' = true :=
  CheckerAnnot.check_wellAnnotated cfg hd n n' t hw h

/-- the checker of /repo (`TDefects.asIs`) satisfies the side condition -/
example : TDefects.asIs.retypeAnyParam = false := rfl

/-- **parse → check → check → optimize**: for a parser tree that the checker accepts twice, the optimised tree has
    exactly the result of the checked tree unless the latter exceeds the budget — under the hypotheses of
    `optimize_transparent_checked_partial` that are not about annotations.  `expr.Compile` (and `Api.middle`) runs
    `compiler.PatchOperators` between the two checks; here the second check is on the first one's result, which is that
    pipeline when no `Operator` option is given (`explicitCallForm_nil`: then `PatchOperators` changes nothing). -/
theorem compile_pipeline_transparent_partial (cfg : CheckCfg) (hd : cfg.dt.retypeAnyParam = false)
    (fns : ConstFns) (g : Guard) (src n1 n2 n' : Node) (t1 t2 : OTy)
    (hsrc : CheckerAnnot.fresh src = true)
    (hc1 : check cfg src = .ok n1 t1) (hc2 : check cfg n1 = .ok n2 t2)
    (hg : ∀ p N, p ≠ .fold → g p N = true → GuardNow c fns p N)
    (hgf : ∀ N, g .fold N = true → FoldRest N)
    (hn : reOK n2 = true)
    (hrun : optimizeWith g Flags.asIs fns c.world n2 = optimize Flags.asIs fns c.world n2)
    (h : optimize Flags.asIs fns c.world n2 = .ok n') (cast : Option Nat) :
    (Spec.run c cast n2).1 = .error .budget ∨ (Spec.run c cast n').1 = (Spec.run c cast n2).1 :=
  optimize_transparent_checked_partial fns g hg hgf n2 n' hn
    (check_wellAnnotated cfg hd n1 n2 t2 (check_wellAnnotated cfg hd src n1 t1 (parser_tree_wellAnnotated src hsrc) hc1) hc2)
    hrun h cast

end ExprModel.C02
