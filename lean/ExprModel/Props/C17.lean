import ExprModel.Proofs.SpecEqs
import ExprModel.Proofs.PatchOps
import ExprModel.Props.C10
/-
C17 — Operator overloading is equivalent to calling the function.

`compiler.PatchOperators` = `ast.Walk` with `operatorPatcher` (Enter empty, Exit rewrites a BinaryNode
whose operator is mapped and whose operand types fit a candidate into the FunctionNode call).  Modelled
as `patchOperators Gen.walkTargets` — the walker with the slot table regenerated from ast/visitor.go —
and proved equal, as a tree, to `explicitCallForm`: the Spec that rewrites *every* occurrence by plain
structural recursion over every child slot.  Holds because the walker's table is complete (C10).
-/
namespace ExprModel.C17
open ExprModel Node

/-- the source of the patcher is what the model mirrors (`opPatcher`, `patchOperators`) -/
theorem patcher_shape :
    Gen.opPatcherEnterBody = [] ∧
    Gen.opPatcherExitBody =
      ["binaryNode, ok := (*node).(*ast.BinaryNode)", "if !ok { return }",
       "fns, ok := p.ops[binaryNode.Operator]", "if !ok { return }",
       "leftType := binaryNode.Left.Type()", "rightType := binaryNode.Right.Type()",
       "_, fn, ok := conf.FindSuitableOperatorOverload(fns, p.types, leftType, rightType)",
       "if ok { newNode := &ast.FunctionNode{ Name: fn, Arguments: []ast.Node{binaryNode.Left, binaryNode.Right}, } ast.Patch(node, newNode) }"] ∧
    Gen.opPatcherNewKind = .FunctionNode ∧
    Gen.opPatcherNewFields = [("Name", "fn"), ("Arguments", "[]ast.Node{binaryNode.Left, binaryNode.Right}")] ∧
    Gen.patchOperatorsBody =
      ["if len(config.Operators) == 0 { return }",
       "patcher := &operatorPatcher{ops: config.Operators, types: config.Types}", "ast.Walk(node, patcher)"] ∧
    Gen.exprOperatorBody = ["return func(c *conf.Config) { c.Operators[operator] = append(c.Operators[operator], fn...) }"] :=
  ⟨rfl, rfl, rfl, rfl, rfl, rfl⟩

/-- `conf.FindSuitableOperatorOverload` returns the first candidate both of whose parameter types fit (`findOverload`,
    `Param.fits`), and the checker's `BinaryNode` case asks it before anything else -/
theorem overload_search_shape :
    Gen.findOverloadLoop =
      ["for _, fn := range fns", "fnType := types[fn]", "firstInIndex := 0",
       "if fnType.Method { firstInIndex = 1 }",
       "firstArgType := fnType.Type.In(firstInIndex)", "secondArgType := fnType.Type.In(firstInIndex + 1)",
       "firstArgumentFit := l == firstArgType || (firstArgType.Kind() == reflect.Interface && (l == nil || l.Implements(firstArgType)))",
       "secondArgumentFit := r == secondArgType || (secondArgType.Kind() == reflect.Interface && (r == nil || r.Implements(secondArgType)))",
       "if firstArgumentFit && secondArgumentFit { return fnType.Type.Out(0), fn, true }"] ∧
    Gen.findOverloadBody.length = 2 ∧ Gen.findOverloadBody.getLast? = some "return nil, \"\", false" ∧
    Gen.checkerBinaryHead =
      ["l := v.visit(node.Left)", "r := v.visit(node.Right)",
       "if fns, ok := v.operators[node.Operator]; ok { t, _, ok := conf.FindSuitableOperatorOverload(fns, v.types, l, r) if ok { return t } }"] :=
  ⟨rfl, rfl, rfl, rfl⟩

/-- the operator loop of `Config.Check` (`configCheck`, `checkFn`) -/
theorem config_check_shape :
    Gen.configCheckOperatorLoop =
      "for op, fns := range c.Operators { for _, fn := range fns { fnType, ok := c.Types[fn] if !ok || fnType.Type == nil || fnType.Type.Kind() != reflect.Func { return fmt.Errorf(\"function %s for %s operator does not exist in environment\", fn, op) } requiredNumIn := 2 if fnType.Method { requiredNumIn = 3 } if fnType.Type.NumIn() != requiredNumIn || fnType.Type.NumOut() != 1 { return fmt.Errorf(\"function %s for %s operator does not have a correct signature\", fn, op) } } }" :=
  rfl

/-- **Main theorem.**  For every overload table, every typing of the nodes and every tree: patching the
    operators through the walker yields exactly the explicit-call form. -/
theorem patch_eq_explicit (ops : OpTable) (tyOf : Node → String) (n : Node) :
    patchOperators Gen.walkTargets ops tyOf n = some (explicitCallForm ops tyOf n) := by
  rw [C10.walk_table_is_reference]
  exact patchOperators_ref ops tyOf n

/-- hence whatever is computed from the tree afterwards (type check, optimisation, compilation, run) is
    computed from the explicit-call form -/
theorem overload_is_call {α : Type} (run : Node → α) (ops : OpTable) (tyOf : Node → String) (n : Node) :
    (patchOperators Gen.walkTargets ops tyOf n).map run = some (run (explicitCallForm ops tyOf n)) := by
  rw [patch_eq_explicit]; rfl

/-- an occurrence whose (rewritten) operands fit a candidate is the call of that function on the
    operands in order, with the type and location of the occurrence; any other stays the operator -/
theorem occurrence_rewritten (ops : OpTable) (tyOf : Node → String) (m : Meta) (op : String) (l r : Node) :
    explicitCallForm ops tyOf (.binary m op l r) =
      match overloadFor ops tyOf op (explicitCallForm ops tyOf l) (explicitCallForm ops tyOf r) with
      | some fn => .func m fn [explicitCallForm ops tyOf l, explicitCallForm ops tyOf r] false
      | none => .binary m op (explicitCallForm ops tyOf l) (explicitCallForm ops tyOf r) := by
  simp only [explicitCallForm, callOrOp]
  cases overloadFor ops tyOf op (explicitCallForm ops tyOf l) (explicitCallForm ops tyOf r) <;> rfl

/-- **Wherever the occurrence sits.**  At every position of the tree (under slices and indexes, in
    closure bodies, arguments, map values, branches, to any depth) the patched tree holds the
    explicit-call form of the sub-tree that was there. -/
theorem explicit_at_position (ops : OpTable) (tyOf : Node → String) :
    ∀ (p : List Nat) (n : Node),
      nodeAt p (explicitCallForm ops tyOf n) = (nodeAt p n).map (explicitCallForm ops tyOf) := by
  have e : explicitCallForm ops tyOf = bottomUp (patchExit ops tyOf) :=
    funext (explicitCallForm_eq_bottomUp ops tyOf)
  rw [e]
  exact bottomUp_at_of_children _ (patchExit_children ops tyOf)

/-- an operator that is not mapped keeps its built-in meaning -/
theorem others_keep_builtin (ops : OpTable) (tyOf : Node → String) (m : Meta) (op : String) (l r : Node)
    (h : ops.lookup op = none) :
    explicitCallForm ops tyOf (.binary m op l r) =
      .binary m op (explicitCallForm ops tyOf l) (explicitCallForm ops tyOf r) := by
  rw [occurrence_rewritten]; simp [overloadFor, h]

/-- a mapped operator whose operand types fit no candidate keeps its built-in meaning -/
theorem others_keep_builtin_types (ops : OpTable) (tyOf : Node → String) (m : Meta) (op : String) (l r : Node)
    (cands : List OpCand) (h : ops.lookup op = some cands)
    (hno : ∀ c ∈ cands, (c.l.fits (tyOf (explicitCallForm ops tyOf l)) && c.r.fits (tyOf (explicitCallForm ops tyOf r))) = false) :
    explicitCallForm ops tyOf (.binary m op l r) =
      .binary m op (explicitCallForm ops tyOf l) (explicitCallForm ops tyOf r) := by
  rw [occurrence_rewritten]
  simp [overloadFor, h, (findOverload_none_iff cands _ _).mpr hno]

/-- non-binary nodes are never rewritten themselves (e.g. `matches`, unary operators) -/
theorem only_binary_rewritten (ops : OpTable) (tyOf : Node → String) (n : Node) (h : n.nk ≠ .BinaryNode) :
    (explicitCallForm ops tyOf n).nk = n.nk := by
  cases n <;> first | rfl | exact absurd rfl h

/-- the first candidate, in the order the functions were given, whose two parameters fit is chosen -/
theorem first_match_wins (pre post : List OpCand) (c : OpCand) (tl tr : String)
    (hpre : ∀ d ∈ pre, (d.l.fits tl && d.r.fits tr) = false) (hc : (c.l.fits tl && c.r.fits tr) = true) :
    findOverload (pre ++ c :: post) tl tr = some c.fn :=
  findOverload_first pre post c tl tr hpre hc

/-- a chosen function is a candidate both of whose parameters fit the operand types: equal type, or an
    interface parameter with a nil-typed operand or an operand type implementing it -/
theorem chosen_fits (cs : List OpCand) (tl tr fn : String) (h : findOverload cs tl tr = some fn) :
    ∃ c ∈ cs, c.fn = fn ∧
      (tl = c.l.ty ∨ (c.l.iface = true ∧ (tl = nilTyKey ∨ tl ∈ c.l.impls))) ∧
      (tr = c.r.ty ∨ (c.r.iface = true ∧ (tr = nilTyKey ∨ tr ∈ c.r.impls))) := by
  obtain ⟨c, hc, hfn, hl, hr⟩ := findOverload_some cs tl tr fn h
  refine ⟨c, hc, hfn, ?_, ?_⟩
  · simpa [Param.fits] using hl
  · simpa [Param.fits] using hr

/-- the call node takes over type and location of the operator occurrence (`ast.Patch`) -/
theorem patched_keeps_meta (ops : OpTable) (tyOf : Node → String) (m : Meta) (op : String) (l r : Node) :
    (callOrOp ops tyOf m op l r).getMeta = m ∧
    patchExit ops tyOf (.binary m op l r) = callOrOp ops tyOf m op l r := by
  refine ⟨?_, patchExit_binary ops tyOf m op l r⟩
  simp only [callOrOp]; cases overloadFor ops tyOf op l r <;> rfl

/-- **Config.Check** accepts an operator table exactly when every mapped name is in the types table
    with a function type of two parameters (three for methods: the receiver) and one result; anything
    else is rejected with an error (`missing` / `badSignature`). -/
theorem config_check_rejects (types : List (String × FnTag)) (ops : List (String × List String)) :
    configCheck types ops = .ok ↔
      ∀ e ∈ ops, ∀ fn ∈ e.2, ∃ t, types.lookup fn = some t ∧
        t.hasType = true ∧ t.isFunc = true ∧ t.numIn = (if t.method then 3 else 2) ∧ t.numOut = 1 := by
  simp only [configCheck_ok_iff, FnTag.wellShaped_iff]

/-- a name whose tag has no type (an ambiguous embedded field, a nil map value) is rejected as missing -/
theorem config_check_untyped_rejected :
    configCheck [("X", { hasType := false, isFunc := false, numIn := 0, numOut := 0 })] [("+", ["X"])] = .missing "X" "+" := by
  decide

/-- `Config.Check` never fails otherwise than by returning one of its two errors -/
theorem config_check_total (types : List (String × FnTag)) (ops : List (String × List String)) :
    configCheck types ops = .ok ∨ (∃ fn op, configCheck types ops = .missing fn op) ∨
      (∃ fn op, configCheck types ops = .badSignature fn op) := by
  cases h : configCheck types ops with
  | ok => exact Or.inl rfl
  | missing fn op => exact Or.inr (Or.inl ⟨fn, op, rfl⟩)
  | badSignature fn op => exact Or.inr (Or.inr ⟨fn, op, rfl⟩)

/-! C01's theorems (`run_conforms_*`) transfer every statement about `Spec.eval` to runs of the compiled program; so
`call_semantics` below, with `patch_eq_explicit`, is the property's sentence "evaluates to that function applied to
the operands in order". -/

private theorem evalList_cons_nonpair (c : Spec.SCfg) (ctx : Spec.Ctx) (n : Node) (rest : List Node)
    (hn : ∀ mm k v, n ≠ .pair mm k v) :
    Spec.evalList c ctx (n :: rest) =
      (do let v ← Spec.eval c ctx n; let vs ← Spec.evalList c ctx rest; pure (v :: vs)) :=
  Spec.evalList_cons c ctx n rest (by cases n <;> first | rfl | exact absurd rfl (hn _ _ _))

/-- The explicit call of a two-argument function evaluates the operands left to right and
    applies the function to their values in that order (one logged call, the function's result or failure) -/
theorem call_semantics (c : Spec.SCfg) (ctx : Spec.Ctx) (m : Meta) (fn : String) (l r : Node) (fast : Bool)
    (hl : ∀ mm k v, l ≠ .pair mm k v) (hr : ∀ mm k v, r ≠ .pair mm k v) :
    Spec.eval c ctx (.func m fn [l, r] fast) = (do
      let vl ← Spec.eval c ctx l
      let vr ← Spec.eval c ctx r
      let res := callMember c.world c.env fn [vl, vr]
      if callHappened res then Spec.SM.logCall fn [vl, vr]
      Spec.SM.lift res) := by
  rw [Spec.eval_func, evalList_cons_nonpair c ctx l [r] hl, evalList_cons_nonpair c ctx r [] hr, Spec.evalList_nil]
  simp only [Spec.SM.bind_assoc, Spec.SM.pure_bind]
  rfl

/-- `(a + b)[0:1]` with `+` mapped to `Add(Vec, Vec)`: the sliced operand is rewritten -/
example :
    let ops : OpTable := [("+", [{ fn := "Add", l := { ty := "Vec" }, r := { ty := "Vec" } }])]
    let tyOf : Node → String := fun n => match n with | .ident _ _ _ => "Vec" | _ => "?"
    let a := Node.ident {} "a" false
    let b := Node.ident {} "b" false
    explicitCallForm ops tyOf (.slice {} (.binary {} "+" a b) (some (.int {} 0)) (some (.int {} 1)))
      = .slice {} (.func {} "Add" [a, b] false) (some (.int {} 0)) (some (.int {} 1)) := by
  rfl

end ExprModel.C17
