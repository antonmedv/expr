import ExprModel.Proofs.SourcePos
import ExprModel.Gen.SetLocation
import ExprModel.Proofs.LocMap
/-
C13 — Errors point at the offending source position.  `file.Source` / `Error.Bind` for all sources (multi-line,
non-ASCII, tabs): no panic, the snippet of line L is the L-th line, the lexer's positions lie inside the source, the
caret is under the column (on a line with a multi-byte rune at or before the column the code draws no indicator
line: harness/c13.go `bind`).  Where locations come from: facts regenerated from /repo, compared with the tables the
property relies on.  The location map of compiler and VM (`LocMap`).
-/
namespace ExprModel.C13
open ExprModel ExprModel.Src

/-- Every index and slice expression of `findLineOffset`/`Snippet` is in range, for every source and every (also
    negative or huge) line number. -/
theorem snippet_total (src : List Char) (line : Int) : snippet src line ≠ .panic := by
  rw [snippet_eq]
  split
  · nofun
  · split <;> nofun

/-- For a non-empty source and every 1-based line number L in range, `Snippet(L)` is found and is the text between
    the (L-1)-th and the L-th newline (`nthLine`, defined without reference to the offsets table). -/
theorem snippet_is_line (src : List Char) (hs : src ≠ []) (L : Nat) (h1 : 1 ≤ L) (h2 : L ≤ numLines src) :
    ∃ l, nthLine src (L - 1) = some l ∧ snippet src (L : Int) = .ok (l, true) := by
  obtain ⟨l, hl⟩ := (nthLine_isSome_iff src (L - 1)).2 (by omega)
  refine ⟨l, hl, ?_⟩
  rw [snippet_eq, if_neg (not_or.2 ⟨hs, by omega⟩), show ((L : Int) - 1).toNat = L - 1 by omega, hl]

theorem snippet_found_iff (src : List Char) (line : Int) :
    (∃ l, snippet src line = .ok (l, true)) ↔ (src ≠ [] ∧ 1 ≤ line ∧ line ≤ numLines src) := by
  have hlt := nthLine_isSome_iff src (line - 1).toNat
  rw [snippet_eq]
  constructor
  · rintro ⟨l, hl⟩
    split at hl
    · cases hl
    · next hc =>
      rw [not_or] at hc
      cases hn : nthLine src (line - 1).toNat with
      | some l' => exact ⟨hc.1, by omega, by have := hlt.1 ⟨l', hn⟩; omega⟩
      | none => rw [hn] at hl; cases hl
  · rintro ⟨hs, h1, h2⟩
    obtain ⟨l, hl⟩ := hlt.2 (by omega)
    exact ⟨l, by rw [if_neg (not_or.2 ⟨hs, by omega⟩), hl]⟩

theorem snippet_not_found (src : List Char) (line : Int) (l : List Char) (h : snippet src line = .ok (l, false)) :
    l = [] ∧ (src = [] ∨ line < 1 ∨ (numLines src : Int) < line) := by
  have hlt := nthLine_isSome_iff src (line - 1).toNat
  rw [snippet_eq] at h
  split at h
  · next hc =>
    cases h
    exact ⟨rfl, hc.imp_right Or.inl⟩
  · next hc =>
    rw [not_or] at hc
    cases hn : nthLine src (line - 1).toNat with
    | some l' => rw [hn] at h; cases h
    | none =>
      rw [hn] at h
      cases h
      refine ⟨rfl, Or.inr (Or.inr (Int.lt_of_not_ge fun hge => ?_))⟩
      obtain ⟨l', hl'⟩ := hlt.2 (by omega)
      rw [hn] at hl'
      cases hl'

theorem numLines_eq (src : List Char) : numLines src = src.count '\n' + 1 := by
  unfold numLines
  induction src with
  | nil => simp [splitLines]
  | cons c cs ih =>
    by_cases h : c = '\n'
    · subst h; simp [splitLines, ih]
    · have hne := splitLines_ne_nil cs
      simp only [splitLines, h, if_false]
      cases hsp : splitLines cs with
      | nil => exact absurd hsp hne
      | cons l ls =>
        rw [hsp] at ih
        rw [List.count_cons]
        simp only [List.length_cons] at ih ⊢
        have : (c == '\n') = false := by simpa using h
        simp [this, ih]

theorem line_has_no_newline (src : List Char) (n : Nat) (l : List Char) (h : nthLine src n = some l) : '\n' ∉ l :=
  nthLine_no_nl src n l h

/-- the lines, joined by newlines, are the source: nothing is lost or invented by `updateOffsets` -/
theorem lines_rebuild_source (src : List Char) : joinLines (splitLines src) = src := join_split src

/-- **Every location the lexer's rule can produce lies inside the source.** -/
theorem loc_in_source (src : List Char) (k : Nat) (hk : k ≤ src.length) : InSource src (posOf src k) := by
  obtain ⟨b, hline, hcol⟩ := posOf_in_line src k hk
  refine ⟨?_, _, hline, ?_⟩
  · rw [posOf_eq src k hk]; exact Nat.le_add_right 1 _
  · rw [hcol, List.length_append]; exact Nat.le_add_right _ _

/-- … and the line it names carries, at the column it names, the rune at offset `k` (for a newline: the
    column is the end of its line). -/
theorem loc_names_rune (src : List Char) (k : Nat) (ch : Char) (hk : src[k]? = some ch) :
    ∃ l, nthLine src ((posOf src k).line - 1) = some l ∧
      (ch ≠ '\n' → l[(posOf src k).col]? = some ch) ∧ (ch = '\n' → (posOf src k).col = l.length) := by
  obtain ⟨hlt, hget⟩ := List.getElem?_eq_some_iff.1 hk
  obtain ⟨b, hline, hcol⟩ := posOf_in_line src k (Nat.le_of_lt hlt)
  rw [List.drop_eq_getElem_cons hlt, hget, firstLine] at hline
  refine ⟨_, hline, ?_, ?_⟩
  · intro hne
    rw [hcol, if_neg hne, List.getElem?_append_right (Nat.le_refl _), Nat.sub_self]
    rfl
  · intro he
    rw [hcol, if_pos he, List.append_nil]

/-- hence the snippet rendered for that location contains the offending rune at the reported column -/
theorem snippet_contains_rune (src : List Char) (k : Nat) (ch : Char) (hk : src[k]? = some ch) (hnl : ch ≠ '\n') :
    ∃ l, snippet src ((posOf src k).line : Int) = .ok (l, true) ∧ l[(posOf src k).col]? = some ch := by
  have hlt : k < src.length := (List.getElem?_eq_some_iff.1 hk).1
  have hs : src ≠ [] := fun e => by rw [e] at hlt; cases hlt
  obtain ⟨l, hl, hc, _⟩ := loc_names_rune src k ch hk
  have h1 : 1 ≤ (posOf src k).line := (loc_in_source src k (Nat.le_of_lt hlt)).1
  have hrange : (posOf src k).line - 1 < numLines src := (nthLine_isSome_iff _ _).1 ⟨l, hl⟩
  obtain ⟨l2, hl2, hsn⟩ := snippet_is_line src hs (posOf src k).line h1 (by omega)
  rw [hl] at hl2
  cases hl2
  exact ⟨l, hsn, hc hnl⟩

theorem posOf_closed_form (src : List Char) (k : Nat) (hk : k ≤ src.length) :
    posOf src k = { line := 1 + (src.take k).count '\n', col := colSince (src.take k) } :=
  posOf_eq src k hk

theorem bind_total (src : List Char) (e : FileError) : bind src e ≠ .panic := by
  rw [bind_eq]
  split
  · nofun
  · split <;> nofun

theorem bind_keeps_location (src : List Char) (e e' : FileError) (h : bind src e = .ok e') :
    e'.line = e.line ∧ e'.col = e.col ∧ e'.msg = e.msg := by
  rw [bind_eq] at h
  split at h
  · cases h; exact ⟨rfl, rfl, rfl⟩
  · split at h
    · cases h; exact ⟨rfl, rfl, rfl⟩
    · cases h
      split <;> exact ⟨rfl, rfl, rfl⟩

/-- For every source and every error whose line exists, the rendered snippet is `"\n | " ++ line` (tabs shown as
    spaces), optionally followed by an indicator line of dots and one caret. -/
theorem bind_snippet_is_line (src : List Char) (e : FileError) (hs : src ≠ []) (h1 : 1 ≤ e.line)
    (h2 : e.line ≤ numLines src) :
    ∃ l e', nthLine src (e.line - 1).toNat = some l ∧ bind src e = .ok e' ∧
      (e'.snippet = gutter ++ tabsToSpaces l ∨
       e'.snippet = gutter ++ tabsToSpaces l ++ gutter ++
          (List.replicate (min e.col.toNat l.length) '.' ++ ['^'])) := by
  obtain ⟨l, hl⟩ := (nthLine_isSome_iff src (e.line - 1).toNat).2 (by omega)
  rw [bind_of_line src e l hs h1 hl]
  cases hi : indicator l e.col.toNat with
  | none => exact ⟨l, _, hl, rfl, Or.inl rfl⟩
  | some ind =>
    refine ⟨l, _, hl, rfl, Or.inr ?_⟩
    rw [indicator_some _ _ _ hi]

theorem rendered_line_verbatim (l : List Char) (h : '\t' ∉ l) : tabsToSpaces l = l := tabsToSpaces_id l h

/-- On ASCII-only lines the indicator line has the same 4-rune gutter as the source line, then exactly `col` dots,
    then the caret. -/
theorem bind_indicator (src : List Char) (e : FileError) (l : List Char) (hs : src ≠ []) (h1 : 1 ≤ e.line)
    (h2 : e.line ≤ numLines src) (hl : nthLine src (e.line - 1).toNat = some l)
    (hascii : ∀ c ∈ l, isMulti c = false) (hc0 : 0 ≤ e.col) (hc : e.col ≤ l.length) :
    bind src e = .ok { e with snippet := gutter ++ tabsToSpaces l ++ gutter ++ (List.replicate e.col.toNat '.' ++ ['^']) } := by
  rw [bind_of_line src e l hs h1 hl, indicator_ascii _ _ hascii, show min e.col.toNat l.length = e.col.toNat by omega]

/-- As the code behaves: when the named line has a rune ≥ U+0080 at or before the column, `Bind` jumps to `noind:` —
    the snippet is the source line it names, with no indicator line (nothing marks the column). -/
theorem bind_no_indicator_on_multibyte (src : List Char) (e : FileError) (l : List Char) (hs : src ≠ [])
    (h1 : 1 ≤ e.line) (h2 : e.line ≤ numLines src) (hl : nthLine src (e.line - 1).toNat = some l)
    (i : Nat) (c : Char) (hi : (i : Int) ≤ e.col) (hc : l[i]? = some c) (hm : isMulti c = true) :
    bind src e = .ok { e with snippet := gutter ++ tabsToSpaces l } := by
  rw [bind_of_line src e l hs h1 hl, indicator_none _ _ i c (by omega) hc hm]

/-- witness of the quirk: `é+` with an error at column 1 (the `+`) gets the line but no caret;
    the same error in `e+` gets `.^`. -/
theorem bind_multibyte_witness :
    bind "é+\nx".toList { line := 1, col := 1, msg := "m".toList } =
      .ok { line := 1, col := 1, msg := "m".toList, snippet := "\n | é+".toList } ∧
    bind "e+\nx".toList { line := 1, col := 1, msg := "m".toList } =
      .ok { line := 1, col := 1, msg := "m".toList, snippet := "\n | e+\n | .^".toList } := by
  decide +kernel

theorem bind_line_missing (src : List Char) (e : FileError)
    (h : src = [] ∨ e.line < 1 ∨ (numLines src : Int) < e.line) : bind src e = .ok e := by
  rw [bind_eq]
  split
  · rfl
  · next hc =>
    cases hn : nthLine src (e.line - 1).toNat with
    | none => rfl
    | some l =>
      have hlt := (nthLine_isSome_iff src _).1 ⟨l, hn⟩
      rcases h with h | h | h
      · exact absurd (Or.inl h) hc
      · exact absurd (Or.inr h) hc
      · omega

/-- an empty location (0:0) prints the bare message — nothing points into the source -/
theorem format_empty_location (msg snip : List Char) :
    format { line := 0, col := 0, msg := msg, snippet := snip } = msg := by
  simp [format, locEmpty]

/-- non-vacuity on a 3-line, non-ASCII, tabbed source -/
example : let src := "a\t+ 'é'\n  b.c\n".toList
    src ≠ [] ∧ numLines src = 3 ∧ nthLine src 1 = some "  b.c".toList ∧ nthLine src 2 = some [] ∧
    posOf src 8 = { line := 2, col := 0 } ∧ posOf src 12 = { line := 2, col := 4 } ∧
    snippet src 2 = .ok ("  b.c".toList, true) ∧ snippet src 3 = .ok ([], true) ∧
    snippet src 4 = .ok ([], false) ∧ snippet src 0 = .ok ([], false) ∧ snippet src (-1) = .ok ([], false) := by
  decide +kernel

/-! `Gen.Loc.*` is written by translator/locsites.go from the Go source; each theorem below compares it with the
table the property relies on.  A constructor that stops calling `SetLocation` or passes another token, a new
unlocated error site, `emit` recording another node, the VM reading another offset: the corresponding theorem
fails to check. -/

open ExprModel.LocFacts

/-- For every node constructor of parser/parser.go, which token's location the node
    receives (`roleOf`).  The opening bracket is also what map pairs and bare map keys (the `StringNode` beside
    `PairNode`) get; a conditional gets its `?` (the code after commit 4de6c8c; before it `ConditionalNode` is
    the one constructor without `SetLocation`). -/
theorem node_loc_table :
    Gen.Loc.parserSites.map (fun s => (s.node, roleOf s)) =
      [("MatchesNode", .binaryOp), ("BinaryNode", .binaryOp), ("UnaryNode", .unaryOp), ("PointerNode", .pointerTok),
       ("ConditionalNode", .questionOp),
       ("BoolNode", .ownToken), ("BoolNode", .ownToken), ("NilNode", .ownToken), ("IntegerNode", .ownToken),
       ("FloatNode", .ownToken), ("IntegerNode", .ownToken), ("StringNode", .ownToken),
       ("BuiltinNode", .nameToken), ("FunctionNode", .nameToken), ("IdentifierNode", .nameToken),
       ("ClosureNode", .openBracket), ("ArrayNode", .openBracket),
       ("StringNode", .openBracket), ("PairNode", .openBracket), ("MapNode", .openBracket),
       ("MethodNode", .memberName), ("PropertyNode", .memberName),
       ("SliceNode", .indexBracket), ("SliceNode", .indexBracket), ("IndexNode", .indexBracket)] := by
  decide +kernel

/-- every `SetLocation` call of parser.go directly follows a constructor and is counted above; no
    constructor is left without one -/
theorem parser_unlocated_constructors :
    (Gen.Loc.parserSites.filter (fun s => s.locArg == "")).map (·.node) = [] ∧
    (Gen.Loc.parserSites.filter (fun s => s.locArg != "")).length = Gen.Loc.parserSetLocationCalls ∧
    Gen.Loc.parserSites.all (fun s => s.locArg == "" || s.locArg == "token.Location") = true := by
  decide +kernel

/-- the parameter `token` of `parseIdentifierExpression` / `parseArrayExpression` / `parseMapExpression`
    is the token captured at the entry of `parsePrimaryExpression` (an Identifier, resp. `[`, `{`) -/
theorem token_parameters_are_entry_tokens :
    Gen.Loc.tokenPasses =
      [{ caller := "parsePrimaryExpression", callee := "parseIdentifierExpression", args := "token, p.current",
         guards := ["switch token.Kind", "case Identifier", "switch token.Value", "default"] },
       { caller := "parsePrimaryExpression", callee := "parseArrayExpression", args := "token",
         guards := ["switch token.Kind", "default", "token.Is(Bracket, \"[\")"] },
       { caller := "parsePrimaryExpression", callee := "parseMapExpression", args := "token",
         guards := ["switch token.Kind", "default", "else", "token.Is(Bracket, \"{\")"] }] ∧
    Gen.Loc.parserFirstStmt.lookup "parsePrimary" = some "token := p.current" ∧
    Gen.Loc.parserFirstStmt.lookup "parseClosure" = some "token := p.current" ∧
    Gen.Loc.parserFirstStmt.lookup "parsePostfixExpression" = some "token := p.current" :=
  ⟨rfl, by decide +kernel⟩

/-- `ast.Patch` copies type and location of the replaced node; the patch closures of the optimizer
    passes go through it -/
theorem patch_copies_location :
    Gen.Loc.astPatchBody = ["newNode.SetType((*node).Type())", "newNode.SetLocation((*node).Location())", "*node = newNode"] ∧
    Gen.Loc.baseSetLocationBody = ["n.loc = loc"] ∧ Gen.Loc.baseLocationBody = ["return n.loc"] ∧
    Gen.Loc.foldPatchBody = ["fold.applied = true", "Patch(node, newNode)"] ∧
    Gen.Loc.foldPatchWithTypeBody = ["patch(newNode)", "newNode.SetType(leafType)"] ∧
    Gen.Loc.constExprPatchBody = ["c.applied = true", "Patch(node, newNode)"] :=
  ⟨rfl, rfl, rfl, rfl, rfl, rfl⟩

/-- Every node literal of optimizer/*.go and compiler/patcher.go is either
    handed to `Patch` (and inherits the location of the node it replaces) or sits in a field of another
    new node and is never located.  The unlocated ones (`unlocated_created_nodes`): the `ConstantNode` sets of the
    in-array rewrite (they cannot fail on their own) and the two comparison nodes of the in-range rewrite.  Those
    fail when the left operand is not a number (`x >= 1`, reported at 0:0: `c13:inrange-rewrite-no-location`); the
    code after commit 072d9f0 rewrites only for integer-typed, call-free left operands, where they cannot fail on a
    value of the models' universe.  On the real code they still can: a left operand of a defined integer type
    (`Level in 1..5` with `type Level int`) fails in `>=` and is reported at 0:0, the known finding
    `c13:defined-type:unlocated:in-range`. -/
theorem created_nodes_table :
    Gen.Loc.createdNodes.map (fun c => (c.file, c.node, c.how)) =
      [("optimizer/const_expr.go", "ConstantNode", "patch-var:patch"),
       ("optimizer/const_range.go", "ConstantNode", "patch-arg:Patch"),
       ("optimizer/const_range.go", "ConstantNode", "patch-arg:Patch"),
       ("optimizer/fold.go", "IntegerNode", "patch-arg:patchWithType"),
       ("optimizer/fold.go", "IntegerNode", "patch-arg:patchWithType"),
       ("optimizer/fold.go", "IntegerNode", "patch-arg:patchWithType"),
       ("optimizer/fold.go", "StringNode", "patch-arg:patch"),
       ("optimizer/fold.go", "IntegerNode", "patch-arg:patchWithType"),
       ("optimizer/fold.go", "IntegerNode", "patch-arg:patchWithType"),
       ("optimizer/fold.go", "IntegerNode", "patch-arg:patchWithType"),
       ("optimizer/fold.go", "IntegerNode", "patch-arg:patch"),
       ("optimizer/fold.go", "FloatNode", "patch-arg:patch"),
       ("optimizer/fold.go", "ConstantNode", "patch-arg:patch"),
       ("optimizer/fold.go", "ConstantNode", "patch-arg:patch"),
       ("optimizer/in_array.go", "BinaryNode", "patch-arg:Patch"),
       ("optimizer/in_array.go", "ConstantNode", "field:Right of BinaryNode"),
       ("optimizer/in_array.go", "BinaryNode", "patch-arg:Patch"),
       ("optimizer/in_array.go", "ConstantNode", "field:Right of BinaryNode"),
       ("optimizer/in_range.go", "BinaryNode", "patch-arg:Patch"),
       ("optimizer/in_range.go", "BinaryNode", "field:Left of BinaryNode"),
       ("optimizer/in_range.go", "BinaryNode", "field:Right of BinaryNode"),
       ("optimizer/in_range.go", "UnaryNode", "patch-arg:Patch"),
       ("compiler/patcher.go", "FunctionNode", "patch-var:ast.Patch")] :=
  rfl

theorem unlocated_created_nodes :
    (Gen.Loc.createdNodes.filter (fun c => hasSub c.how "field:")).map (fun c => (c.file, c.node)) =
      [("optimizer/in_array.go", "ConstantNode"), ("optimizer/in_array.go", "ConstantNode"),
       ("optimizer/in_range.go", "BinaryNode"), ("optimizer/in_range.go", "BinaryNode")] := by
  decide +kernel

/-- same elements, whatever the order and multiplicity (so that a second site of an already listed
    kind in an already listed function does not disturb the table) -/
def sameSet {α : Type} [BEq α] (xs ys : List α) : Bool := xs.all (ys.contains ·) && ys.all (xs.contains ·)

/-- the forms a located error's `Location` expression takes, per file -/
def locatedForms : List (String × String) :=
  [("checker/checker.go", "node.Location()"),
   ("optimizer/const_expr.go", "(*node).Location()"), ("optimizer/const_expr.go", "node.Location()"),
   ("optimizer/fold.go", "(*node).Location()"), ("optimizer/fold.go", "node.Location()"),
   ("parser/parser.go", "p.current.Location"),
   ("parser/lexer/lexer.go", "l.loc"),
   ("vm/vm.go", "program.Locations[vm.pp]")]

/-- **Every error site is located, except the listed ones.**  Stated without function names and as a *set* of
    (file, kind), so that extracting a helper from `Check` or from `(*fold).Exit` keeps it true; multiplicities are left
    to the single-fault oracle on the real code.
    Unlocated: the misuse check of `Eval`, the two `expect` errors of the checker, the recover of
    `compiler.Compile`, the option checks of conf/config.go, `vm.Run(nil)` — all plain `fmt.Errorf` — and one
    `file.Error` literal without `Location`: the default branch of `checker.visit` ("undefined node type": an error,
    not a panic, in the code after commit b1d37f1), reachable only with a malformed tree produced by a user visitor,
    for which no source position exists.  The `fmt.Errorf` of lexer/utils.go are re-raised by `root` through the
    located `l.error("%v", err)`. -/
theorem every_error_site_is_located :
    (Gen.Loc.errSites.filter (fun e => e.loc != "")).all (fun e => locatedForms.contains (e.file, e.loc)) = true ∧
    (locatedForms.map (·.1)).all (fun f => Gen.Loc.errSites.any (fun e => e.file == f && e.loc != "")) = true ∧
    sameSet ((Gen.Loc.errSites.filter (fun e => e.loc == "" && e.file != "parser/lexer/utils.go")).map
        (fun e => (e.file, e.kind)))
      [("expr.go", "fmt.Errorf"), ("checker/checker.go", "fmt.Errorf"), ("checker/checker.go", "file.Error"),
       ("compiler/compiler.go", "fmt.Errorf"), ("conf/config.go", "fmt.Errorf"), ("vm/vm.go", "fmt.Errorf")] = true ∧
    (Gen.Loc.errSites.filter (fun e => e.file == "parser/lexer/utils.go")).all
        (fun e => e.kind == "fmt.Errorf" && e.loc == "") = true ∧
    Gen.Loc.unescapeErrorWrapped = true ∧
    (Gen.Loc.errSites.filter (fun e => e.kind == "file.Error" && e.loc == "")).map (fun e => e.file) =
      ["checker/checker.go"] := by
  decide +kernel

/-- the node whose location each `v.error(node, …)` of the checker uses: the node being checked,
    except (exactly these, as a set) slice bounds (`node.From` / `node.To`), call arguments (`arg`),
    builtin arguments, the condition of a conditional (`node.Cond`) and the computed key of a map
    pair (`node.Key`) -/
theorem checker_error_nodes :
    sameSet (Gen.Loc.checkerErrorArgs.filter (fun p => p.2 != "node"))
      [("SliceNode", "node.From"), ("SliceNode", "node.To"), ("checkFunc", "arg"),
       ("BuiltinNode", "node.Arguments[0]"), ("BuiltinNode", "node.Arguments[1]"),
       ("ConditionalNode", "node.Cond"), ("PairNode", "node.Key")] = true := by
  decide +kernel

/-- `checker.Check` returns the located first error BEFORE the unlocated `expect` error (the code after commit
    76735a9; in the other order the `expect` error masks the location: `c13:expect-masks-located-error`) -/
theorem check_returns_located_error_first :
    Gen.Loc.checkTail.head? = some "if v.err != nil { return t, v.err.Bind(tree.Source) }" ∧
    Gen.Loc.checkTail.getLast? = some "return t, nil" :=
  ⟨rfl, rfl⟩

/-- lexer and parser bind their first error to the source they were given -/
theorem lex_parse_bind :
    Gen.Loc.lexReturns = ["return nil, l.err.Bind(source)", "return l.tokens, nil"] ∧
    Gen.Loc.parseReturns = ["return nil, err", "return nil, p.err.Bind(source)", "return &Tree{ Node: node, Source: source, }, nil"] :=
  ⟨rfl, rfl⟩

/-- the lexer's position bookkeeping is the rule `posOfAux` models: newline ⇒ line+1, column 0;
    otherwise column+1; `backup` restores the previous location -/
theorem lexer_rule_is_posOf :
    Gen.Loc.lexerNextBody =
      ["if l.end >= len(l.input) { l.width = 0 return eof }", "r, w := utf8.DecodeRuneInString(l.input[l.end:])",
       "l.width = w", "l.end += w", "l.prev = l.loc",
       "if r == '\\n' { l.loc.Line++ l.loc.Column = 0 } else { l.loc.Column++ }", "return r"] ∧
    Gen.Loc.lexerBackupBody = ["l.end -= l.width", "l.loc = l.prev"] :=
  ⟨rfl, rfl⟩

/-- `emit` stores, under the offset of the opcode byte it has just appended
    (`current-1`), the location of the node on top of the node stack; `compile` pushes the node it is
    compiling and pops it on return; nothing else writes `locations` or `nodes`; the program carries
    that map and the source. -/
theorem emit_records_top_node :
    Gen.Loc.emitBody =
      ["c.bytecode = append(c.bytecode, op)", "current := len(c.bytecode)", "c.bytecode = append(c.bytecode, b...)",
       "var loc file.Location", "if len(c.nodes) > 0 { loc = c.nodes[len(c.nodes)-1].Location() }",
       "c.locations[current-1] = loc", "return current"] ∧
    Gen.Loc.compilePrologue = ["c.nodes = append(c.nodes, node)", "defer func() { c.nodes = c.nodes[:len(c.nodes)-1] }()"] ∧
    Gen.Loc.locationsWrites = ["emit: c.locations[current-1] = loc"] ∧
    Gen.Loc.nodesWrites = ["compile: c.nodes = append(c.nodes, node)", "compile: c.nodes = c.nodes[:len(c.nodes)-1]"] ∧
    Gen.Loc.programLiteral = ["Source: tree.Source", "Locations: c.locations", "Constants: c.constants", "Bytecode: c.bytecode"] :=
  ⟨rfl, rfl, rfl, rfl, rfl⟩

/-- `pp` is the offset of the opcode being executed (set at the loop head, nowhere else), and
    the recover handler reports `program.Locations[vm.pp]` bound to `program.Source` -/
theorem vm_reports_location_of_current_opcode :
    Gen.Loc.vmLoopHead = ["if vm.debug { <-vm.step }", "vm.pp = vm.ip", "vm.ip++", "op := vm.bytecode[vm.pp]"] ∧
    Gen.Loc.vmPpWrites = ["Run: vm.pp = 0", "Run: vm.pp = vm.ip"] ∧
    Gen.Loc.vmRunDefer =
      "defer func() { if r := recover(); r != nil { f := &file.Error{ Location: program.Locations[vm.pp], Message: fmt.Sprintf(\"%v\", r), } err = f.Bind(program.Source) } }()" :=
  ⟨rfl, rfl, rfl⟩

/-! `LocMap` abstracts `compile`/`emit` from what is compiled (a node = its location + a script of `emit`s
and child compilations); the Go statements it mirrors are those of `emit_records_top_node` and
`vm_reports_location_of_current_opcode`.  The theorems below say why an instruction may be given the location of the
node whose scheme emits it, which is how the compiler model writes its instructions (`li m.loc …`).  No theorem relates
a script to `compileNode`; the same statements for the compiler model's own table (`locTable`) are `compile_locations`,
`report_locTable` and `runtime_error_location` of `Props/C13Pipeline.lean`. -/

open ExprModel.LocMap

/-- **Every opcode is keyed by its own offset and carries the location of the innermost node being
    compiled when it was emitted** — for every tree of compile scripts, at any depth; the node stack
    is left as it was found. -/
theorem emit_location_is_innermost_node (s : Script) :
    (compile s { pc := 0, nodes := [], locs := [] }).locs = (expScript s 0).1 ∧
    (compile s { pc := 0, nodes := [], locs := [] }).nodes = [] ∧
    (compile s { pc := 0, nodes := [], locs := [] }).pc = (expScript s 0).2 := by
  rw [compile_spec]; simp

/-- offsets are written once each, in increasing order (so the Go map holds exactly these entries) -/
theorem location_keys_strictly_increase (s : Script) :
    ((compile s { pc := 0, nodes := [], locs := [] }).locs).Pairwise (fun a b => a.1 < b.1) := by
  rw [(emit_location_is_innermost_node s).1]
  exact (expScript_sorted s 0).2.2

/-- **A run that fails at opcode offset `pp` is reported at the location of the node whose own
    `emit` produced that opcode** (`program.Locations[vm.pp]`). -/
theorem vm_report_is_emitting_node (s : Script) (pp : Nat) (l : Loc) (h : (pp, l) ∈ (expScript s 0).1) :
    report (compile s { pc := 0, nodes := [], locs := [] }).locs pp = l := by
  rw [(emit_location_is_innermost_node s).1]
  exact report_of_sorted (expScript_sorted s 0).2.2 h

/-- `ConditionalNode` as compiled (`compile(Cond); JumpIfFalse; Pop; compile(Exp1); Jump; Pop;
    compile(Exp2)`) with the node located at its `?` (the code after commit 4de6c8c): a failure at its `JumpIfFalse`
    (offset 3 here: after a 3-byte `Push`) is reported at the `?`, the failures inside the operands
    keep their own locations. -/
theorem conditional_reports_question_mark :
    let c : Script := .node { line := 1, col := 0 } [.emit 2]
    let a : Script := .node { line := 1, col := 4 } [.emit 2]
    let b : Script := .node { line := 1, col := 8 } [.emit 2]
    let cond : Script := .node { line := 1, col := 2 } [.sub c, .emit 2, .emit 0, .sub a, .emit 2, .emit 0, .sub b]
    report (compile cond { pc := 0, nodes := [], locs := [] }).locs 3 = { line := 1, col := 2 } ∧
    report (compile cond { pc := 0, nodes := [], locs := [] }).locs 0 = { line := 1, col := 0 } ∧
    report (compile cond { pc := 0, nodes := [], locs := [] }).locs 7 = { line := 1, col := 4 } := by
  decide +kernel

/-- with the node unlocated (the code before commit 4de6c8c) the same failure is reported at 0:0 -/
theorem conditional_unlocated_reported_zero_witness :
    let c : Script := .node { line := 1, col := 0 } [.emit 2]
    let a : Script := .node { line := 1, col := 4 } [.emit 2]
    let b : Script := .node { line := 1, col := 8 } [.emit 2]
    let cond : Script := .node {} [.sub c, .emit 2, .emit 0, .sub a, .emit 2, .emit 0, .sub b]
    report (compile cond { pc := 0, nodes := [], locs := [] }).locs 3 = { line := 0, col := 0 } := by
  decide +kernel

end ExprModel.C13
