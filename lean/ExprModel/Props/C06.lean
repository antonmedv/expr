import ExprModel.Proofs.VMAccount
import ExprModel.Proofs.SpecBudget
import ExprModel.Props.C01
import ExprModel.VM.SrcDefects
/-
C06 — The memory budget bounds what a run can allocate.

Model: the byte-level VM (`VM/Step.lean`) with the ghost counter `created` = collection elements actually
built (the length of the slice `makeRange` returns, of the array `OpArray` fills, the pairs `OpMap` stores),
beside the code's own `memory` / `limit`.  The VM theorems are for arbitrary bytecode and fuel — so for every way of
splitting the allocations between ranges, literals and builtin results (builtins allocate through the same three
opcodes) — under the variant `rangeSizeSigned = false` (OpRange counts the size it builds, never a negative number),
which `srcDefects` (VM/SrcDefects.lean) derives from the source facts.  Of the hypothesis `WorldNB` (no environment
function reports the budget error itself) only the three theorems about refusal make use; the others are instances of
Proofs/VMAccount.lean, which asks nothing of the environment.
Tie (Gen/Budget.lean, regenerated from vm/vm.go on every run): the three accounting sites with their
comparison, operands, order of test / add / push, the clamp, `MemoryBudget`, `makeRange`.
-/
namespace ExprModel.C06
open ExprModel
open ExprModel.Refine

/-- `OpRange`: `size` is `max - min + 1`, refused *before* building (`vm.memory+size >= vm.limit`), then
    `vm.push(makeRange(min, max)); vm.memory += size` — as in the model's `.range` clause.  Whether `size` is clamped at
    zero before the test is the fact `clamped`, which selects the variant of the clause (`gen_matches_model`,
    `source_clamps_range`).  The model computes `size` in unbounded integers: see `range_overflow_guard_present`. -/
theorem range_site_as_modelled :
    Gen.Budget.rangeSite.sizeExpr = "max - min + 1" ∧
    Gen.Budget.rangeSite.testLhs = "vm.memory+size" ∧ Gen.Budget.rangeSite.testOp = ">=" ∧
    Gen.Budget.rangeSite.testRhs = "vm.limit" ∧ Gen.Budget.rangeSite.testBeforeAdd = true ∧
    Gen.Budget.rangeSite.pushBeforeTest = false ∧ Gen.Budget.rangeSite.addStmt = "vm.memory += size" ∧
    Gen.Budget.rangeSite.failMsg = "memory budget exceeded" :=
  ⟨rfl, rfl, rfl, rfl, rfl, rfl, rfl, rfl⟩

/-- `OpArray` / `OpMap`: `size := vm.pop().(int)`, build, push, `vm.memory += size`, *then*
    `vm.memory >= vm.limit` — as in the model's `.array` / `.map` clauses (whole case bodies compared) -/
theorem literal_sites_as_modelled :
    Gen.Budget.arraySite.body = "size := vm.pop().(int); array := make([]interface{}, size); for i := size - 1; i >= 0; i-- { array[i] = vm.pop() }; vm.push(array); vm.memory += size; if vm.memory >= vm.limit { panic(\"memory budget exceeded\") }" ∧
    Gen.Budget.mapSite.body = "size := vm.pop().(int); m := make(map[string]interface{}); for i := size - 1; i >= 0; i-- { value := vm.pop() key := vm.pop() m[key.(string)] = value }; vm.push(m); vm.memory += size; if vm.memory >= vm.limit { panic(\"memory budget exceeded\") }" ∧
    (∀ st ∈ [Gen.Budget.arraySite, Gen.Budget.mapSite],
      st.sizeExpr = "vm.pop().(int)" ∧ st.clamped = false ∧ st.testLhs = "vm.memory" ∧ st.testOp = ">=" ∧
      st.testRhs = "vm.limit" ∧ st.testBeforeAdd = false ∧ st.pushBeforeTest = true ∧
      st.addStmt = "vm.memory += size" ∧ st.failMsg = "memory budget exceeded") :=
  ⟨rfl, rfl, by decide +kernel⟩

/-- the code refuses a range whose size does not fit an `int` (`if size < 1 { panic("memory budget exceeded") }`
    inside `if max >= min`; the code after commit 426e727): only with this guard does the model's unbounded `size`
    agree with Go's 64-bit arithmetic (such a range exceeds every budget), so every theorem about `.range` rests on it -/
theorem range_overflow_guard_present : Gen.Budget.rangeOverflowGuard = true := by decide

/-- no other case of the dispatch switch mentions `vm.memory` / `vm.limit` (the translator refuses any
    mention outside `switch op`) -/
theorem only_three_sites : Gen.Budget.casesTouchingBudget = ["OpRange", "OpArray", "OpMap"] := rfl

/-- `MemoryBudget int = 1e6`; `vm.limit = MemoryBudget` in the prologue -/
theorem budget_default : Gen.Budget.memoryBudgetDefault = 1000000 ∧ Gen.Budget.limitInit = "MemoryBudget" := ⟨rfl, rfl⟩

/-- `makeRange` builds no element when `max < min` (tested BEFORE the subtraction, which wraps around for bounds
    more than MaxInt apart) and `max - min + 1` elements otherwise (`rangeElems`) -/
theorem makeRange_as_modelled :
    Gen.Budget.makeRangeSig = "func(min, max int) []int" ∧
    Gen.Budget.makeRangeBody = "{ if max < min { return []int{} } size := max - min + 1 if size <= 0 { return []int{} } rng := make([]int, size) for i := range rng { rng[i] = min + i } return rng }" :=
  ⟨rfl, rfl⟩

theorem gen_matches_model : srcDefects.rangeSizeSigned = !Gen.Budget.rangeSite.clamped := rfl

/-- in /repo's source `OpRange` clamps `size` at zero before the test and the accounting (the code after commit 5dcf42c).
    The translator sets `clamped` for either shape: `if size < 0 { size = 0 }` after the subtraction, or
    `size := 0; if max >= min { size = max - min + 1 … }`. -/
theorem source_clamps_range : srcDefects.rangeSizeSigned = false := by decide

variable {c : Cfg} {p : Prog}

/-- every step moves the budget counter and the number of elements actually built by the same amount
    (49 of the 52 opcodes leave both untouched) -/
theorem step_memory_created (hr : c.defects.rangeSizeSigned = false) (hw : WorldNB c.world) {s s' : VM}
    (h : step c p s = .ok s') : s'.memory - s.memory = (s'.created : Int) - (s.created : Int) :=
  ((Acct.step_acct c hr p s).ok h).delta

/-- `s'`: the state the failing step reports -/
theorem step_memory_created_err (hr : c.defects.rangeSizeSigned = false) (hw : WorldNB c.world) {s s' : VM} {e}
    (h : step c p s = .error (e, s')) : s'.memory - s.memory = (s'.created : Int) - (s.created : Int) :=
  ((Acct.step_acct c hr p s).err h).2

/-- A step fails with a budget error only at the budget: the instruction is one of the three allocating
    ones with its operands in place, about to create `k` elements (`pending`), and either (range) nothing was built
    or counted, or (array / map literal) the `k` elements were built and counted. -/
theorem refused_only_at_budget (hr : c.defects.rangeSizeSigned = false) (hw : WorldNB c.world) {s s' : VM}
    (h : step c p s = .error (.budget, s')) :
    ∃ k, pending p s = some k ∧
      ((s'.memory = s.memory ∧ s'.created = s.created ∧ s.memory + k ≥ s.limit) ∨
       (s'.memory = s.memory + k ∧ s'.created = s.created + k ∧ s'.memory ≥ s.limit)) := by
  cases ((step_sat c hr hw p s).err h).budget rfl with
  | before k hp hm hc hk => exact ⟨k, hp, .inl ⟨hm, hc, hk⟩⟩
  | after k hp hm hc hk => exact ⟨k, hp, .inr ⟨hm, hc, hk⟩⟩

theorem never_refused_below_step (hr : c.defects.rangeSizeSigned = false) (hw : WorldNB c.world) {s : VM} {k : Nat}
    (hp : pending p s = some k) (hlt : s.memory + k < s.limit) : ∀ s', step c p s ≠ .error (.budget, s') := by
  intro s' h
  obtain ⟨k', hp', hh⟩ := refused_only_at_budget hr hw h
  rw [hp] at hp'; injection hp' with hk; subst hk
  rcases hh with ⟨_, _, h3⟩ | ⟨h1, _, h3⟩ <;> omega

theorem needs_ge_fails_step (hr : c.defects.rangeSizeSigned = false) (hw : WorldNB c.world) {s : VM} {k : Nat}
    (hp : pending p s = some k) (hge : s.memory + k ≥ s.limit) : ∀ s', step c p s ≠ .ok s' :=
  Acct.needs_ge_fails_step hr hp hge

theorem inv_prologue_fresh : Inv c (prologue c {}) := by
  refine ⟨?_, rfl, .inl rfl⟩
  simp [prologue]

theorem inv_prologue (h : c.defects.memoryNotReset = false) (s : VM) : Inv c (prologue c s) :=
  prologue_eq_fresh c s (.inl h) ▸ inv_prologue_fresh

theorem inv_step (hr : c.defects.rangeSizeSigned = false) (hw : WorldNB c.world) {s s' : VM}
    (hi : Inv c s) (h : step c p s = .ok s') : Inv c s' :=
  Acct.inv_step hr hi h

/-- `loop_induct` (Proofs/LoopSteps.lean) for invariants that do not need to know that a step was taken inside the code -/
theorem loop_ind (c : Cfg) (p : Prog) (I : VM → Prop) (Post : R Val → VM → Prop)
    (hfuel : ∀ s, I s → Post (.error .fuel) s)
    (hstep : ∀ s s', I s → step c p s = .ok s' → I s')
    (herr : ∀ s e s', I s → step c p s = .error (e, s') → Post (.error e) s')
    (hexit1 : ∀ s v rest, I s → s.stack = v :: rest → Post (.ok v) { s with stack := rest })
    (hexit2 : ∀ s, I s → Post (.ok .nil) s) :
    ∀ fuel s, I s → Post (loop c p fuel s).1 (loop c p fuel s).2 :=
  loop_induct c p I Post hfuel (fun s s' hi _ h => hstep s s' hi h) (fun s e s' hi _ h => herr s e s' hi h) hexit1 hexit2

theorem loop_memory_eq_created (hr : c.defects.rangeSizeSigned = false) (hw : WorldNB c.world) (fuel : Nat) (s : VM)
    (hi : Inv c s) :
    (loop c p fuel s).2.memory = ((loop c p fuel s).2.created : Int) ∧ (loop c p fuel s).2.limit = c.budget :=
  have h := Acct.loop_acct hr fuel s hi
  ⟨h.1, h.2.1⟩

/-- at the end of every run on a fresh VM: success, failure of any class, out of fuel -/
theorem memory_eq_created (hr : c.defects.rangeSizeSigned = false) (hw : WorldNB c.world) (fuel : Nat) :
    (run c p fuel).2.memory = ((run c p fuel).2.created : Int) :=
  (loop_memory_eq_created hr hw fuel _ inv_prologue_fresh).1

/-- the same on a reused VM, once the prologue resets the counter (C07) -/
theorem memory_eq_created_reused (hr : c.defects.rangeSizeSigned = false) (hm : c.defects.memoryNotReset = false)
    (hw : WorldNB c.world) (fuel : Nat) (s : VM) :
    (runOn c p fuel s).2.memory = ((runOn c p fuel s).2.created : Int) :=
  (loop_memory_eq_created hr hw fuel _ (inv_prologue hm s)).1

theorem loop_success_lt (hr : c.defects.rangeSizeSigned = false) (hw : WorldNB c.world) (fuel : Nat) (s : VM)
    (hi : Inv c s) (v : Val) (hv : (loop c p fuel s).1 = .ok v) :
    (loop c p fuel s).2.created = 0 ∨ ((loop c p fuel s).2.created : Int) < c.budget :=
  (Acct.loop_acct hr fuel s hi).2.2 v hv

/-- C06, first sentence: a run that completes successfully has created fewer collection elements than the
    budget (`created` counts every array, map and range built on the way, intermediate ones included). -/
theorem success_lt_budget (hr : c.defects.rangeSizeSigned = false) (hw : WorldNB c.world) (fuel : Nat) (v : Val)
    (hv : (run c p fuel).1 = .ok v) (hb : 0 < c.budget) : ((run c p fuel).2.created : Int) < c.budget := by
  rcases loop_success_lt hr hw fuel _ inv_prologue_fresh v hv with h | h
  · unfold run runOn; rw [h]; exact hb
  · exact h

/-- without `0 < c.budget` -/
theorem success_lt_budget' (hr : c.defects.rangeSizeSigned = false) (hw : WorldNB c.world) (fuel : Nat) (v : Val)
    (hv : (run c p fuel).1 = .ok v) : (run c p fuel).2.created = 0 ∨ ((run c p fuel).2.created : Int) < c.budget :=
  loop_success_lt hr hw fuel _ inv_prologue_fresh v hv

/-- C06, "never refused for budget reasons": a run that ends with a budget error was refused at the budget — the
    failing instruction was about to create `k` elements in a state that had created `n`, and `n + k` reaches the
    budget; counted before building (range: final `created = n`) or after (literal: final `created = n + k`). -/
theorem refused_only_at_budget_run (hr : c.defects.rangeSizeSigned = false) (hw : WorldNB c.world) (fuel : Nat)
    (h : (run c p fuel).1 = .error .budget) :
    ∃ (s : VM) (k : Nat), Inv c s ∧ pending p s = some k ∧ (s.created : Int) + k ≥ c.budget ∧
      ((run c p fuel).2.created = s.created ∨ (run c p fuel).2.created = s.created + k) := by
  obtain ⟨s, hs, _, hst⟩ := run_error_inv (s' := (run c p fuel).2) (Prod.ext h rfl) (by decide)
  have hi : Inv c s := steps_inv (fun _ _ hi _ h => inv_step hr hw hi h) hs ⟨rfl, rfl, .inl rfl⟩
  obtain ⟨k, hp, hh⟩ := refused_only_at_budget hr hw hst
  refine ⟨s, k, hi, hp, ?_, ?_⟩
  · have := hi.eq; have := hi.limit
    rcases hh with ⟨_, _, h3⟩ | ⟨h1, _, h3⟩ <;> omega
  · rcases hh with ⟨_, h2, _⟩ | ⟨_, h2, _⟩
    · exact .inl h2
    · exact .inr h2

/-- `Steps` as a function, so that the premise `hreach` of `needs_ge_fails` can be checked on a concrete program by
    evaluation (last `example` of this file) -/
def stepsTo (c : Cfg) (p : Prog) : Nat → VM → Option VM
  | 0, s => some s
  | n + 1, s =>
    if s.ip < p.code.size then
      match step c p s with
      | .ok s' => stepsTo c p n s'
      | .error _ => none
    else none

private theorem stepsTo_steps : ∀ (n : Nat) (s t : VM), stepsTo c p n s = some t → Steps c p s t
  | 0, s, t, h => by unfold stepsTo at h; injection h with h; rw [← h]; exact .refl s
  | n + 1, s, t, h => by
    unfold stepsTo at h
    split at h
    · next hlt =>
      cases hst : step c p s with
      | ok s' => rw [hst] at h; exact .step hlt hst (stepsTo_steps n s' t h)
      | error e => rw [hst] at h; cases h
    · cases h

theorem inv_stepsTo (hr : c.defects.rangeSizeSigned = false) (hw : WorldNB c.world) :
    ∀ (n : Nat) (s t : VM), Inv c s → stepsTo c p n s = some t → Inv c t :=
  fun n s t hi h => steps_inv (fun _ _ hi _ hst => Acct.inv_step hr hi hst) (stepsTo_steps n s t h) hi

theorem loop_not_ok_of_stuck : ∀ (n : Nat) (s t : VM), stepsTo c p n s = some t → t.ip < p.code.size →
    (∀ t', step c p t ≠ .ok t') → ∀ fuel v, (loop c p fuel s).1 ≠ .ok v :=
  fun n s t h hin hstuck => steps_not_ok (stepsTo_steps n s t h) hin hstuck

/-- C06, "has to create at least that many ⇒ fails": if a run reaches an allocating instruction about to create
    `k` elements while `n` have been created and `n + k` reaches the budget, it does not complete successfully. -/
theorem needs_ge_fails (hr : c.defects.rangeSizeSigned = false) (hw : WorldNB c.world) (n : Nat) (t : VM) (k : Nat)
    (hreach : stepsTo c p n (prologue c {}) = some t) (hp : pending p t = some k)
    (hge : (t.created : Int) + k ≥ c.budget) : ∀ fuel v, (run c p fuel).1 ≠ .ok v :=
  Acct.needs_ge_fails hr inv_prologue_fresh (stepsTo_steps n _ t hreach) hp hge

/-! The same for the reference evaluator `Spec.eval`, over every tree: array and map literals, run-time ranges
(ascending, empty, descending), `map` / `filter` results and every nesting of these inside any other
construct — "however the allocations are split between ranges, literals and builtin results". -/

theorem spec_memory_eq_created (sc : Spec.SCfg) (cast : Option Nat) (n : Node) (hr : sc.rangeSizeSigned = false) :
    (Spec.run sc cast n).2.memory = ((Spec.run sc cast n).2.created : Int) :=
  Spec.spec_memory_eq_created sc cast n hr

theorem spec_success_lt_budget (sc : Spec.SCfg) (cast : Option Nat) (n : Node) (v : Val)
    (hr : sc.rangeSizeSigned = false) (hb : 0 < sc.budget) (hv : (Spec.run sc cast n).1 = .ok v) :
    ((Spec.run sc cast n).2.created : Int) < sc.budget := by
  rw [← Spec.spec_memory_eq_created sc cast n hr, Spec.run_state]
  obtain ⟨w, hw⟩ := Spec.run_ok sc cast n hv
  exact Spec.eval_lt_budget_of_not_budget_error sc hr [] n {} rfl hb (by rw [hw]; simp)

theorem spec_needs_ge_fails (sc : Spec.SCfg) (cast : Option Nat) (n : Node)
    (hr : sc.rangeSizeSigned = false) (hb : 0 < sc.budget)
    (hge : sc.budget ≤ ((Spec.run sc cast n).2.created : Int)) :
    (Spec.run sc cast n).1 = .error .budget := by
  rw [← Spec.spec_memory_eq_created sc cast n hr, Spec.run_state] at hge
  exact Spec.run_error_of_eval_error sc cast n (Spec.eval_budget_error_of_ge_budget sc hr [] n {} rfl hb hge)

/-- every intermediate evaluation, from any state that satisfies the invariant ("intermediate ones included") -/
theorem spec_eval_invariant (sc : Spec.SCfg) (hr : sc.rangeSizeSigned = false) (ctx : Spec.Ctx) (n : Node)
    (s : Spec.SState) (hs : s.memory = (s.created : Int)) :
    (Spec.eval sc ctx n s).2.memory = ((Spec.eval sc ctx n s).2.created : Int) ∧
    s.created ≤ (Spec.eval sc ctx n s).2.created ∧
    (s.memory < sc.budget → (Spec.eval sc ctx n s).1 ≠ .error .budget → (Spec.eval sc ctx n s).2.memory < sc.budget) :=
  ⟨Spec.eval_memory_eq_created sc hr ctx n s hs, Spec.eval_created_mono sc hr ctx n s,
   fun hlt hne => Spec.eval_lt_budget_of_not_budget_error sc hr ctx n s hs hlt hne⟩

/-- budget monotonicity of `Spec.eval`: if the reference evaluation under `big` ends otherwise than in the budget
    error (a value, or an index, type, environment … failure) after creating `k` elements, then under a budget
    of at most `k` the budget error comes first, above it the very same outcome (result and final state) -/
theorem spec_needs_any_outcome (sc : Spec.SCfg) (cast : Option Nat) (n : Node) (big : Int)
    (hr : sc.rangeSizeSigned = false) (hb : 0 < sc.budget)
    (hbig : (Spec.run { sc with budget := big } cast n).1 ≠ .error .budget) :
    (((Spec.run { sc with budget := big } cast n).2.created : Int) < sc.budget →
        Spec.run sc cast n = Spec.run { sc with budget := big } cast n) ∧
    (sc.budget ≤ ((Spec.run { sc with budget := big } cast n).2.created : Int) → (Spec.run sc cast n).1 = .error .budget) := by
  have hsc : Spec.withBudget { sc with budget := big } sc.budget = sc := by cases sc; rfl
  have h := Spec.spec_needs { sc with budget := big } hr cast n sc.budget hb hbig
  rw [hsc] at h
  exact h

/-- The two-budget reading of "needs": the number of elements an expression needs is what an evaluation under a
    budget large enough not to be refused creates; under any other (positive) budget the evaluation returns the
    same value exactly when it needs fewer elements than that budget, and ends with the budget error otherwise. -/
theorem spec_needs (sc : Spec.SCfg) (cast : Option Nat) (n : Node) (big : Int) (v : Val)
    (hr : sc.rangeSizeSigned = false) (hb : 0 < sc.budget)
    (hbig : (Spec.run { sc with budget := big } cast n).1 = .ok v) :
    (((Spec.run { sc with budget := big } cast n).2.created : Int) < sc.budget → (Spec.run sc cast n).1 = .ok v) ∧
    (sc.budget ≤ ((Spec.run { sc with budget := big } cast n).2.created : Int) → (Spec.run sc cast n).1 = .error .budget) := by
  have h := spec_needs_any_outcome sc cast n big hr hb (by rw [hbig]; intro h; cases h)
  exact ⟨fun hlt => by rw [h.1 hlt]; exact hbig, h.2⟩

/-- both directions for one and the same evaluation -/
theorem spec_needs_same_run (sc : Spec.SCfg) (cast : Option Nat) (n : Node) (hr : sc.rangeSizeSigned = false)
    (hb : 0 < sc.budget) :
    (∀ v, (Spec.run sc cast n).1 = .ok v → ((Spec.run sc cast n).2.created : Int) < sc.budget) ∧
    (sc.budget ≤ ((Spec.run sc cast n).2.created : Int) → (Spec.run sc cast n).1 = .error .budget) :=
  ⟨fun v hv => spec_success_lt_budget sc cast n v hr hb hv, spec_needs_ge_fails sc cast n hr hb⟩

/-- C06 for compiled programs, by `C01.run_conforms_checked` (with its exclusions) and `Spec.spec_needs`.  Take the
    run of the compiled program under any reference budget `big` that does not end in the budget error; the elements
    it created are what the evaluation needs.  Under `c.budget`, same program, environment and world: needs fewer ⇒
    the very same result, never refused; needs at least that many ⇒ the budget error instead of completing. -/
theorem compiled_needs (cfg : CompCfg) (n : Node) (cp : Compiled) (c : Cfg) (big : Int)
    (hc : compileProgram cfg n = .ok cp) (hfl : floatsOK n = true) (hfit : FitsU16 cp.code) (henv : EnvOK c cfg)
    (hg : Good (SmallColl c) n) (hgbig : Good (SmallColl { c with budget := big }) n)
    (hr : c.defects.rangeSizeSigned = false) (hb : 0 < c.budget) :
    ∃ N, ∀ fuel, N ≤ fuel →
      (run { c with budget := big } (progOf cp) fuel).1 ≠ .error .budget →
      (((run { c with budget := big } (progOf cp) fuel).2.created : Int) < c.budget →
          (run c (progOf cp) fuel).1 = (run { c with budget := big } (progOf cp) fuel).1 ∧
          (run c (progOf cp) fuel).2.created = (run { c with budget := big } (progOf cp) fuel).2.created) ∧
      (c.budget ≤ ((run { c with budget := big } (progOf cp) fuel).2.created : Int) →
          (run c (progOf cp) fuel).1 = .error .budget) := by
  obtain ⟨N1, h1⟩ := C01.run_conforms_checked cfg n cp c hc hfl hfit henv hg
  obtain ⟨N2, h2⟩ := C01.run_conforms_checked cfg n cp { c with budget := big } hc hfl hfit henv hgbig
  refine ⟨max N1 N2, fun fuel hf hnb => ?_⟩
  obtain ⟨a1, a2, _⟩ := h1 fuel (by omega)
  obtain ⟨b1, b2, _⟩ := h2 fuel (by omega)
  have hcr : (run { c with budget := big } (progOf cp) fuel).2.created
      = (Spec.run (specOf { c with budget := big }) cfg.cast n).2.created := congrArg Spec.SState.created b2
  have hcr1 : (run c (progOf cp) fuel).2.created = (Spec.run (specOf c) cfg.cast n).2.created :=
    congrArg Spec.SState.created a2
  have hsc : Spec.withBudget (specOf { c with budget := big }) c.budget = specOf c := rfl
  have h := Spec.spec_needs (specOf { c with budget := big }) hr cfg.cast n c.budget hb (by rw [← b1]; exact hnb)
  rw [hsc, ← hcr] at h
  refine ⟨fun hlt => ?_, fun hge => ?_⟩
  · have e := h.1 hlt
    exact ⟨by rw [a1, b1, e], by rw [hcr1, hcr, e]⟩
  · rw [a1]; exact h.2 hge

/-- the hypotheses are satisfiable: a run-time range inside a loop builtin (`all(1..3, {# > 0 and I == 1})`, C01's
    example), in every world and environment and for every pair of budgets -/
example (c : Cfg) (big : Int) (hr : c.defects.rangeSizeSigned = false) (hb : 0 < c.budget) :
    ∃ N, ∀ fuel, N ≤ fuel →
      (run { c with budget := big } (progOf C01.exCompiled) fuel).1 ≠ .error .budget →
      (((run { c with budget := big } (progOf C01.exCompiled) fuel).2.created : Int) < c.budget →
          (run c (progOf C01.exCompiled) fuel).1 = (run { c with budget := big } (progOf C01.exCompiled) fuel).1 ∧
          (run c (progOf C01.exCompiled) fuel).2.created = (run { c with budget := big } (progOf C01.exCompiled) fuel).2.created) ∧
      (c.budget ≤ ((run { c with budget := big } (progOf C01.exCompiled) fuel).2.created : Int) →
          (run c (progOf C01.exCompiled) fuel).1 = .error .budget) :=
  compiled_needs {} C01.exTree C01.exCompiled c big C01.ex_compiles C01.ex_floatsOK C01.ex_fits (fun h => by cases h) (C01.ex_good c)
    (C01.ex_good _) hr hb

/-! The variant `rangeSizeSigned := true`, in which a descending range lowers the counter, is the code before commit
5dcf42c (finding `c06:descending-range-lowers-counter`).  It is not the source as it stands (`source_clamps_range`),
whatever the suffix `_asIs` of the two theorems suggests. -/

def wWorld : World := { call := fun _ _ => .error .type_, regexMatch := fun _ _ => none, pow := fun x _ => x }

/-- the bytecode of `len(A+98..A) + len(A..A+6) + len(A..A+6)` with the bounds as constants (`A = 1`):
    a descending range, then two ranges of 7 elements -/
def wProg : Prog :=
  { code := (encodeAll [⟨.push, 0⟩, ⟨.push, 1⟩, ⟨.range, 0⟩, ⟨.len, 0⟩, ⟨.rot, 0⟩, ⟨.pop, 0⟩,
                        ⟨.push, 1⟩, ⟨.push, 2⟩, ⟨.range, 0⟩, ⟨.len, 0⟩, ⟨.rot, 0⟩, ⟨.pop, 0⟩, ⟨.add, 0⟩,
                        ⟨.push, 1⟩, ⟨.push, 2⟩, ⟨.range, 0⟩, ⟨.len, 0⟩, ⟨.rot, 0⟩, ⟨.pop, 0⟩, ⟨.add, 0⟩]).toArray
    consts := #[.int .int 99, .int .int 1, .int .int 7] }

def wCfg (signed : Bool) : Cfg :=
  { world := wWorld, env := .nil, budget := 10, defects := { rangeSizeSigned := signed, memoryNotReset := false } }

def isOkInt (n : Int) : R Val → Bool
  | .ok (.int .int m) => m == n
  | _ => false

def isBudgetErr : R Val → Bool
  | .error .budget => true
  | _ => false

/-- With the signed size, budget 10: the run succeeds (result 14) having created 14 ≥ 10 elements while the
    counter says -83; with the size clamped the same program is refused at the third range. -/
theorem memory_witness_asIs :
    isOkInt 14 (run (wCfg true) wProg 100).1 = true ∧ (run (wCfg true) wProg 100).2.created = 14 ∧
    (run (wCfg true) wProg 100).2.memory = -83 ∧
    isBudgetErr (run (wCfg false) wProg 100).1 = true ∧ (run (wCfg false) wProg 100).2.created = 7 := by
  decide +kernel

/-- hence `success_lt_budget` is false for that variant -/
theorem success_lt_budget_false_asIs :
    ¬ (∀ (c : Cfg) (p : Prog) (fuel : Nat) (v : Val), c.defects.rangeSizeSigned = true → WorldNB c.world →
        (run c p fuel).1 = .ok v → 0 < c.budget → ((run c p fuel).2.created : Int) < c.budget) := by
  intro hall
  have hw : WorldNB wWorld := fun _ _ => by unfold NB wWorld; simp
  cases hres : (run (wCfg true) wProg 100).1 with
  | error e => have := memory_witness_asIs.1; rw [hres] at this; cases this
  | ok v =>
    have := hall (wCfg true) wProg 100 v rfl hw hres (by decide)
    rw [memory_witness_asIs.2.1] at this
    revert this; decide +kernel

/-- the run theorems are not vacuous: under the clamped variant the witness program with budget 100 succeeds
    having created 14 < 100 elements … -/
example : isOkInt 14 (run { wCfg false with budget := 100 } wProg 100).1 = true ∧
    (run { wCfg false with budget := 100 } wProg 100).2.created = 14 := by decide +kernel

/-- … and with budget 10 it reaches, after 15 steps, a range of 7 pending with 7 created: `needs_ge_fails` applies -/
example : (stepsTo (wCfg false) wProg 15 (prologue (wCfg false) {})).map (fun t => (pending wProg t, t.created)) = some (some 7, 7) := by
  decide +kernel

end ExprModel.C06
