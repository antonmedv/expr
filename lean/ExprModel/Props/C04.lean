import ExprModel.Gen.Api
import ExprModel.Api.Outcome
/-
C04 — Failures are returned as errors, never as panics.

An outcome algebra (`ok | error | panic`): a stage wrapped in `recover` never yields `panic`, and a pipeline whose
*unguarded* stages never panic never panics.  The rest are facts about /repo's source, regenerated by the translator
into `Gen/Api.lean` and re-checked by the kernel on every run: the recover sites, the guard vector of expr.Compile's
stages, the shape of every `return` of the API functions, the `panic(` sites and the partial operations outside any
recover, the totality of the three node dispatchers.

Which code the full-strength theorems hold of (each fails on the source before the commits named):
* `dispatch_total`, `checker_default_reports_error` (the code after commits 911e74d, b1d37f1): otherwise a Patch
  visitor installing a ConstantNode, a nil child or a truncated argument list makes the second type check panic.
* `unguarded_panics_fixed` (the code after commit fafa4a6).
* No Lean model here, the harness exercises them: `checker.Check` calling `t.Kind()` on a nil type under `AsBool()`
  (guarded in the code after commit b6f8e35), `ClosureNode` passing a nil type to `reflect.FuncOf` (after 106fb38).

Referenced, not imported: lexer totality (`C12.lex_total`), parser termination (`C11.parse_fuel_sufficient`),
`C13.snippet_total` for `file.(*Source).Snippet` / `file.(*Error).Bind`.  They discharge the `file.*`, `lexer.*`,
`parser.*` rows of `unguarded_partial_ops_as_expected`.

Not covered: Go stack exhaustion on deeply nested input, out-of-memory and other fatal runtime errors are not panics
and cannot be contained by the library; user visitors that panic themselves.
-/
namespace ExprModel.C04
open ExprModel ExprModel.Api

theorem recovered_never_panics {α : Type} (o : Outcome α) : o.recovered.isPanic = false := by
  cases o <;> rfl

theorem recovered_of_not_panic {α : Type} (o : Outcome α) (h : o.isPanic = false) : o.recovered = o := by
  cases o <;> first | rfl | (simp [Outcome.isPanic] at h)

theorem guarded_stage_never_panics {σ : Type} (s : Stage σ) (a : σ) (h : s.guarded = true) :
    (s.exec a).isPanic = false := by
  simp [Stage.exec, h, recovered_never_panics]

theorem bind_not_panic {α β : Type} (o : Outcome α) (f : α → Outcome β)
    (ho : o.isPanic = false) (hf : ∀ a, (f a).isPanic = false) : (o.bind f).isPanic = false := by
  cases o with
  | ok a => exact hf a
  | error m => rfl
  | panic m => simp [Outcome.isPanic] at ho

/-- If every stage that is *not* under a recover is panic-free on every input, the whole pipeline returns a result
    or an error — whatever the guarded stages do inside. -/
theorem pipeline_no_panic_partial {σ : Type} (stages : List (Stage σ))
    (h : ∀ s ∈ stages, s.guarded = false → ∀ a, (s.run a).isPanic = false) :
    ∀ a, (runPipeline stages a).isPanic = false := by
  induction stages with
  | nil => intro a; rfl
  | cons s rest ih =>
    intro a
    simp only [runPipeline]
    apply bind_not_panic
    · cases hg : s.guarded with
      | true => exact guarded_stage_never_panics s a hg
      | false =>
        simp only [Stage.exec, hg, Bool.false_eq_true, if_false]
        exact h s (List.mem_cons_self) hg a
    · exact ih (fun s' hs' => h s' (List.mem_cons_of_mem _ hs'))

/-- an outcome that is not a panic is returned to Go as exactly one of `(x, nil)` / `(nil, err)` -/
theorem no_panic_returns_pair {α : Type} (o : Outcome α) (h : o.isPanic = false) :
    (∃ a, o.goPair = some (some a, none)) ∨ (∃ m, o.goPair = some (none, some m)) := by
  cases o with
  | ok a => exact Or.inl ⟨a, rfl⟩
  | error m => exact Or.inr ⟨m, rfl⟩
  | panic m => simp [Outcome.isPanic] at h

/-- The hypothesis of `pipeline_no_panic_partial` cannot be dropped: one unguarded stage that panics makes the whole
    call panic, even though the last stage is guarded.  The stage is an abstract one, named after the option application
    that reached `vm.FetchFn` in the code before commit fafa4a6; `unguarded_panics_fixed` shows that the code after it
    has no such stage. -/
theorem pipeline_panic_witness :
    let options : Stage Nat := { name := "option ConstExpr(\"missing\") → vm.FetchFn", guarded := false,
                                 run := fun _ => .panic "cannot get \"missing\" from …" }
    let compile : Stage Nat := { name := "compiler.Compile", guarded := true, run := fun n => .panic (toString n) }
    (runPipeline [options, compile] 0).isPanic = true ∧ (runPipeline [compile] 0).isPanic = false := by
  decide

/-- non-vacuity: a guarded panicking stage and total unguarded stages -/
example :
    let parse : Stage Nat := { name := "parser.Parse", guarded := false, run := fun n => if n > 3 then .error "syntax" else .ok (n + 1) }
    let compile : Stage Nat := { name := "compiler.Compile", guarded := true, run := fun n => if n = 2 then .panic "boom" else .ok n }
    (runPipeline [parse, compile] 1) = .error "boom" ∧ (runPipeline [parse, compile] 0) = .ok 1 ∧
    (runPipeline [parse, compile] 9) = .error "syntax" := by decide

open Gen.Api

/-- `compiler.Compile`, `(*VM).Run` and the constExpr pass install a deferred recover (inclusion: adding a recover
    keeps the theorem, removing one of these breaks it); of the API stage entry points exactly `compiler.Compile` and
    `vm.(*VM).Run` are guarded. -/
theorem recover_sites_as_expected :
    (["compiler.Compile", "optimizer.(*constExpr).Exit", "vm.(*VM).Run"].all recoverFunctions.contains) = true ∧
    (stages.filter (·.2)).map (·.1) = ["compiler.Compile", "vm.(*VM).Run"] ∧
    stages.map (·.1) = ["expr.Eval", "expr.Compile", "expr.Run", "parser.Parse", "compiler.Compile", "vm.Run",
                        "vm.(*VM).Run", "checker.Check", "optimizer.Optimize", "lexer.Lex"] :=
  ⟨by decide +kernel, rfl, rfl⟩

def guardVector (calls : List String) : List (String × Bool) :=
  calls.map fun c => (c, recoverFunctions.contains c)

/-- In `expr.Compile` only the last stage (`compiler.Compile`) is under a recover; option application,
    `Config.Check`, `parser.Parse`, both `checker.Check` calls, `PatchOperators`, the user visitors, the
    optimizer passes other than constExpr and `Bind` all run unguarded.  In `expr.Eval` the parser is unguarded. -/
theorem compile_stage_guards :
    guardVector compileCallOrder =
      [("dynamic:op", false), ("conf.(*Config).Check", false), ("parser.Parse", false), ("checker.Check", false),
       ("compiler.PatchOperators", false), ("ast.Walk", false), ("checker.Check", false),
       ("optimizer.Optimize", false), ("file.(*Error).Bind", false), ("compiler.Compile", true)] ∧
    guardVector evalCallOrder = [("parser.Parse", false), ("compiler.Compile", true), ("vm.Run", false)] ∧
    runCallOrder = ["vm.Run"] ∧ vmRunCallOrder = ["vm.(*VM).Run"] ∧
    vmRunHandlerCalls = ["recover", "fmt.Sprintf", "f.Bind"] := by decide +kernel

def shapesOf (fn : String) : List String :=
  match returnShapes.find? (fun r => r.1 == fn) with
  | some r => r.2
  | none => ["missing"]

def pairShape (s : String) : Bool := s == "nilErr" || s == "valNil"

/-- Every `return` of `expr.Eval`, `expr.Compile`, `parser.Parse`, `lexer.Lex` is literally
    `(nil, err)` or `(x, nil)`; `expr.Run` returns what `vm.Run` returns, which is `(nil, err)` or what
    `(*VM).Run` returns; `(*VM).Run` returns `(x, nil)` / `(nil, nil)` explicitly and assigns its named
    results only in the recover handler (`err`); `compiler.Compile` uses a plain `return` with `program`
    assigned by a composite literal as the last statement and `err` only in the recover handler — so on the
    panic path `program` is still nil.  Hence: error ⇒ nil value, everywhere. -/
theorem api_result_shape :
    (shapesOf "expr.Eval").all pairShape = true ∧ (shapesOf "expr.Compile").all pairShape = true ∧
    (shapesOf "parser.Parse").all pairShape = true ∧ (shapesOf "lexer.Lex").all pairShape = true ∧
    shapesOf "expr.Run" = ["passThrough:vm.Run"] ∧
    shapesOf "vm.Run" = ["nilErr", "passThrough:vm.(*VM).Run"] ∧
    shapesOf "vm.(*VM).Run" = ["valNil", "nilNil"] ∧
    shapesOf "compiler.Compile" = ["bareNamed"] ∧
    namedResultWrites =
      [("compiler.Compile", [("err", "recover-handler"), ("program", "last-before-return")]),
       ("vm.(*VM).Run", [("err", "recover-handler")])] := by decide +kernel

/-- the explicit `panic(` calls that can execute with no recover above them are among the walker's and the
    checker's default branches and `vm.FetchFn` (inclusion: a *new* unguarded panic site breaks it).  The
    compiler's and the VM's panics are under a recover. -/
theorem unguarded_panic_sites_as_expected :
    (unguardedPanicSites.all fun p => ["ast.(*walker).walk", "checker.(*visitor).visit", "vm.FetchFn"].contains p.1) = true ∧
    unguardedFunctions.contains "compiler.(*compiler).compile" = false ∧
    unguardedFunctions.contains "vm.fetch" = false ∧
    unguardedFunctions.contains "vm.(*VM).push" = false := by decide +kernel

/-- The only explicit `panic(` outside a recover is the walker's default branch — unreachable: the walker has a
    case for every node kind (`dispatch_total`) and returns early on a nil child.  `Config.ConstExpr` installs a
    recover, so `vm.FetchFn` is not reachable unguarded from the `expr.ConstExpr` option, and the checker's
    default branch does not panic. -/
theorem unguarded_panics_fixed :
    unguardedPanicSites.map (·.1) = ["ast.(*walker).walk"] ∧
    recoverFunctions.contains "conf.(*Config).ConstExpr" = true ∧
    unguardedFunctions.contains "vm.FetchFn" = false := by decide +kernel

/-- the one reflect.Type method call in `checker.Check` is the `t.Kind()` of the `expect` test (whether a
    `t == nil` test precedes it is not visible to the extractor: the harness decides, key
    `c04:panic:checker.Check:…nil-pointer…`) -/
theorem checker_check_unguarded_kind_call :
    (unguardedPartialOps.filter fun o => o.1 == "checker.Check") =
      [("checker.Check", "reflectTypeCall", "t.Kind")] := by decide +kernel

/-- Partial operations (index, slice, single-value type assertion, method call on a `reflect.Type` that may
    be nil) in unguarded code of the packages whose totality is argued operation by operation.
    `file.*`, `lexer.*`, `parser.*`: discharged by the totality theorems of the lexer, parser and snippet models.
    `ast.(*walker).walk`: loop indices `i < len`.
    The checker / conf / optimizer / expr functions containing such operations are listed in
    `Gen.Api.unguardedPartialOpFunctionsElsewhere` (evidence only): they have no Lean model here and are covered
    by the outcome-class harness (its inputs reach `checker.Check`'s `t.Kind()` and `ClosureNode`'s
    `reflect.FuncOf` with a nil type). -/
theorem unguarded_partial_ops_as_expected :
    unguardedPartialOpCounts =
      ([("ast.(*walker).walk", "index", 3),
        ("file.(*Error).Bind", "slice", 1), ("file.(*Source).Snippet", "slice", 2),
        ("file.(*Source).findLineOffset", "index", 1), ("file.(*Source).updateOffsets", "index", 1),
        ("lexer.(*lexer).next", "slice", 1), ("lexer.(*lexer).word", "slice", 1),
        ("lexer.unescape", "index", 2), ("lexer.unescape", "slice", 3),
        ("lexer.unescapeChar", "index", 3), ("lexer.unescapeChar", "slice", 4),
        ("parser.(*parser).next", "index", 1), ("parser.(*parser).parseIdentifierExpression", "index", 2),
        ("parser.Parse", "index", 1), ("parser.isValidIdentifier", "slice", 1)] : List (String × String × Nat)) :=
  rfl

def casesOf (fn : String) : List String :=
  match dispatchers.find? (fun d => d.1 == fn) with
  | some d => d.2.1
  | none => []

def producedKinds (who : String) : List String :=
  match producedBy.find? (fun d => d.1 == who) with
  | some d => d.2
  | none => []

def subset (xs ys : List String) : Bool := xs.all ys.contains

/-- 22 node kinds; the three dispatchers are the expected functions; the walker's and the compiler's default
    branches panic (the compiler's under `compiler.Compile`'s recover, the walker's unreachable for non-nil nodes
    by `dispatch_walker_compiler_total`) -/
theorem node_kinds_and_defaults :
    nodeKinds.length = 22 ∧
    dispatchers.map (·.1) = ["ast.(*walker).walk", "checker.(*visitor).visit", "compiler.(*compiler).compile"] ∧
    (dispatchers.filter fun d => d.1 != "checker.(*visitor).visit").map (·.2.2) = ["panic", "panic"] :=
  ⟨rfl, rfl, by decide +kernel⟩

/-- the walker and the compiler have a case for every node kind — whatever the parser, the patcher, the
    optimizer or a user visitor produces (a nil child installed by a visitor is not a node kind: see harness) -/
theorem dispatch_walker_compiler_total :
    subset nodeKinds (casesOf "ast.(*walker).walk") = true ∧
    subset nodeKinds (casesOf "compiler.(*compiler).compile") = true := by decide +kernel

/-- the checker has a case for every kind the parser and the operator patcher can produce: the part of
    `dispatch_total` that holds whatever the checker does with a `ConstantNode` -/
theorem dispatch_checker_total_partial :
    subset (producedKinds "parser") (casesOf "checker.(*visitor).visit") = true ∧
    subset (producedKinds "operatorPatcher") (casesOf "checker.(*visitor).visit") = true := by decide +kernel

/-- both type checks run before the optimizer, the only library stage that makes a `ConstantNode` -/
theorem second_check_precedes_optimizer :
    compileCallOrder = ["dynamic:op", "conf.(*Config).Check", "parser.Parse", "checker.Check",
      "compiler.PatchOperators", "ast.Walk", "checker.Check", "optimizer.Optimize", "file.(*Error).Bind",
      "compiler.Compile"] ∧
    (producedKinds "optimizer").contains "ConstantNode" = true ∧
    (producedKinds "parser").contains "ConstantNode" = false ∧
    (producedKinds "operatorPatcher").contains "ConstantNode" = false :=
  ⟨rfl, by decide +kernel⟩

def dispatch_total_goal : Prop :=
  ∀ d ∈ dispatchers, subset nodeKinds d.2.1 = true

/-- The walker, the checker and the compiler each have a case for every one of the 22 node kinds, so no tree a Patch
    visitor can build out of exported node kinds reaches a default branch (the code after commits 911e74d, b1d37f1). -/
theorem dispatch_total : dispatch_total_goal := by
  unfold dispatch_total_goal
  decide +kernel

/-- …and the checker's default branch (reached only by a nil node or a foreign Node implementation) records an
    error instead of panicking -/
theorem checker_default_reports_error :
    (dispatchers.filter fun d => d.1 == "checker.(*visitor).visit").map (·.2.2) = ["other"] := by decide +kernel

end ExprModel.C04
