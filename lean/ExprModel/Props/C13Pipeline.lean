import ExprModel.Props.C13
import ExprModel.Props.C12
import ExprModel.Proofs.AllLoc
import ExprModel.Proofs.ParserLocs
import ExprModel.Proofs.CompileLocs
import ExprModel.Props.C01
import ExprModel.Proofs.StepBoundary
import ExprModel.Proofs.StepPP
import ExprModel.Proofs.RefineBlame
/-
C13 end to end: Props/C13.lean composed with the lexer (C12), parser and compiler / VM (C01) models.  Every location
downstream of the source is a location of the source; from `runtime_error_location_exact_goal` on, the reported
location is the one at which the language definition raises the failure (`Spec.runLoc`).
-/
namespace ExprModel.C13
open ExprModel ExprModel.Src ExprModel.Lex

/-- the snippet of `loc`'s line shows the rune `c` at `loc`'s column.  `InSource` follows from the second conjunct and is
    kept beside it for direct use. -/
def PointsAt (src : List Char) (loc : Loc) (c : Char) : Prop :=
  InSource src loc ∧ ∃ l, snippet src (loc.line : Int) = .ok (l, true) ∧ l[loc.col]? = some c

/-- **Every token location produced by `lex` lies inside the source, and the snippet of its line
    carries the token's first rune at the token's column** — for every source (multi-line, multi-byte)
    and every rune classification that treats the line feed as white space.  EOF excepted: it is
    placed at the position *of* the last rune read (`prev`). -/
theorem token_locations_in_source (cc : CharClass) (hnl : cc.isSpace '\n' = true) (src : String) (toks : List Token)
    (h : Lex.lex cc LexTables.std src = .ok toks) :
    ∀ t ∈ toks, t.kind ≠ .eof →
      ∃ k c, src.toList[k]? = some c ∧ cc.isSpace c = false ∧ t.loc = posOf src.toList k ∧ PointsAt src.toList t.loc c := by
  intro t ht hk
  obtain ⟨pre, raw, post, hsrc, hne, hfirst, hloc, _⟩ := C12.token_positions_each cc src toks h t ht hk
  cases raw with
  | nil => exact absurd rfl hne
  | cons c raw' =>
    have hsp : cc.isSpace c = false := hfirst c rfl
    have hcnl : c ≠ '\n' := by intro e; rw [e, hnl] at hsp; cases hsp
    have hk' : src.toList[pre.length]? = some c := by rw [hsrc]; simp
    have hpos : t.loc = posOf src.toList pre.length := by
      rw [hloc, hsrc, List.append_assoc]; exact lexPosOf_eq pre _
    have hlen : pre.length ≤ src.toList.length := by rw [hsrc]; simp
    refine ⟨pre.length, c, hk', hsp, hpos, ?_, ?_⟩
    · rw [hpos]; exact loc_in_source _ _ hlen
    · rw [hpos]; exact snippet_contains_rune _ _ c hk' hcnl

/-- the same for the tables regenerated from the source on this run and any classification that is
    exact on ASCII (Go's `unicode.IsSpace` is) -/
theorem token_locations_in_source_code (cc : CharClass) (hcc : cc.AsciiExact) (src : String) (toks : List Token)
    (h : Lex.lex cc Gen.lexTables src = .ok toks) :
    ∀ t ∈ toks, t.kind ≠ .eof → ∃ c, cc.isSpace c = false ∧ PointsAt src.toList t.loc c := by
  intro t ht hk
  have hnl : cc.isSpace '\n' = true := by rw [hcc.space '\n' (by decide)]; decide
  obtain ⟨_, c, _, hsp, _, hp⟩ := token_locations_in_source cc hnl src toks (C12.tables_pinned ▸ h) t ht hk
  exact ⟨c, hsp, hp⟩

/-- `Bind` of an error at a token's location renders that token's source line -/
theorem token_error_snippet_is_its_line (cc : CharClass) (hnl : cc.isSpace '\n' = true) (src : String)
    (toks : List Token) (h : Lex.lex cc LexTables.std src = .ok toks) (t : Token) (ht : t ∈ toks) (hk : t.kind ≠ .eof)
    (msg : List Char) :
    ∃ l e', nthLine src.toList (t.loc.line - 1) = some l ∧
      Src.bind src.toList { line := t.loc.line, col := t.loc.col, msg := msg } = .ok e' ∧
      (e'.snippet = gutter ++ tabsToSpaces l ∨
       e'.snippet = gutter ++ tabsToSpaces l ++ gutter ++ (List.replicate (min t.loc.col l.length) '.' ++ ['^'])) := by
  obtain ⟨k, c, hkc, _, _, ⟨h1, l0, hl0, _⟩, l, hsn, _⟩ := token_locations_in_source cc hnl src toks h t ht hk
  have hs : src.toList ≠ [] := by intro e; rw [e] at hkc; simp at hkc
  have hrange : ((t.loc.line : Nat) : Int) ≤ numLines src.toList :=
    ((snippet_found_iff _ _).mp ⟨l, hsn⟩).2.2
  obtain ⟨l', e', hl', hb, hs'⟩ := bind_snippet_is_line src.toList
    { line := t.loc.line, col := t.loc.col, msg := msg } hs (by simp; omega) hrange
  refine ⟨l', e', ?_, hb, ?_⟩
  · simpa using hl'
  · simpa using hs'

/-- non-vacuity: a two-line, multi-byte source -/
example : (Lex.lex CharClass.ascii LexTables.std "'é' +\n  xy").toOption.map (·.map (·.loc)) =
    some [⟨1, 0⟩, ⟨1, 4⟩, ⟨2, 2⟩, ⟨2, 3⟩] := by decide +kernel

/-- every node of a successfully parsed tree (at any depth, conditionals included: the code after commit
    4de6c8c) carries the location of one of the input tokens -/
theorem parse_locs_from_tokens (cfg : Parser.Cfg) (ts : List Token) (root : Node)
    (h : Parser.parse cfg ts = .ok root) : root.AllLoc (fun l => ∃ t ∈ ts, t.loc = l) := by
  refine Parser.parse_allLoc _ cfg ts root ⟨?_, ?_⟩ h
  · intro t ht; exact ⟨t, (List.dropLast_subset _ ht), rfl⟩
  · intro t ht _; exact ⟨t, List.mem_of_getLast? ht, rfl⟩

/-- … and never the location of the EOF token, when EOF occurs only at the end (as `lex` guarantees) -/
theorem parse_locs_from_proper_tokens (cfg : Parser.Cfg) (ts : List Token) (root : Node)
    (heof : ∀ t ∈ ts.dropLast, t.kind ≠ .eof) (h : Parser.parse cfg ts = .ok root) :
    root.AllLoc (fun l => ∃ t ∈ ts, t.kind ≠ .eof ∧ t.loc = l) := by
  refine Parser.parse_allLoc _ cfg ts root ⟨?_, ?_⟩ h
  · intro t ht; exact ⟨t, (List.dropLast_subset _ ht), heof t ht, rfl⟩
  · intro t ht hk; exact ⟨t, List.mem_of_getLast? ht, hk, rfl⟩

/-- every node of the tree parsed from a source has a location inside that source, at which the snippet
    shows the first rune of the node's defining token (a non-blank rune) -/
theorem node_locations_in_source (cc : CharClass) (hnl : cc.isSpace '\n' = true) (cfg : Parser.Cfg) (src : String)
    (toks : List Token) (root : Node) (hl : Lex.lex cc LexTables.std src = .ok toks)
    (hp : Parser.parse cfg toks = .ok root) :
    root.AllLoc (fun l => ∃ c, cc.isSpace c = false ∧ PointsAt src.toList l c) := by
  obtain ⟨pre, e, hpre, _, hall⟩ := C12.lex_ends_with_eof cc src toks hl
  have heof : ∀ t ∈ toks.dropLast, t.kind ≠ .eof := by
    rw [hpre, List.dropLast_concat]; exact hall
  refine Node.allLoc_mono ?_ root (parse_locs_from_proper_tokens cfg toks root heof hp)
  rintro l ⟨t, ht, hk, rfl⟩
  obtain ⟨_, c, _, hsp, _, hpt⟩ := token_locations_in_source cc hnl src toks hl t ht hk
  exact ⟨c, hsp, hpt⟩

/-- in particular the root, i.e. the location a checker error about the whole expression gets -/
theorem root_location_in_source (cc : CharClass) (hnl : cc.isSpace '\n' = true) (cfg : Parser.Cfg) (src : String)
    (toks : List Token) (root : Node) (hl : Lex.lex cc LexTables.std src = .ok toks)
    (hp : Parser.parse cfg toks = .ok root) : InSource src.toList root.loc := by
  obtain ⟨_, _, hpt⟩ := Node.allLoc_root root (node_locations_in_source cc hnl cfg src toks root hl hp)
  exact hpt.1

open ExprModel.LocMap (report)

/-- against the compiler model itself, not the scripts of `LocMap`: every instruction of `compileProgram cfg n`
    carries the location of a node of `n` — stated as: whatever holds of all node locations of the tree holds
    of the instruction's location.  The one exception is the `OpCast` epilogue of `AsInt64` / `AsFloat64`,
    emitted when the node stack is empty (location 0:0). -/
theorem compile_locations (cfg : CompCfg) (n : Node) (cp : Compiled) (hc : compileProgram cfg n = .ok cp)
    (P : Loc → Prop) (hn : n.AllLoc P) :
    ∀ i ∈ cp.code, P i.loc ∨ (i.loc = {} ∧ i.instr.op = .cast ∧ cfg.cast ≠ none) :=
  compileProgram_locs hc hn

/-- `k` is the offset of an opcode byte, i.e. a key of the `Locations` table; an offset inside an operand is not -/
def OpcodeOffset (code : List LInstr) (k : Nat) : Prop := ∃ l, (k, l) ∈ locTable 0 code

/-- `program.Locations[k]` at the offset of an opcode is the location that opcode was emitted with -/
theorem report_locTable (code : List LInstr) (k : Nat) (l : Loc) (h : (k, l) ∈ locTable 0 code) :
    report (locTable 0 code) k = l :=
  LocMap.report_of_sorted (locTable_sorted 0 code).2.2 h

/-- **A failure at the opcode at offset `k` is reported at the location of a node of the tree** (or at
    0:0 when it is the cast epilogue that fails). -/
theorem error_location_is_a_node (cfg : CompCfg) (n : Node) (cp : Compiled) (hc : compileProgram cfg n = .ok cp)
    (k : Nat) (hk : OpcodeOffset cp.code k) (P : Loc → Prop) (hn : n.AllLoc P) :
    P (report (locTable 0 cp.code) k) ∨ (report (locTable 0 cp.code) k = {} ∧ cfg.cast ≠ none) := by
  obtain ⟨l, hl⟩ := hk
  rw [report_locTable _ _ _ hl]
  obtain ⟨i, hi, rfl⟩ := locTable_mem hl
  rcases compile_locations cfg n cp hc P hn i hi with h | ⟨h1, _, h3⟩
  · exact Or.inl h
  · exact Or.inr ⟨h1, h3⟩

/-- lex, parse and compile a source without `AsInt64`/`AsFloat64`: a failure at any opcode of the program is
    reported at a location inside the source whose snippet shows the first rune of the defining token of a node
    of the tree -/
theorem runtime_error_location_in_source (cc : CharClass) (hnl : cc.isSpace '\n' = true) (pcfg : Parser.Cfg)
    (src : String) (toks : List Token) (root : Node) (cfg : CompCfg) (cp : Compiled)
    (hl : Lex.lex cc LexTables.std src = .ok toks) (hp : Parser.parse pcfg toks = .ok root)
    (hc : compileProgram cfg root = .ok cp) (hcast : cfg.cast = none) (k : Nat) (hk : OpcodeOffset cp.code k) :
    ∃ c, cc.isSpace c = false ∧ PointsAt src.toList (report (locTable 0 cp.code) k) c := by
  rcases error_location_is_a_node cfg root cp hc k hk _ (node_locations_in_source cc hnl pcfg src toks root hl hp)
    with h | ⟨_, h⟩
  · exact h
  · exact absurd hcast h

open ExprModel.Refine ExprModel.Spec in
/-- when the language definition fails on the tree, the VM model reaches a failing step (C01 `Conforms`, error
    case) and — provided every reachable `ip` is an opcode offset (`hb`; proved of compiled programs under `FitsU16`:
    `reachable_ip_is_boundary`) — the location reported for it (`Locations[pp]`, `pp` = the `ip` the step starts
    from) is the location of a node of the tree, or 0:0 for the cast epilogue.  `runtime_error_location` below needs
    neither `hb` nor `Conforms`: it speaks of every failing run, through `pp` of the state `run` returns. -/
theorem runtime_error_location_partial (c : Cfg) (Pg : Prog) (len : Nat) (ctx : Ctx) (n : Node) (cfg : CompCfg)
    (cp : Compiled) (hc : compileProgram cfg n = .ok cp) (hconf : C01.Conforms c Pg 0 len ctx n)
    (s : VM) (hip : s.ip = 0) (hlim : s.limit = c.budget) (hsc : ScopesOK ctx s.scopes)
    (e : ErrClass) (σ' : SState) (hev : eval (specOf c) ctx n (obs s) = (.error e, σ'))
    (hb : ∀ s1, Steps c Pg s s1 → OpcodeOffset cp.code s1.ip) :
    ∃ s1 s2, Steps c Pg s s1 ∧ step c Pg s1 = .error (e, s2) ∧
      ∀ P : Loc → Prop, n.AllLoc P →
        P (report (locTable 0 cp.code) s1.ip) ∨ (report (locTable 0 cp.code) s1.ip = {} ∧ cfg.cast ≠ none) := by
  obtain ⟨s1, s2, hst, _, hstep, _⟩ := hconf s hip hlim hsc _ _ hev
  exact ⟨s1, s2, hst, hstep, fun P hn => error_location_is_a_node cfg n cp hc s1.ip (hb s1 hst) P hn⟩

/-- **`pp` of a failing step is the offset of its opcode** (all 52 opcodes of the VM model) -/
theorem failing_step_pp {c : Cfg} {Pg : Prog} {s1 s2 : VM} {e : ErrClass} (h : step c Pg s1 = .error (e, s2)) :
    s2.pp = s1.ip := step_error_pp h

/-- **In a compiled program every reachable `ip` is an instruction boundary**: a successful step leaves
    `ip` right after its instruction or at its jump target (`step_ok_ip`), and the compiler's jumps land on
    boundaries (`Bc.compileProgram_frag`); `steps_boundary` carries the two along a run. -/
theorem reachable_ip_is_boundary (cfg : CompCfg) (hcfg : Bc.CompCfgOk cfg) (n : Node) (cp : Compiled)
    (hc : compileProgram cfg n = .ok cp) (hfit : Refine.FitsU16 cp.code) (c : Cfg) (s s1 : VM)
    (hs : s.ip = 0) (hst : Refine.Steps c (Refine.progOf cp) s s1) :
    instrBoundary (Bc.instrs cp.code) s1.ip = true :=
  steps_boundary hfit (Bc.compileProgram_frag cfg hcfg n cp hc).1.jumps hst (by rw [hs]; exact Bc.boundary_zero' _ _ rfl)

/-- whenever a run of a compiled program fails (with anything but the model's own `fuel`), the location the
    VM reports — `Locations[pp]` of the state the failing step returns — is the location of a node of the tree,
    or 0:0 when the failing opcode is the `OpCast` epilogue.  Exclusion as in C01: operands fit 16 bits (`FitsU16`;
    it holds of every program compiled with the jump guard on, C05 `compiled_fits_code`). -/
theorem runtime_error_location (cfg : CompCfg) (hcfg : Bc.CompCfgOk cfg) (n : Node) (cp : Compiled)
    (hc : compileProgram cfg n = .ok cp) (hfit : Refine.FitsU16 cp.code) (c : Cfg) (fuel : Nat) (e : ErrClass)
    (s' : VM) (hrun : run c (Refine.progOf cp) fuel = (.error e, s')) (he : e ≠ .fuel)
    (P : Loc → Prop) (hn : n.AllLoc P) :
    P (report (locTable 0 cp.code) s'.pp) ∨ (report (locTable 0 cp.code) s'.pp = {} ∧ cfg.cast ≠ none) := by
  obtain ⟨s1, hst, hlt, hstep⟩ := run_error_inv hrun he
  have hb := reachable_ip_is_boundary cfg hcfg n cp hc hfit c _ s1 rfl hst
  obtain ⟨pre, i, post, hcode, hpre⟩ := split_at_boundary cp.code s1.ip hb (by rw [← Refine.progOf_code_size]; exact hlt)
  have hoff : OpcodeOffset cp.code s1.ip := ⟨i.loc, locTable_at hcode hpre⟩
  rw [failing_step_pp hstep]
  exact error_location_is_a_node cfg n cp hc s1.ip hoff P hn

/-- the pipeline of `expr.Eval` (lex, parse, compile without cast, run): the same for whatever fails at run time -/
theorem eval_error_location_in_source (cc : CharClass) (hnl : cc.isSpace '\n' = true) (pcfg : Parser.Cfg)
    (src : String) (toks : List Token) (root : Node) (cfg : CompCfg) (hcast : cfg.cast = none) (cp : Compiled)
    (hl : Lex.lex cc LexTables.std src = .ok toks) (hp : Parser.parse pcfg toks = .ok root)
    (hc : compileProgram cfg root = .ok cp) (hfit : Refine.FitsU16 cp.code) (c : Cfg) (fuel : Nat) (e : ErrClass)
    (s' : VM) (hrun : run c (Refine.progOf cp) fuel = (.error e, s')) (he : e ≠ .fuel) :
    ∃ ch, cc.isSpace ch = false ∧ PointsAt src.toList (report (locTable 0 cp.code) s'.pp) ch := by
  have hcfg : Bc.CompCfgOk cfg := by intro t ht; rw [hcast] at ht; cases ht
  rcases runtime_error_location cfg hcfg root cp hc hfit c fuel e s' hrun he _
    (node_locations_in_source cc hnl pcfg src toks root hl hp) with h | ⟨_, h⟩
  · exact h
  · exact absurd hcast h

/-- non-vacuity: `1 / 0` (tokens at 1:0, 1:2, 1:4) compiles to `Push; Push; Divide`,
    the run fails with `divzero` in the step at byte offset 6, and `Locations[6]` is 1:2 — the `/`. -/
example :
    let w : World := { call := fun _ _ => .ok .nil, regexMatch := fun _ _ => none, pow := fun a _ => a }
    let c : Cfg := { world := w, env := .nil, budget := 1000, defects := Defects.none }
    let tree : Node := .binary ⟨⟨1, 2⟩, .invalid⟩ "/" (.int ⟨⟨1, 0⟩, .invalid⟩ 1) (.int ⟨⟨1, 4⟩, .invalid⟩ 0)
    (match compileProgram {} tree with
     | .ok cp =>
       (match (run c (Refine.progOf cp) 50).1 with | .error .divzero => true | _ => false) &&
       ((run c (Refine.progOf cp) 50).2.pp == 6) && (report (locTable 0 cp.code) 6 == (⟨1, 2⟩ : Loc))
     | .error _ => false) = true := by decide +kernel

/-- The property at full strength: errors are located at the offending occurrence.  When a run of a compiled
    program fails with class `e`, the location it reports is the one the language definition gives the failure:
    `Spec.runLoc` (`Spec/EvalLoc.lean`: `Spec.eval` whose failures carry the location of the node that raises them)
    fails on the whole tree with `(e, that location)`.  `runtime_error_location_exact_partial` has the hypotheses of
    C01's refinement theorem, without which the run of a compiled program is not tied to the language definition at
    all (a pair node outside a map literal, `+0.0` and `-0.0` sharing a pool slot, a collection of 2^63 elements). -/
def runtime_error_location_exact_goal : Prop :=
  ∀ (cfg : CompCfg) (n : Node) (cp : Compiled) (c : Cfg), compileProgram cfg n = .ok cp → cfg.cast = none →
    Refine.FitsU16 cp.code →
    ∀ (fuel : Nat) (e : ErrClass) (s' : VM), run c (Refine.progOf cp) fuel = (.error e, s') → e ≠ .fuel →
      (Spec.runLoc (Refine.specOf c) cfg.cast n).1 = .error (e, report (locTable 0 cp.code) s'.pp)

/-- the weaker reading: the reported location is that of *some* node whose own evaluation can fail with `e`.
    It does not say "innermost": every ancestor of the failing node also fails with `e` in some context, so a VM
    that always reported the root would satisfy it. -/
def runtime_error_blames_failing_node_goal : Prop :=
  ∀ (cfg : CompCfg) (n : Node) (cp : Compiled) (c : Cfg), compileProgram cfg n = .ok cp → cfg.cast = none →
    Refine.FitsU16 cp.code →
    ∀ (fuel : Nat) (e : ErrClass) (s' : VM), run c (Refine.progOf cp) fuel = (.error e, s') → e ≠ .fuel →
      ∃ m ∈ Node.preorder n, m.loc = report (locTable 0 cp.code) s'.pp ∧
        ∃ ctx σ, (Spec.eval (Refine.specOf c) ctx m σ).1 = .error e

open ExprModel.Refine in
/-- for any blame relation `bl` that the located evaluation of the whole tree satisfies (`BAt`): the class of a
    failing run and the location it reports are blamed.  C01's simulation hands the obligation down evaluation by
    evaluation (`Sim`), every failing instruction discharges it for its own location (`ReachErr`), and the failing
    step of a run is the one `Runs` names (`Runs.failing_step`). -/
theorem failing_step_blamed (bl : ErrClass → Loc → Prop) (cfg : CompCfg) (n : Node) (cp : Compiled) (c : Cfg)
    (F : Val → Prop) (hc : compileProgram cfg n = .ok cp) (hcast : cfg.cast = none) (hfit : FitsU16 cp.code)
    (hF : AliasFree F) (hfl : FloatsIn F n) (henv : EnvOK c cfg) (hg : Good (SmallColl c) n)
    (hB : BAt bl (Spec.evalLoc (specOf c) [] n) {})
    (fuel : Nat) (e : ErrClass) (s' : VM) (hrun : run c (progOf cp) fuel = (.error e, s')) (he : e ≠ .fuel) :
    bl e (report (locTable 0 cp.code) s'.pp) := by
  have hR := program_runs bl hc hF hfl hg hfit henv (loopCase_holds c _) hB
    (fun t _ _ ht => by rw [hcast] at ht; cases ht)
  obtain ⟨s1, hst, hlt, hstep⟩ := run_error_inv hrun he
  obtain ⟨i, r, ⟨pre, post, hfull, hpre, _⟩, hbl⟩ :=
    Runs.failing_step hR (Nat.le_of_eq (progOf_code_size cp)) hst hlt hstep
  have hfull' : cp.code = pre ++ i :: (r ++ post) := by
    have : cp.code = pre ++ (i :: r) ++ post := hfull
    simpa [List.append_assoc] using this
  rw [failing_step_pp hstep, report_locTable _ _ _ (locTable_at hfull' hpre)]
  exact hbl

open ExprModel.Refine in
/-- `runtime_error_location_exact_goal` under the further hypotheses of `C01.run_conforms_partial` (`AliasFree`/`FloatsIn`,
    `EnvOK`, `Good`).  `runLoc`/`evalLoc` blames the node whose own rule fails after the sub-evaluations it needed
    succeeded (`Spec/EvalLoc.lean` lists what raises where; `evalLoc_dropLoc`: forgetting the locations gives
    `Spec.eval` back).  Every construct is covered, the slice (its bounds are evaluated `to` before `from`, the listed
    finding, mirrored by `specOf`) and the seven loop builtins included.  No `AsInt64`/`AsFloat64` epilogue in the goal:
    its `OpCast` carries the location 0:0 of no node. -/
theorem runtime_error_location_exact_partial (cfg : CompCfg) (n : Node) (cp : Compiled) (c : Cfg) (F : Val → Prop)
    (hc : compileProgram cfg n = .ok cp) (hcast : cfg.cast = none) (hfit : FitsU16 cp.code)
    (hF : AliasFree F) (hfl : FloatsIn F n) (henv : EnvOK c cfg) (hg : Good (SmallColl c) n)
    (fuel : Nat) (e : ErrClass) (s' : VM) (hrun : run c (progOf cp) fuel = (.error e, s')) (he : e ≠ .fuel) :
    (Spec.runLoc (specOf c) cfg.cast n).1 = .error (e, report (locTable 0 cp.code) s'.pp) := by
  have h := failing_step_blamed (ExactBlame c n) cfg n cp c F hc hcast hfit hF hfl henv hg (exactBlame_root c n)
    fuel e s' hrun he
  rw [hcast, Spec.runLoc_none]
  exact h

open ExprModel.Refine in
/-- `runtime_error_blames_failing_node_goal` under the same hypotheses -/
theorem runtime_error_blames_failing_node_partial (cfg : CompCfg) (n : Node) (cp : Compiled) (c : Cfg) (F : Val → Prop)
    (hc : compileProgram cfg n = .ok cp) (hcast : cfg.cast = none) (hfit : FitsU16 cp.code)
    (hF : AliasFree F) (hfl : FloatsIn F n) (henv : EnvOK c cfg) (hg : Good (SmallColl c) n)
    (fuel : Nat) (e : ErrClass) (s' : VM) (hrun : run c (progOf cp) fuel = (.error e, s')) (he : e ≠ .fuel) :
    ∃ m ∈ Node.preorder n, m.loc = report (locTable 0 cp.code) s'.pp ∧
      ∃ ctx σ, (Spec.eval (specOf c) ctx m σ).1 = .error e :=
  failing_step_blamed (InnerBlame c n) cfg n cp c F hc hcast hfit hF hfl henv hg (innerBlame_root c n)
    fuel e s' hrun he

/-- non-vacuity on a nested failure: in `[1, 2][I] + 1` with `I = 5` the index fails, and the location
    reported is that of the index node (1:6), not of the `+` (1:10) -/
example :
    let w : World := { call := fun _ _ => .ok .nil, regexMatch := fun _ _ => none, pow := fun a _ => a }
    let c : Cfg := { world := w, env := .map [("I", .int .int 5)], budget := 1000, defects := Defects.none }
    let tree : Node := .binary ⟨⟨1, 10⟩, .invalid⟩ "+"
      (.index ⟨⟨1, 6⟩, .invalid⟩ (.array ⟨⟨1, 0⟩, .invalid⟩ [.int ⟨⟨1, 1⟩, .invalid⟩ 1, .int ⟨⟨1, 4⟩, .invalid⟩ 2])
        (.ident ⟨⟨1, 7⟩, .invalid⟩ "I" false))
      (.int ⟨⟨1, 12⟩, .invalid⟩ 1)
    (match compileProgram {} tree with
     | .ok cp =>
       (match (run c (Refine.progOf cp) 50).1 with | .error .index => true | _ => false) &&
       (report (locTable 0 cp.code) (run c (Refine.progOf cp) 50).2.pp == (⟨1, 6⟩ : Loc))
     | .error _ => false) = true := by decide +kernel

/-- the way to an equation between results that carry no decidable equality, for the witnesses below -/
private theorem eq_error_of_check {ε α : Type} [DecidableEq ε] {x : Except ε α} {e : ε}
    (h : (match x with | .error e' => decide (e' = e) | _ => false) = true) : x = .error e := by
  cases x with
  | ok v => cases h
  | error e' => rw [of_decide_eq_true h]

private theorem run_fails_of_check {c : Cfg} {Pg : Prog} {fuel : Nat} {e : ErrClass}
    (h : (run c Pg fuel).1 = .error e) : run c Pg fuel = (.error e, (run c Pg fuel).2) :=
  Prod.ext h rfl

def innermostTree : Node := .binary ⟨⟨1, 10⟩, .invalid⟩ "+"
  (.index ⟨⟨1, 6⟩, .invalid⟩ (.array ⟨⟨1, 0⟩, .invalid⟩ [.int ⟨⟨1, 1⟩, .invalid⟩ 1, .int ⟨⟨1, 4⟩, .invalid⟩ 2])
    (.ident ⟨⟨1, 7⟩, .invalid⟩ "I" false))
  (.int ⟨⟨1, 12⟩, .invalid⟩ 1)

def innermostCompiled : Compiled :=
  match compileProgram {} innermostTree with
  | .ok cp => cp
  | .error _ => default

/-- `I = 5`, a world that does nothing; the witnesses about `illFormedTree` below run under it too (nothing of it is used
    there) -/
def innermostCfg : Cfg :=
  { world := { call := fun _ _ => .ok .nil, regexMatch := fun _ _ => none, pow := fun a _ => a },
    env := .map [("I", .int .int 5)], budget := 1000, defects := Defects.none }

/-- the language definition locates the failure of `[1, 2][I] + 1` (`I = 5`) at the index node, 1:6 … -/
theorem innermost_runLoc :
    (Spec.runLoc (Refine.specOf innermostCfg) none innermostTree).1 = .error (.index, ⟨1, 6⟩) :=
  eq_error_of_check (by decide +kernel)

/-- … and nowhere else: the statement with the location of the enclosing `+` (1:10) — which the weaker
    "some node whose evaluation fails" reading accepts, the `+` fails too — is false -/
example : ¬ (Spec.runLoc (Refine.specOf innermostCfg) none innermostTree).1 = .error (.index, ⟨1, 10⟩) := by
  rw [innermost_runLoc]
  intro h
  exact absurd (Prod.mk.inj (Except.error.inj h)).2 (by decide)

open ExprModel.Refine in
set_option maxRecDepth 20000 in
/-- the hypotheses of `runtime_error_location_exact_partial` hold of that failing program; the theorem gives
    that the VM reports 1:6 -/
example : report (locTable 0 innermostCompiled.code) (run innermostCfg (progOf innermostCompiled) 50).2.pp = ⟨1, 6⟩ := by
  have hc : compileProgram {} innermostTree = .ok innermostCompiled := by unfold innermostCompiled; rfl
  have hfit : FitsU16 innermostCompiled.code := by decide +kernel
  have hfl : FloatsIn (fun _ => False) innermostTree := by
    refine ⟨⟨⟨?_, ?_, trivial⟩, trivial⟩, ?_⟩ <;> (intro h; exact absurd h (by decide))
  have hg : Good (SmallColl innermostCfg) innermostTree := ⟨⟨⟨trivial, trivial, trivial⟩, trivial⟩, trivial⟩
  have hrun : run innermostCfg (progOf innermostCompiled) 50 = (.error .index, _) :=
    run_fails_of_check (eq_error_of_check (by decide +kernel))
  have h := runtime_error_location_exact_partial {} innermostTree innermostCompiled innermostCfg (fun _ => False) hc rfl
    hfit (fun _ _ h => h.elim) hfl (fun h => by cases h) hg 50 .index _ hrun (by decide)
  have h' : (Spec.runLoc (specOf innermostCfg) none innermostTree).1 = _ := h
  rw [innermost_runLoc] at h'
  exact ((Prod.mk.inj (Except.error.inj h')).2).symm

/-- the same with the computable check of the float constants (`C01.run_conforms_checked`'s hypotheses) -/
theorem runtime_error_location_exact_checked (cfg : CompCfg) (n : Node) (cp : Compiled) (c : Cfg)
    (hc : compileProgram cfg n = .ok cp) (hcast : cfg.cast = none) (hfit : Refine.FitsU16 cp.code)
    (hfl : Refine.floatsOK n = true) (henv : Refine.EnvOK c cfg) (hg : Refine.Good (Refine.SmallColl c) n)
    (fuel : Nat) (e : ErrClass) (s' : VM) (hrun : run c (Refine.progOf cp) fuel = (.error e, s')) (he : e ≠ .fuel) :
    (Spec.runLoc (Refine.specOf c) cfg.cast n).1 = .error (e, report (locTable 0 cp.code) s'.pp) :=
  runtime_error_location_exact_partial cfg n cp c _ hc hcast hfit (Refine.floatsOK_spec hfl).1 (Refine.floatsOK_spec hfl).2
    henv hg fuel e s' hrun he

theorem runtime_error_blames_failing_node_checked (cfg : CompCfg) (n : Node) (cp : Compiled) (c : Cfg)
    (hc : compileProgram cfg n = .ok cp) (hcast : cfg.cast = none) (hfit : Refine.FitsU16 cp.code)
    (hfl : Refine.floatsOK n = true) (henv : Refine.EnvOK c cfg) (hg : Refine.Good (Refine.SmallColl c) n)
    (fuel : Nat) (e : ErrClass) (s' : VM) (hrun : run c (Refine.progOf cp) fuel = (.error e, s')) (he : e ≠ .fuel) :
    ∃ m ∈ Node.preorder n, m.loc = report (locTable 0 cp.code) s'.pp ∧
      ∃ ctx σ, (Spec.eval (Refine.specOf c) ctx m σ).1 = .error e :=
  runtime_error_blames_failing_node_partial cfg n cp c _ hc hcast hfit (Refine.floatsOK_spec hfl).1
    (Refine.floatsOK_spec hfl).2 henv hg fuel e s' hrun he

/-! Why the hypotheses: both goals fail on `-(1: "a")`, a pair node outside a map literal (the parser never builds
one).  The compiler emits both components and `OpNegate`, the run fails with a *type* error at the `-`; the language
definition rejects the pair itself (`badop`), so no node at that location fails with a type error. -/

def illFormedTree : Node :=
  .unary ⟨⟨1, 0⟩, .invalid⟩ "-" (.pair ⟨⟨1, 2⟩, .invalid⟩ (.int ⟨⟨1, 3⟩, .invalid⟩ 1) (.str ⟨⟨1, 5⟩, .invalid⟩ "a"))

def illFormedCompiled : Compiled :=
  match compileProgram {} illFormedTree with
  | .ok cp => cp
  | .error _ => default

private theorem illFormed_compiles : compileProgram {} illFormedTree = .ok illFormedCompiled := by
  unfold illFormedCompiled; rfl

private theorem illFormed_fits : Refine.FitsU16 illFormedCompiled.code := by decide +kernel

open ExprModel.Refine in
private theorem illFormed_run : run innermostCfg (progOf illFormedCompiled) 50 =
    (.error .type_, (run innermostCfg (progOf illFormedCompiled) 50).2) :=
  run_fails_of_check (eq_error_of_check (by decide +kernel))

open ExprModel.Refine ExprModel.Spec in
theorem runtime_error_blames_failing_node_goal_witness : ¬ runtime_error_blames_failing_node_goal := by
  intro h
  have hloc : report (locTable 0 illFormedCompiled.code) (run innermostCfg (progOf illFormedCompiled) 50).2.pp
      = (⟨1, 0⟩ : Loc) := by decide +kernel
  obtain ⟨m, hm, hml, ctx, σ, hev⟩ := h {} illFormedTree illFormedCompiled innermostCfg illFormed_compiles rfl
    illFormed_fits 50 .type_ _ illFormed_run (by decide)
  rw [hloc] at hml
  have hpre : Node.preorder illFormedTree = [illFormedTree,
      .pair ⟨⟨1, 2⟩, .invalid⟩ (.int ⟨⟨1, 3⟩, .invalid⟩ 1) (.str ⟨⟨1, 5⟩, .invalid⟩ "a"),
      .int ⟨⟨1, 3⟩, .invalid⟩ 1, .str ⟨⟨1, 5⟩, .invalid⟩ "a"] := rfl
  rw [hpre] at hm
  simp only [List.mem_cons, List.not_mem_nil, or_false] at hm
  rcases hm with rfl | rfl | rfl | rfl
  · -- the unary node: its operand is rejected by the language definition (`badop`), whatever the context
    have : ∀ ctx σ, (eval (specOf innermostCfg) ctx illFormedTree σ).1 = .error .badop := by
      intro ctx σ
      unfold illFormedTree
      rw [eval_unary, SM.bind_apply]
      rfl
    rw [this] at hev
    cases hev
  · exact absurd hml (by decide)
  · exact absurd hml (by decide)
  · exact absurd hml (by decide)

open ExprModel.Refine ExprModel.Spec in
/-- the run reports a type error at the `-` (1:0), the language definition rejects the pair (`badop` at 1:2) -/
theorem runtime_error_location_exact_goal_witness : ¬ runtime_error_location_exact_goal := by
  intro h
  have hx := h {} illFormedTree illFormedCompiled innermostCfg illFormed_compiles rfl illFormed_fits
    50 .type_ _ illFormed_run (by decide)
  have h2 : (match (Spec.runLoc (specOf innermostCfg) none illFormedTree).1 with
      | .error (.badop, _) => true | _ => false) = true := by decide +kernel
  have hx' : (Spec.runLoc (specOf innermostCfg) none illFormedTree).1 = _ := hx
  rw [hx'] at h2
  cases h2

end ExprModel.C13
