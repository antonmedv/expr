import ExprModel.Gen.Helpers
import ExprModel.Proofs.NumRule
/-
C14 — Mixed-kind arithmetic follows one promotion rule.

Tie: `Gen.arms` is regenerated from vm/helpers.go on every run; `table_is_rule` re-checks that the
code's 1402 arms are exactly the arms the rule prescribes.  `helper_eq_ref` then holds for *all values*.
-/
namespace ExprModel.C14
open ExprModel

/-- Every helper's table in the source is exactly the rule's table. -/
theorem table_is_rule : ∀ h ∈ Helper.all, Gen.arms h = ruleArms h := by decide +kernel

theorem table_is_rule' (h : Helper) : Gen.arms h = ruleArms h :=
  table_is_rule h (by cases h <;> simp [Helper.all])

/-- the generated file has exactly 9×144 + 100 + 6 arms -/
theorem arm_count : Gen.helperArmCount = 1402 ∧ (Helper.all.map fun h => (Gen.arms h).length).sum = 1402 := by
  decide +kernel

/-- after the type switch `less`, `add`, `divide` and `modulo` panic and `equal` falls back to nil / DeepEqual (the tails
    of the other five helpers are generated as well, `Gen.moreTail` … `Gen.multiplyTail`, and not compared here) -/
theorem fallthrough_pinned :
    Gen.equalTail = ["if isNil(a) && isNil(b) { return true }", "return reflect.DeepEqual(a, b)"] ∧
    Gen.lessTail = ["panic(fmt.Sprintf(\"invalid operation: %T %v %T\", a, \"<\", b))"] ∧
    Gen.addTail = ["panic(fmt.Sprintf(\"invalid operation: %T %v %T\", a, \"+\", b))"] ∧
    Gen.divideTail = ["panic(fmt.Sprintf(\"invalid operation: %T %v %T\", a, \"/\", b))"] ∧
    Gen.moduloTail = ["panic(fmt.Sprintf(\"invalid operation: %T %v %T\", a, \"%\", b))"] :=
  ⟨rfl, rfl, rfl, rfl, rfl⟩

theorem findArm_rule (h : Helper) (ka kb : Kind) :
    findArm (ruleArms h) (some ka) (some kb) =
      (if h.noFloat && (ka.isFloat || kb.isFloat) then none else some (ruleArm h ka kb)) := by
  unfold findArm ruleArms
  rw [List.find?_append, find?_product (ruleArm h) _ ka kb (fun x y => by simp [ruleArm])]
  simp only [mem_ruleKinds]
  cases h.noFloat <;> cases ka.isFloat <;> cases kb.isFloat <;> simp

theorem findArm_rule_str (h : Helper) :
    findArm (ruleArms h) none none =
      (if h.hasString then some { ka := none, kb := none, op := h.op, cx := none, cy := none } else none) := by
  unfold findArm ruleArms
  rw [List.find?_append, find?_product_none (ruleArm h) _ (fun x y => by simp [ruleArm])]
  cases h.hasString <;> rfl

theorem findArm_rule_mixed (h : Helper) (k : Kind) :
    findArm (ruleArms h) (some k) none = none ∧ findArm (ruleArms h) none (some k) = none := by
  unfold findArm ruleArms
  rw [List.find?_append, List.find?_append,
    find?_product_none (ruleArm h) _ (fun x y => by simp [ruleArm]),
    find?_product_none (ruleArm h) _ (fun x y => by simp [ruleArm])]
  cases h.hasString <;> exact ⟨rfl, rfl⟩

/-- **Main theorem.** For every helper and *all* operand values, what the code's table computes is
    what the promotion rule computes. -/
theorem helper_eq_ref (h : Helper) (a b : Val) :
    helperSem (Gen.arms h) a b = refSem h a b := by
  rw [table_is_rule' h]
  unfold helperSem refSem
  cases ha : armTypeOf a with
  | none => rfl
  | some ka =>
    cases hb : armTypeOf b with
    | none => cases ka <;> rfl
    | some kb =>
      cases ka with
      | none =>
        cases kb with
        | none => simp only [findArm_rule_str]; cases h <;> simp [Helper.hasString, convOpt]
        | some kb => simp only [(findArm_rule_mixed h kb).2]
      | some ka =>
        cases kb with
        | none => simp only [(findArm_rule_mixed h ka).1]
        | some kb =>
          simp only [findArm_rule]
          by_cases hf : (h.noFloat && (ka.isFloat || kb.isFloat)) = true
          · simp [hf]
          · simp only [hf, Bool.false_eq_true, ↓reduceIte, ruleArm, Kind.maxRank]
            rcases Nat.lt_trichotomy ka.rank kb.rank with hlt | heq | hgt
            · have hk : ka ≠ kb := fun e => by subst e; omega
              simp [hlt, Nat.lt_asymm hlt, hk, convOpt]
            · obtain rfl := Kind.rank_inj ka kb heq
              simp [convOpt]
            · have hk : kb ≠ ka := fun e => by subst e; omega
              simp [hgt, Nat.lt_asymm hgt, hk, convOpt]

theorem wrap_zero (k : Kind) : wrap k 0 = 0 := by cases k <;> decide

/-- integer division truncates toward zero (Go semantics at the promoted kind) -/
theorem int_div_truncates (k : Kind) (a b : Int) (hb : b ≠ 0) :
    refSem .divide (.int k a) (.int k b) = .ok (.int k (wrap k (Int.tdiv a b))) := by
  simp [refSem_int_same, Helper.noFloat, applyOp, Helper.op, hb]

/-- integer division and modulo by zero are errors, for every pair of integer kinds -/
theorem int_div_zero_errors (ka kb : Kind) (hka : ka.isFloat = false) (hkb : kb.isFloat = false) (a : Int) :
    refSem .divide (.int ka a) (.int kb 0) = .error .divZero ∧
    refSem .modulo (.int ka a) (.int kb 0) = .error .divZero := by
  have hK := maxRank_isFloat hka hkb
  simp [refSem, armTypeOf, Helper.noFloat, hka, hkb, promote_int hK, wrap_zero, applyOp, Helper.op]

/-- modulo takes the sign of the dividend (truncated remainder) -/
theorem modulo_sign (k : Kind) (hk : k.isFloat = false) (a b : Int) (hb : b ≠ 0) :
    refSem .modulo (.int k a) (.int k b) = .ok (.int k (wrap k (Int.tmod a b))) := by
  simp [refSem_int_same, hk, applyOp, Helper.op, hb]

/-- `checker.typeWeight` is the rank of the helper list, so `combined` picks `Kind.maxRank`. -/
theorem typeWeight_is_rank :
    Gen.typeWeightTable = Kind.all.map (fun k => (k, k.rank + 1)) ∧ Gen.typeWeightDefault = 0 ∧
    Gen.combinedBody = "{ if typeWeight(a) > typeWeight(b) { return a } else { return b } }" :=
  ⟨by decide +kernel, rfl, rfl⟩

theorem kindOf_conv (K : Kind) (a : Val) (k : Kind) (h : kindOfVal a = some k) :
    kindOfVal (conv K a) = some K := by
  cases a <;> simp [kindOfVal] at h <;> cases K <;> simp [conv, kindOfVal]

/-- `applyOp_arith_kind` with the kind named; `hy` is not needed: the operands of a successful `applyOp` agree in kind -/
theorem applyOp_kind (op : BinOp) (hop : op = .add ∨ op = .sub ∨ op = .mul ∨ op = .div ∨ op = .mod)
    (x y v : Val) (K : Kind) (hx : kindOfVal x = some K) (hy : kindOfVal y = some K)
    (hr : applyOp op x y = .ok v) : kindOfVal v = some K :=
  (applyOp_arith_kind hop hr).trans hx

/-- result kind of an arithmetic helper on numbers = the kind the checker predicts (`combined`) -/
theorem result_kind_predicted (h : Helper) (hop : h.op = .add ∨ h.op = .sub ∨ h.op = .mul ∨ h.op = .div ∨ h.op = .mod)
    (a b v : Val) (ka kb : Kind) (ha : kindOfVal a = some ka) (hb : kindOfVal b = some kb)
    (hr : refSem h a b = .ok v) : kindOfVal v = some (Kind.maxRank ka kb) := by
  simp only [refSem, armTypeOf_of_kindOfVal ha, armTypeOf_of_kindOfVal hb] at hr
  split at hr
  · cases hr
  · rw [applyOp_arith_kind hop hr]
    split
    · next e => rw [← e]; exact ha
    · exact kindOf_conv _ a ka ha

theorem comparison_yields_bool (h : Helper) (hop : h.op = .eq ∨ h.op = .lt ∨ h.op = .gt ∨ h.op = .le ∨ h.op = .ge)
    (x y v : Val) (hr : applyOp h.op x y = .ok v) : ∃ b, v = .bool b :=
  applyOp_cmp_bool hop hr

/-- the unary helpers of vm/runtime.go are as modelled: `negate` is `-v` for all twelve kinds,
    `toInt`/`toInt64`/`toFloat64` are plain Go conversions, `exponent` is `math.Pow` on float64s -/
theorem unary_helpers_pinned :
    (∀ k ∈ Kind.all, (k, UnShape.neg) ∈ Gen.negateCases) ∧ Gen.negateCases.length = 12 ∧
    (∀ k ∈ Kind.all, (k, if k = .int then UnShape.same else .conv .int) ∈ Gen.toIntCases) ∧ Gen.toIntCases.length = 12 ∧
    (∀ k ∈ Kind.all, (k, if k = .int64 then UnShape.same else .conv .int64) ∈ Gen.toInt64Cases) ∧ Gen.toInt64Cases.length = 12 ∧
    (∀ k ∈ Kind.all, (k, if k = .float64 then UnShape.same else .conv .float64) ∈ Gen.toFloat64Cases) ∧ Gen.toFloat64Cases.length = 12 ∧
    Gen.exponentBody = "{ return math.Pow(toFloat64(a), toFloat64(b)) }" := by
  decide +kernel

/-- a concrete mixed-kind case through the code's table: uint8(200) + int8(-1) at kind int8 -/
example : helperSem (Gen.arms .add) (.int .uint8 200) (.int .int8 (-1)) = .ok (.int .int8 (-57)) := by
  rw [helper_eq_ref]
  simp [refSem, armTypeOf, Helper.noFloat, Kind.maxRank, Kind.rank, conv, applyOp, Helper.op]
  decide

/-! The property text ranks kinds "unsigned kinds by width, then signed kinds by width, then float32, float64".
The code ranks the platform-sized `uint` and `int` FIRST in their groups (helpers.go's `types` list and
`typeWeight` agree on that: `table_is_rule`, `typeWeight_is_rank`).  The two rankings pick different kinds for
exactly the pairs `int` with `int8`/`int16`/`int32` and `uint` with `uint8`/`uint16`/`uint32` (either order): there
the code converts the 64-bit `int` DOWN to `int8`.  Known finding `c14:platform-int-ranked-below-narrow-kinds`. -/

/-- the two rankings agree on every pair that does not involve `int` or `uint` -/
theorem rank_agrees_with_width_on_sized_kinds :
    ∀ ka ∈ Kind.all, ∀ kb ∈ Kind.all, ka ≠ .int → ka ≠ .uint → kb ≠ .int → kb ≠ .uint →
      Kind.maxRank ka kb = Kind.maxRankW ka kb := by decide

/-- … and where they differ the results differ: `int(200) + int8(1)` is `int8(-55)` by the code's rule
    (proved equal to what the helpers compute, `helper_eq_ref`) and `int(201)` by width -/
theorem width_rank_witness :
    helperSem (Gen.arms .add) (.int .int 200) (.int .int8 1) = .ok (.int .int8 (-55)) ∧
    refSemW .add (.int .int 200) (.int .int8 1) = .ok (.int .int 201) := by
  constructor
  · rw [helper_eq_ref]
    simp [refSem, armTypeOf, Helper.noFloat, Kind.maxRank, Kind.rank, conv, applyOp, Helper.op]
    decide
  · simp [refSemW, armTypeOf, Helper.noFloat, Kind.maxRankW, Kind.rankW, conv, applyOp, Helper.op]
    decide

end ExprModel.C14
