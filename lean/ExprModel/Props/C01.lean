import ExprModel.Proofs.FitsGuard
import ExprModel.Proofs.RefineTop
import ExprModel.Proofs.RefineLoopAll
import ExprModel.Proofs.RefineExample
import ExprModel.Proofs.RefineFloats
import ExprModel.Api.Pipeline
import ExprModel.Proofs.RefineBenignAll
import ExprModel.Props.C02
/-
C01 — Compiled evaluation conforms to the language definition: the refinement between `compileNode` /
`compileProgram`, the byte-level `step` / `run` and the reference evaluator `Spec.eval` / `Spec.run` (all three
compared with the real code by harness/c01.go), for every construct, value and failure direction.  Equal call logs
are "every evaluated call exactly once, left to right"; short-circuit evaluation is part of `Spec.eval`'s definition.
The Spec is taken at `specOf c`, which mirrors the code in two places: slice evaluates its upper bound first (known
finding `c01:slice-bounds-evaluated-right-to-left`), and `OpRange` counts as `c.defects.rangeSizeSigned` says (C06).
-/
namespace ExprModel.C01
open ExprModel
open ExprModel.Refine
open ExprModel.Spec

/-- the statement of conformance for the code of one node placed at byte offset `k` (length `len`) -/
def Conforms (c : Cfg) (P : Prog) (k len : Nat) (ctx : Ctx) (n : Node) : Prop :=
  ∀ (s : VM), s.ip = k → s.limit = c.budget → ScopesOK ctx s.scopes →
    ∀ (r : R Val) (σ' : SState), eval (specOf c) ctx n (obs s) = (r, σ') →
      match r with
      | .ok v => ∃ t, Steps c P s t ∧ t.ip = k + len ∧ t.stack = v :: s.stack ∧ t.scopes = s.scopes ∧
          t.limit = s.limit ∧ obs t = σ'
      | .error e => ∃ s1 s2, Steps c P s s1 ∧ s1.ip < P.code.size ∧ step c P s1 = .error (e, s2) ∧ obs s2 = σ'

theorem conforms_of_sim {c : Cfg} {P : LProg} {k : Nat} {code : List LInstr} {ctx : Ctx} {n : Node}
    (hcode : CodeAt P k code) (hbl : ∀ e l, P.blame e l) (h : Sim c P ctx n code) :
    Conforms c P.prog k (lsize code) ctx n := by
  intro s hip hlim hsc r σ' hev
  have hs : noPP (vm k s.stack s.scopes (obs s) c.budget) = noPP s := by
    obtain ⟨st, scs, ip, pp, mem, lim, cr, lg⟩ := s
    simp only at hip hlim
    subst hip hlim
    rfl
  have hrun := (h k s.stack s.scopes (obs s) r σ' hcode hsc hev (fun e l _ _ => hbl e l)).congr_noPP hs
  cases r with
  | ok v =>
    obtain ⟨t, ht, htt⟩ := hrun
    refine ⟨t, ht, ?_⟩
    have e1 := congrArg VM.ip htt
    have e2 := congrArg VM.stack htt
    have e3 := congrArg VM.scopes htt
    have e4 := congrArg VM.limit htt
    have e5 := congrArg obs htt
    exact ⟨e1, e2, e3, e4.trans hlim.symm, e5⟩
  | error e =>
    obtain ⟨s1, s2, h1, h2, h3, h4, _⟩ := hrun
    exact ⟨s1, s2, h1, h2, h3, h4⟩

/-- Full strength: only well-formedness of the tree (`Good`: pair nodes exactly inside map literals, loop
    collections of fewer than 2^63 elements) and `EnvOK` (a `mapEnv` compilation runs on a map). -/
def compile_correct_goal : Prop :=
  ∀ (n : Node) (cfg : CompCfg) (code : List LInstr) (pool' : Pool), compileNode cfg n {} = .ok (code, pool') →
  ∀ (P : Prog) (pre post : List LInstr), P.code = (encodeAll ((pre ++ code ++ post).map (·.instr))).toArray →
    PoolExt pool' P.consts →
  ∀ (c : Cfg), EnvOK c cfg → Good (SmallColl c) n → ∀ (ctx : Ctx), Conforms c P (lsize pre) (lsize code) ctx n

def run_conforms_goal : Prop :=
  ∀ (cfg : CompCfg) (n : Node) (cp : Compiled) (c : Cfg), compileProgram cfg n = .ok cp → EnvOK c cfg →
    Good (SmallColl c) n →
    ∃ N, ∀ fuel, N ≤ fuel → RunAgrees (run c (progOf cp) fuel) (Spec.run (specOf c) cfg.cast n)

/-! The two exclusions of the `…_partial` theorems:
  * `FitsU16 code` — every operand fits 16 bits, the width `Instr.encode` keeps.  Without the compiler's offset guard
    (`cfg.jumpGuard = false`, the code before commit ba2f082) a longer jump is truncated (finding
    `c05:jump-offset-truncated`); with it the hypothesis follows for whole programs (`run_conforms_guarded`);
  * `AliasFree F` with `FloatsIn F n` (and `PoolInv F pool` for a non-empty initial pool) — `makeConstant`
    de-duplicates through a Go map keyed by the constant, i.e. compares float constants with `==`: two
    *different* float constants of one program that are `==` (`+0.0` and `-0.0`) share one pool slot.
    `F` is any set of values containing the tree's float constants on which the key equality is exact. -/

private theorem compile_conforms {n : Node} {cfg : CompCfg} {pool pool' : Pool} {code : List LInstr} {F : Val → Prop}
    (hc : compileNode cfg n pool = .ok (code, pool')) (hF : AliasFree F) (hinv : PoolInv F pool) (hfl : FloatsIn F n)
    {P : Prog} {pre post : List LInstr} (hP : P.code = (encodeAll ((pre ++ code ++ post).map (·.instr))).toArray)
    (hK : PoolExt pool' P.consts) (hfit : FitsU16 code) {c : Cfg} (henv : EnvOK c cfg) {loops : Node → Prop}
    (hloop : ∀ L : LProg, LoopCase c L loops) (hg : Good loops n) (ctx : Ctx) :
    Conforms c P (lsize pre) (lsize code) ctx n :=
  conforms_of_sim (P := ⟨P, pre ++ code ++ post, hP, fun _ _ => True⟩) (codeAt_of_layout rfl hfit) (fun _ _ => trivial)
    (compile_sim hc hF hinv hfl hg hK henv (hloop _) ctx)

theorem compile_correct_partial (n : Node) : ∀ (cfg : CompCfg) (pool pool' : Pool) (code : List LInstr) (F : Val → Prop),
    compileNode cfg n pool = .ok (code, pool') → AliasFree F → PoolInv F pool → FloatsIn F n →
    ∀ (P : Prog) (pre post : List LInstr), P.code = (encodeAll ((pre ++ code ++ post).map (·.instr))).toArray →
      PoolExt pool' P.consts → FitsU16 code →
    ∀ (c : Cfg), EnvOK c cfg → Good (SmallColl c) n → ∀ (ctx : Ctx), Conforms c P (lsize pre) (lsize code) ctx n := by
  intro cfg pool pool' code F hc hF hinv hfl P pre post hP hK hfit c henv hg ctx
  exact compile_conforms hc hF hinv hfl hP hK hfit henv (loopCase_holds c) hg ctx

/-- C05's stack balance, for every construct: the success case of `Conforms` -/
theorem compile_balanced_partial (n : Node) (cfg : CompCfg) (pool pool' : Pool) (code : List LInstr) (F : Val → Prop)
    (hc : compileNode cfg n pool = .ok (code, pool')) (hF : AliasFree F) (hinv : PoolInv F pool) (hfl : FloatsIn F n)
    (P : Prog) (pre post : List LInstr)
    (hP : P.code = (encodeAll ((pre ++ code ++ post).map (·.instr))).toArray) (hK : PoolExt pool' P.consts)
    (hfit : FitsU16 code) (c : Cfg) (henv : EnvOK c cfg) (hg : Good (SmallColl c) n) (ctx : Ctx) (s : VM)
    (hip : s.ip = lsize pre) (hlim : s.limit = c.budget) (hsc : ScopesOK ctx s.scopes) (v : Val) (σ' : SState)
    (hev : eval (specOf c) ctx n (obs s) = (.ok v, σ')) :
    ∃ t, Steps c P s t ∧ t.ip = lsize pre + lsize code ∧ t.stack.length = s.stack.length + 1 ∧
      t.stack.tail = s.stack ∧ t.scopes = s.scopes := by
  obtain ⟨t, ht, h1, h2, h3, _, _⟩ :=
    compile_correct_partial n cfg pool pool' code F hc hF hinv hfl P pre post hP hK hfit c henv hg ctx s hip hlim hsc _ _ hev
  exact ⟨t, ht, h1, by simp [h2], by simp [h2], h3⟩

/-- whole programs: for enough fuel `run` returns the Spec's result (value or error class), the Spec's
    memory/created/call-log, and on success an empty stack and no open scope; `cast` epilogue included -/
theorem run_conforms_partial (cfg : CompCfg) (n : Node) (cp : Compiled) (F : Val → Prop) (c : Cfg)
    (hc : compileProgram cfg n = .ok cp) (hF : AliasFree F) (hfl : FloatsIn F n) (hfit : FitsU16 cp.code)
    (henv : EnvOK c cfg) (hg : Good (SmallColl c) n) :
    ∃ N, ∀ fuel, N ≤ fuel → RunAgrees (run c (progOf cp) fuel) (Spec.run (specOf c) cfg.cast n) :=
  run_conforms_gen hc hF hfl hg hfit henv (loopCase_holds c _)

/-- the hypotheses are satisfiable: `all(1..3, {# > 0 and I == 1})`, in every world, environment and budget -/
example (c : Cfg) : ∃ N, ∀ fuel, N ≤ fuel →
    RunAgrees (run c (progOf exCompiled) fuel) (Spec.run (specOf c) none exTree) :=
  run_conforms_partial {} exTree exCompiled (fun _ => False) c ex_compiles (fun _ _ h => h.elim) ex_floats
    ex_fits (fun h => by cases h) (ex_good c)

example (c : Cfg) (ctx : Ctx) : Conforms c (progOf exCompiled) 0 (lsize exCompiled.code) ctx exTree := by
  have hc : compileNode {} exTree {} = .ok (exCompiled.code, ⟨exCompiled.consts, []⟩) := rfl
  exact compile_correct_partial exTree {} {} _ _ (fun _ => False) hc (fun _ _ h => h.elim)
    (PoolInv.empty _) ex_floats (progOf exCompiled) [] []
    (by simp [progOf, Compiled.bytes]) (PoolExt.refl _) ex_fits c (fun h => by cases h) (ex_good c) ctx

/-- The float hypotheses as one computable check on the tree: `floatsOK n` — float constants arise from float
    literals only (no float `ConstantNode`, no float-typed integer literal), and no two literals with different
    bit patterns are `==` (not `0.0` together with `-0.0`). -/
theorem run_conforms_checked (cfg : CompCfg) (n : Node) (cp : Compiled) (c : Cfg)
    (hc : compileProgram cfg n = .ok cp) (hfl : floatsOK n = true) (hfit : FitsU16 cp.code)
    (henv : EnvOK c cfg) (hg : Good (SmallColl c) n) :
    ∃ N, ∀ fuel, N ≤ fuel → RunAgrees (run c (progOf cp) fuel) (Spec.run (specOf c) cfg.cast n) :=
  run_conforms_partial cfg n cp _ c hc (floatsOK_spec hfl).1 (floatsOK_spec hfl).2 hfit henv hg

example : floatsOK exTree = true := ex_floatsOK

/-! Why `AliasFree` is there: known finding `c01:negative-zero-constant-aliased` (exhibited on the real code by
harness/c01.go: a ConstExpr function returning `-0.0` next to a literal `0.0`).  Lean's `Float` operations are opaque
to the kernel, so the IEEE fact `0.0 == -0.0` enters as the hypothesis `(a == b) = true`: whenever it holds the
compiled program pushes constant 0 twice — the run yields `[a, a]` — while the language definition yields `[a, b]`. -/

/-- `[a, b]`, two float constants as a ConstExpr function leaves them -/
def twoFloats (a b : Float) : Node := .array {} [.const {} (.f64 a), .const {} (.f64 b)]

theorem negzero_alias_witness (a b : Float) (hab : (a == b) = true) :
    compileProgram {} (twoFloats a b) =
      .ok ⟨[li {} .push 0, li {} .push 0, li {} .push 1, li {} .array], #[.f64 a, .int .int 2]⟩ ∧
    ∀ sc : SCfg, 2 < sc.budget → (Spec.run sc none (twoFloats a b)).1 = .ok (.arr .iface [.f64 a, .f64 b]) := by
  constructor
  · have h1 : mkConst (.f64 a) {} = .ok (0, ⟨#[.f64 a], []⟩) := rfl
    have h2 : mkConst (.f64 b) ⟨#[.f64 a], []⟩ = .ok (0, ⟨#[.f64 a], []⟩) := by
      simp [mkConst, hashable, Pool.findIdx, constKeyEq, hab, List.range, List.range.loop]
    have h3 : mkConst (.int .int 2) ⟨#[.f64 a], []⟩ = .ok (1, ⟨#[.f64 a, .int .int 2], []⟩) := by
      simp [mkConst, hashable, Pool.findIdx, constKeyEq, List.range, List.range.loop]
    simp [compileProgram, twoFloats, compileNode_array, compileList_cons, compileList_nil, compileNode_const, h1, h2, h3,
      bind, Except.bind, pure, Except.pure]
  · intro sc hb
    have he : eval sc [] (twoFloats a b) {} =
        (.ok (.arr .iface [.f64 a, .f64 b]), ⟨2, 2, []⟩) := by
      unfold twoFloats
      rw [eval_array, SM.bind_apply, evalList_cons _ _ _ _ rfl, SM.bind_apply, eval_const, Spec.SM.pure_apply]
      simp only []
      rw [SM.bind_apply, evalList_cons _ _ _ _ rfl, SM.bind_apply, eval_const, Spec.SM.pure_apply]
      simp only []
      rw [SM.bind_apply, evalList_nil, Spec.SM.pure_apply]
      simp only [Spec.SM.pure_apply]
      have := alloc_tail sc.budget 2 (.arr .iface [.f64 a, .f64 b]) {}
      simp only [List.length_cons, List.length_nil] at this ⊢
      rw [this]
      have hlt : ¬ ((allocd {} ((2 : Nat) : Int) 2).memory ≥ sc.budget) := by
        show ¬ ((0 : Int) + ((2 : Nat) : Int) ≥ sc.budget)
        omega
      rw [if_neg hlt]
      rfl
    rw [Spec.run_eq, he]
    rfl

theorem negzero_not_aliasfree (a b : Float) (hab : (a == b) = true) (hne : a ≠ b) (F : Val → Prop)
    (ha : F (.f64 a)) (hb : F (.f64 b)) : ¬ AliasFree F := by
  intro hF
  have := hF (.f64 a) (.f64 b) ha hb (by simpa [constKeyEq] using hab)
  exact hne (by injection this)

/-- the property as stated: the language definition's value, or a failure of the same class -/
theorem run_result_partial (cfg : CompCfg) (n : Node) (cp : Compiled) (F : Val → Prop) (c : Cfg)
    (hc : compileProgram cfg n = .ok cp) (hF : AliasFree F) (hfl : FloatsIn F n) (hfit : FitsU16 cp.code)
    (henv : EnvOK c cfg) (hg : Good (SmallColl c) n) :
    ∃ N, ∀ fuel, N ≤ fuel → (run c (progOf cp) fuel).1 = (Spec.run (specOf c) cfg.cast n).1 :=
  let ⟨N, h⟩ := run_conforms_partial cfg n cp F c hc hF hfl hfit henv hg
  ⟨N, fun fuel hf => (h fuel hf).1⟩

/-! Trees without loop builtins: no size hypothesis on collections. -/

theorem compile_correct_stageA (n : Node) : ∀ (cfg : CompCfg) (pool pool' : Pool) (code : List LInstr) (F : Val → Prop),
    compileNode cfg n pool = .ok (code, pool') → AliasFree F → PoolInv F pool → FloatsIn F n → Good (fun _ => False) n →
    ∀ (P : Prog) (pre post : List LInstr), P.code = (encodeAll ((pre ++ code ++ post).map (·.instr))).toArray →
      PoolExt pool' P.consts → FitsU16 code →
    ∀ (c : Cfg), EnvOK c cfg → ∀ (ctx : Ctx), Conforms c P (lsize pre) (lsize code) ctx n := by
  intro cfg pool pool' code F hc hF hinv hfl hg P pre post hP hK hfit c henv ctx
  exact compile_conforms hc hF hinv hfl hP hK hfit henv (loopCase_none c) hg ctx

theorem run_conforms_stageA (cfg : CompCfg) (n : Node) (cp : Compiled) (F : Val → Prop) (c : Cfg)
    (hc : compileProgram cfg n = .ok cp) (hF : AliasFree F) (hfl : FloatsIn F n) (hg : Good (fun _ => False) n)
    (hfit : FitsU16 cp.code) (henv : EnvOK c cfg) :
    ∃ N, ∀ fuel, N ≤ fuel → RunAgrees (run c (progOf cp) fuel) (Spec.run (specOf c) cfg.cast n) :=
  run_conforms_gen hc hF hfl hg hfit henv (loopCase_none c _)

example (c : Cfg) : ∃ N, ∀ fuel, N ≤ fuel →
    RunAgrees (run c (progOf exCompiledA) fuel) (Spec.run (specOf c) none exTreeA) :=
  run_conforms_stageA {} exTreeA exCompiledA (fun _ => False) c exA_compiles (fun _ _ h => h.elim) exA_floats
    exA_good exA_fits (fun h => by cases h)

/-! C05: a compiled program never pops an empty stack and never runs off its code.
`Benign e`: `e` is one of the language's own failure classes (type, index, divzero, budget, call).  The VM
model has three more — `underflow` (pop of an empty stack, missing scope), `badop` (unknown opcode, operand or
jump outside the program) and `fuel` — and a run of a compiled program never ends in one of them: the run
fails exactly when the language definition does, and the definition has no such failure (`eval_fails`).
`WorldOK`: environment functions themselves fail with a language class (a panic inside one is `call`). -/

theorem spec_run_benign (cfg : CompCfg) (n : Node) (cp : Compiled) (c : Cfg)
    (hc : compileProgram cfg n = .ok cp) (hfl : floatsOK n = true) (hg : Good (SmallColl c) n)
    (hw : WorldOK c.world) : ∀ e, (Spec.run (specOf c) cfg.cast n).1 = .error e → Benign e := by
  obtain ⟨code, p, hcn, _⟩ := compileProgram_ok hc
  have hcomp := (compile_compiles cfg _ (floatsOK_spec hfl).1 n {} code p hcn (PoolInv.empty _) (floatsOK_spec hfl).2).comp
    p.consts (PoolExt.refl p)
  exact run_errsIn (eval_fails (.ofWorldOK hw) n [] (.inr ⟨code, hcomp⟩) hg) fun t v => (lib_castV t v).benign

theorem no_underflow (cfg : CompCfg) (n : Node) (cp : Compiled) (c : Cfg)
    (hc : compileProgram cfg n = .ok cp) (hfl : floatsOK n = true) (hfit : FitsU16 cp.code)
    (henv : EnvOK c cfg) (hg : Good (SmallColl c) n) (hw : WorldOK c.world) :
    ∃ N, ∀ fuel, N ≤ fuel → ∀ e, (run c (progOf cp) fuel).1 = .error e →
      Benign e ∧ e ≠ .underflow ∧ e ≠ .badop ∧ e ≠ .fuel := by
  obtain ⟨N, hN⟩ := run_conforms_checked cfg n cp c hc hfl hfit henv hg
  refine ⟨N, fun fuel hf e he => ?_⟩
  have hb := spec_run_benign cfg n cp c hc hfl hg hw e (by rw [← (hN fuel hf).1]; exact he)
  refine ⟨hb, ?_, ?_, ?_⟩ <;> (rintro rfl; rcases hb with h | h | h | h | h <;> cases h)

example : WorldOK { call := fun id _ => if id == "Fail" then .error .call else .ok .nil,
                    regexMatch := fun _ _ => none, pow := fun a _ => a } := by
  intro id args e h
  dsimp only at h
  split at h <;> cases h
  exact .inr (.inr (.inr (.inr rfl)))

example (c : Cfg) (hw : WorldOK c.world) : ∃ N, ∀ fuel, N ≤ fuel → ∀ e, (run c (progOf exCompiled) fuel).1 = .error e →
    Benign e ∧ e ≠ .underflow ∧ e ≠ .badop ∧ e ≠ .fuel :=
  no_underflow {} exTree exCompiled c ex_compiles ex_floatsOK ex_fits (fun h => by cases h) (ex_good c) hw

/-! `expr.Eval`: `Api.evalSource` = lexer model, parser model, `compileProgram F.compCfg` (no types, no optimiser),
`run`.  Whenever the text lexes and parses (to `n`) and `n` compiles, evaluating the source is evaluating `n` by the
language definition — under the exclusions of `run_conforms_checked`, all but `SmallColl` decidable on the parsed
tree / compiled program. -/

theorem eval_source_conforms (F : Api.Front) (c : Cfg) (src : String) (ts : List Token) (n : Node) (cp : Compiled)
    (hlex : Lex.lex F.cc F.tables src = .ok ts) (hparse : Parser.parse F.pcfg ts = .ok n)
    (hcomp : compileProgram F.compCfg n = .ok cp) (hfl : floatsOK n = true) (hfit : FitsU16 cp.code)
    (hg : Good (SmallColl c) n) :
    ∃ N, ∀ fuel, N ≤ fuel → ∃ res final, Api.evalSource F c fuel src = .ran res final ∧
      RunAgrees (res, final) (Spec.run (specOf c) none n) := by
  obtain ⟨N, hN⟩ := run_conforms_checked F.compCfg n cp c hcomp hfl hfit (fun h => by cases h) hg
  refine ⟨N, fun fuel hf => ⟨_, _, ?_, hN fuel hf⟩⟩
  simp only [Api.evalSource, hlex, hparse, hcomp]
  rfl

/-- the failing stages are reported as such, in order -/
theorem eval_source_stages (F : Api.Front) (c : Cfg) (fuel : Nat) (src : String) :
    (∀ e, Lex.lex F.cc F.tables src = .error e → Api.evalSource F c fuel src = .lexError e) ∧
    (∀ ts e, Lex.lex F.cc F.tables src = .ok ts → Parser.parse F.pcfg ts = .error e →
      Api.evalSource F c fuel src = .parseError e) ∧
    (∀ ts n e, Lex.lex F.cc F.tables src = .ok ts → Parser.parse F.pcfg ts = .ok n → compileProgram F.compCfg n = .error e →
      Api.evalSource F c fuel src = .compileError e) := by
  refine ⟨fun e h => ?_, fun ts e h1 h2 => ?_, fun ts n e h1 h2 h3 => ?_⟩ <;> simp only [Api.evalSource, *]

/-! With the compiler's offset guard (regenerated fact `Gen.jumpGuard`, which the driver hands to the model) every
program the compiler returns has all operands below 65536 (`Refine.fitsU16_of_guard`: constant indices by the pool
limit, jump offsets by the guard), and the `FitsU16` hypothesis follows. -/

theorem run_conforms_guarded (cfg : CompCfg) (hcfg : Bc.CompCfgOk cfg) (hguard : cfg.jumpGuard = true) (n : Node)
    (cp : Compiled) (c : Cfg) (hc : compileProgram cfg n = .ok cp) (hfl : floatsOK n = true)
    (henv : EnvOK c cfg) (hg : Good (SmallColl c) n) :
    ∃ N, ∀ fuel, N ≤ fuel → RunAgrees (run c (progOf cp) fuel) (Spec.run (specOf c) cfg.cast n) :=
  run_conforms_checked cfg n cp c hc hfl (fitsU16_of_guard cfg hcfg hguard n cp hc) henv hg

/-- `expr.Eval` with the guard: left are `floatsOK` (no literal pair ±0.0, the listed finding) and `Good` (tree
    shape; collection sizes below 2^63). -/
theorem eval_source_conforms_guarded (F : Api.Front) (hguard : F.jumpGuard = true) (c : Cfg) (src : String)
    (ts : List Token) (n : Node) (cp : Compiled)
    (hlex : Lex.lex F.cc F.tables src = .ok ts) (hparse : Parser.parse F.pcfg ts = .ok n)
    (hcomp : compileProgram F.compCfg n = .ok cp) (hfl : floatsOK n = true) (hg : Good (SmallColl c) n) :
    ∃ N, ∀ fuel, N ≤ fuel → ∃ res final, Api.evalSource F c fuel src = .ran res final ∧
      RunAgrees (res, final) (Spec.run (specOf c) none n) :=
  eval_source_conforms F c src ts n cp hlex hparse hcomp hfl
    (fitsU16_of_guard F.compCfg (fun t h => by cases h) hguard n cp hcomp) hg

/-! `expr.Compile` + `expr.Run` with a typed environment: `Api.compileSource` = `Config.Check`, lexer, parser, checker,
`PatchOperators`, checker again, optimizer (when on), compiler with `MapEnv` and the result directive;
`Api.runSource` adds `run`.  Compared stage by stage and end to end with the real
`expr.Compile(src, Env(env), Optimize(..), As…)` + `expr.Run` (harness/c01.go `CompileSourceCorrespondence`;
operators: the empty table, where `patchOperators` is the identity by definition). -/

theorem middle_ok_inv {T : Api.TypedCfg} {w : World} {n : Node} {cp : Compiled} {checked final : Node}
    (h : Api.middle T w n = .ok cp checked final) :
    ∃ n1 t1 n2 t3, check T.check n = .ok n1 t1 ∧ patchOperators T.walkTbl T.opTable T.tyOf n1 = some n2 ∧
      check T.check n2 = .ok checked t3 ∧
      (if T.optimize then Opt.optimize T.optFlags T.constFns w checked else .ok checked) = .ok final ∧
      compileProgram T.compCfg final = .ok cp := by
  unfold Api.middle at h
  split at h
  · cases h
  · cases h
  · rename_i n1 t1 h1
    split at h
    · cases h
    · rename_i n2 h2
      split at h
      · cases h
      · cases h
      · rename_i n3 t3 h3
        dsimp only at h
        split at h
        · cases h
        · rename_i n4 h4
          split at h
          · cases h
          · rename_i cp' h5
            cases h
            exact ⟨n1, t1, n2, t3, h1, h2, h3, h4, h5⟩

theorem compileSource_ok_inv {F : Api.Front} {T : Api.TypedCfg} {w : World} {src : String} {cp : Compiled}
    {checked final : Node} (h : Api.compileSource F T w src = .ok cp checked final) :
    configCheck T.fnTags T.operators = .ok ∧
    ∃ ts n n1 t1 n2 t3, Lex.lex F.cc F.tables src = .ok ts ∧ Parser.parse F.pcfg ts = .ok n ∧
      check T.check n = .ok n1 t1 ∧ patchOperators T.walkTbl T.opTable T.tyOf n1 = some n2 ∧
      check T.check n2 = .ok checked t3 ∧
      (if T.optimize then Opt.optimize T.optFlags T.constFns w checked else .ok checked) = .ok final ∧
      compileProgram T.compCfg final = .ok cp := by
  unfold Api.compileSource at h
  split at h
  · rename_i hcc
    refine ⟨hcc, ?_⟩
    split at h
    · cases h
    · rename_i ts hl
      split at h
      · cases h
      · rename_i n hp
        obtain ⟨n1, t1, n2, t3, hm⟩ := middle_ok_inv h
        exact ⟨ts, n, n1, t1, n2, t3, hl, hp, hm⟩
  · cases h

/-- If every stage of `expr.Compile` succeeds, the run of the compiled program agrees with the language definition
    on `final`, the checked-and-optimised tree handed to the compiler, under the result directive.  The hypotheses
    are about `final` / the compiled program and all but `SmallColl` computable; `EnvOK`: with `MapEnv` the
    run-time environment is a map. -/
theorem middle_conforms (T : Api.TypedCfg) (c : Cfg) (n : Node) (cp : Compiled) (checked final : Node)
    (h : Api.middle T c.world n = .ok cp checked final)
    (hfl : floatsOK final = true) (hfit : FitsU16 cp.code) (henv : EnvOK c T.compCfg)
    (hg : Good (SmallColl c) final) :
    ∃ N, ∀ fuel, N ≤ fuel →
      RunAgrees (run c (Api.progOfCompiled cp) fuel) (Spec.run (specOf c) (Api.castOf T.check.expect) final) := by
  obtain ⟨_, _, _, _, _, _, _, _, hcomp⟩ := middle_ok_inv h
  exact run_conforms_checked T.compCfg final cp c hcomp hfl hfit henv hg

/-- the hypotheses are satisfiable: `struct { I int; B bool }`, `AsBool`, optimizer on, the tree of
    `I in 1..3 and not B` — checked, rewritten by `in_range` to `I >= 1 and I <= 3 and not B`, compiled -/
example (c : Cfg) (hw : c.world = w0) : ∃ N, ∀ fuel, N ≤ fuel →
    RunAgrees (run c (Api.progOfCompiled (exTyped w0).1) fuel) (Spec.run (specOf c) none exFinal) := by
  have hok : Api.middle exT c.world exParsed = .ok (exTyped w0).1 (exTyped w0).2.1 (exTyped w0).2.2 := by
    rw [hw]; exact exTyped_ok
  have hg : Good (SmallColl c) (exTyped w0).2.2 := by rw [exTyped_final]; exact exFinal_good _
  have h := middle_conforms exT c exParsed _ _ _ hok exTyped_floats exTyped_fits (fun h => by cases h) hg
  rw [exTyped_final] at h
  exact h

theorem compile_source_conforms (F : Api.Front) (T : Api.TypedCfg) (c : Cfg) (src : String) (cp : Compiled)
    (checked final : Node) (h : Api.compileSource F T c.world src = .ok cp checked final)
    (hfl : floatsOK final = true) (hfit : FitsU16 cp.code) (henv : EnvOK c T.compCfg)
    (hg : Good (SmallColl c) final) :
    ∃ N, ∀ fuel, N ≤ fuel → ∃ res fin, Api.runSource F T c fuel src = .ran cp res fin ∧
      RunAgrees (res, fin) (Spec.run (specOf c) (Api.castOf T.check.expect) final) := by
  obtain ⟨_, ts, n, n1, t1, n2, t3, _, _, _, _, _, _, hcomp⟩ := compileSource_ok_inv h
  obtain ⟨N, hN⟩ := run_conforms_checked T.compCfg final cp c hcomp hfl hfit henv hg
  refine ⟨N, fun fuel hf => ⟨_, _, ?_, hN fuel hf⟩⟩
  simp only [Api.runSource, h]
  rfl

/-- `compile_source_conforms` with the offset guard: no `FitsU16` hypothesis -/
theorem compile_source_conforms_guarded (F : Api.Front) (T : Api.TypedCfg) (hguard : T.jumpGuard = true) (c : Cfg)
    (src : String) (cp : Compiled) (checked final : Node)
    (h : Api.compileSource F T c.world src = .ok cp checked final)
    (hfl : floatsOK final = true) (henv : EnvOK c T.compCfg) (hg : Good (SmallColl c) final) :
    ∃ N, ∀ fuel, N ≤ fuel → ∃ res fin, Api.runSource F T c fuel src = .ran cp res fin ∧
      RunAgrees (res, fin) (Spec.run (specOf c) (Api.castOf T.check.expect) final) := by
  obtain ⟨_, ts, n, n1, t1, n2, t3, _, _, _, _, _, _, hcomp⟩ := compileSource_ok_inv h
  exact compile_source_conforms F T c src cp checked final h hfl
    (fitsU16_of_guard T.compCfg T.compCfgOk hguard final cp hcomp) henv hg

/-- Through C02, agreement with the language definition on `checked`, the tree the checker accepted (annotated,
    not yet optimised) — for the optimizer at /repo's snapshot (`Flags.asIs`), under C02's hypotheses: `g` selects
    rewrite sites at which the guards `GuardNow` hold, the optimizer rewrote nowhere else (`hrun`), constant
    regexps are string literals (`reOK`); nothing is claimed when the run of `checked` exceeds the memory budget
    (the optimised tree allocates less).  What relates `checked` to the parsed tree is C03 / C15. -/
theorem compile_source_conforms_checked (F : Api.Front) (T : Api.TypedCfg) (c : Cfg) (src : String) (cp : Compiled)
    (checked final : Node) (h : Api.compileSource F T c.world src = .ok cp checked final)
    (hfl : floatsOK final = true) (hfit : FitsU16 cp.code) (henv : EnvOK c T.compCfg)
    (hg : Good (SmallColl c) final)
    (hflags : T.optFlags = Opt.Flags.asIs) (g : Opt.Guard)
    (hguard : ∀ p N, g p N = true → C02.GuardNow (specOf c) T.constFns p N) (hre : OptProofs.reOK checked = true)
    (hrun : Opt.optimizeWith g Opt.Flags.asIs T.constFns c.world checked =
      Opt.optimize Opt.Flags.asIs T.constFns c.world checked) :
    ∃ N, ∀ fuel, N ≤ fuel → ∃ res fin, Api.runSource F T c fuel src = .ran cp res fin ∧
      ((Spec.run (specOf c) (Api.castOf T.check.expect) checked).1 = .error .budget ∨
       res = (Spec.run (specOf c) (Api.castOf T.check.expect) checked).1) := by
  obtain ⟨N, hN⟩ := compile_source_conforms F T c src cp checked final h hfl hfit henv hg
  obtain ⟨_, ts, n, n1, t1, n2, t3, _, _, _, _, _, hopt, _⟩ := compileSource_ok_inv h
  refine ⟨N, fun fuel hf => ?_⟩
  obtain ⟨res, fin, hr, hagree⟩ := hN fuel hf
  refine ⟨res, fin, hr, ?_⟩
  have hres : res = (Spec.run (specOf c) (Api.castOf T.check.expect) final).1 := hagree.1
  by_cases ho : T.optimize = true
  · rw [if_pos ho, hflags] at hopt
    rcases C02.optimize_transparent_asIs_partial (c := specOf c) T.constFns g hguard checked final hre hrun hopt
      (Api.castOf T.check.expect) with hb | he
    · exact .inl hb
    · exact .inr (hres.trans he)
  · rw [if_neg ho] at hopt
    cases hopt
    exact .inr hres

/-- the stages fail in order, each reported as such -/
theorem compile_source_stages (F : Api.Front) (T : Api.TypedCfg) (w : World) (src : String) :
    (∀ r, configCheck T.fnTags T.operators = r → r ≠ .ok → Api.compileSource F T w src = .configError r) ∧
    (configCheck T.fnTags T.operators = .ok →
      (∀ e, Lex.lex F.cc F.tables src = .error e → Api.compileSource F T w src = .lexError e) ∧
      (∀ ts e, Lex.lex F.cc F.tables src = .ok ts → Parser.parse F.pcfg ts = .error e →
        Api.compileSource F T w src = .parseError e) ∧
      (∀ ts n, Lex.lex F.cc F.tables src = .ok ts → Parser.parse F.pcfg ts = .ok n →
        Api.compileSource F T w src = Api.middle T w n)) ∧
    (∀ n loc cl n', check T.check n = .error loc cl n' → Api.middle T w n = .checkError loc cl) ∧
    (∀ n n1 t1 n2 loc cl n', check T.check n = .ok n1 t1 → patchOperators T.walkTbl T.opTable T.tyOf n1 = some n2 →
      check T.check n2 = .error loc cl n' → Api.middle T w n = .checkError loc cl) ∧
    (∀ n n1 t1 n2 n3 t3 loc, check T.check n = .ok n1 t1 → patchOperators T.walkTbl T.opTable T.tyOf n1 = some n2 →
      check T.check n2 = .ok n3 t3 → T.optimize = true → Opt.optimize T.optFlags T.constFns w n3 = .error loc →
      Api.middle T w n = .optimizeError loc) := by
  refine ⟨fun r hr hne => ?_, fun hc => ⟨fun e h => ?_, fun ts e h1 h2 => ?_, fun ts n h1 h2 => ?_⟩,
    fun n loc cl n' h => ?_, fun n n1 t1 n2 loc cl n' h1 h2 h3 => ?_, fun n n1 t1 n2 n3 t3 loc h1 h2 h3 ho h4 => ?_⟩
  · unfold Api.compileSource
    rw [hr]
    cases r <;> first | exact absurd rfl hne | rfl
  · simp only [Api.compileSource, hc, h]
  · simp only [Api.compileSource, hc, h1, h2]
  · simp only [Api.compileSource, hc, h1, h2]
  · simp only [Api.middle, h]
  · simp only [Api.middle, h1, h2, h3]
  · simp only [Api.middle, h1, h2, h3, ho, if_true, h4]

/-! `Val.tmap zero isNil kvs` is a `map[string]T` for `T` other than `interface{}`.  The refinement theorems do not
depend on the shape of the values (member access, `in`, `len`, `==` are the same run-time functions `fetchV`, `inV`,
`lengthV`, `equalV` on both sides), so they cover typed maps.  What the run-time library does with them — checked
against `vm/runtime.go` by the correspondence over the members `MI`, `MS`, `MN` of the harness environment: -/

/-- `fetch`: a missing key reads as `reflect.Zero(v.Type().Elem())`, nil-safe or not, nil map or not
    (`MI.nope + 1 == 1`, `MS["nope"] + "x" == "x"`) — not as `nil`, as for `map[string]interface{}` -/
theorem typed_map_missing_key_zero (z : Val) (isNil : Bool) (kvs : List (String × Val)) (k : String) (nilsafe : Bool)
    (h : lookupKv k kvs = none) : fetchV (.tmap z isNil kvs) (.str k) nilsafe = .ok z := by
  simp [fetchV, h]

theorem typed_map_present_key (z v : Val) (isNil : Bool) (kvs : List (String × Val)) (k : String) (nilsafe : Bool)
    (h : lookupKv k kvs = some v) : fetchV (.tmap z isNil kvs) (.str k) nilsafe = .ok v := by
  simp [fetchV, h]

/-- `in` and `len` look at the entries only; a key that is not a string is a `reflect` panic -/
theorem typed_map_in_len (z : Val) (isNil : Bool) (kvs : List (String × Val)) (k : String) :
    inV (.str k) (.tmap z isNil kvs) = .ok (lookupKv k kvs).isSome ∧
    inV (.int .int 1) (.tmap z isNil kvs) = .error .type_ ∧ inV .nil (.tmap z isNil kvs) = .error .type_ ∧
    fetchV (.tmap z isNil kvs) (.int .int 1) false = .error .type_ ∧
    lengthV (.tmap z isNil kvs) = .ok kvs.length :=
  ⟨rfl, rfl, rfl, rfl, rfl⟩

/-- `==`: the nil map equals `nil` (`runtime.isNil`), the empty one does not, and neither equals a
    `map[string]interface{}` with the same entries (`reflect.DeepEqual` compares the types) -/
theorem typed_map_equal (z : Val) (kvs : List (String × Val)) :
    equalV (.tmap z true kvs) .nil = true ∧ equalV .nil (.tmap z true kvs) = true ∧
    equalV (.tmap z false kvs) .nil = false ∧ equalV (.tmap z false kvs) (.map kvs) = false ∧
    equalV (.tmap z true []) (.tmap z false []) = false :=
  ⟨rfl, rfl, rfl, rfl, by simp [equalV, refSem, armTypeOf, Val.isNilRef, Val.deepEq]⟩

/-- `MI.nope + 1` over `MI : map[string]int{"a": 1}`: compiled run and language definition agree on 1 -/
example :
    let w : World := { call := fun _ _ => .ok .nil, regexMatch := fun _ _ => none, pow := fun a _ => a }
    let c : Cfg := { world := w, env := .struct "Env" true [("MI", .tmap (.int .int 0) false [("a", .int .int 1)])],
                     budget := 1000, defects := Defects.none }
    let tree : Node := .binary {} "+" (.prop {} (.ident {} "MI" false) "nope" false) (.int {} 1)
    (match compileProgram {} tree with
     | .ok cp =>
       (match (run c (Refine.progOf cp) 50).1, (Spec.eval (Refine.specOf c) [] tree {}).1 with
        | .ok (.int .int 1), .ok (.int .int 1) => true | _, _ => false)
     | .error _ => false) = true := by decide

end ExprModel.C01
