import ExprModel.Proofs.WritesFacts
import ExprModel.VM.Interleave
/-
C08 — A compiled program can be run concurrently.  Claimed as partial (see "Outside the model").

Model (`VM/Interleave.lean`): any number of threads, each owning a `Local` state, over one `Shared` value (program,
constants, locations, memory budget, environment; for concurrent Compile: option values and sample environment); a
schedule is an arbitrary list of thread ids; a step may in principle return a changed shared part.  If steps write
nothing shared (`ReadOnly`), every thread ends where it ends when executed alone with the same number of steps.

The content is the tie: that the Go steps really write nothing shared.  `Gen/Writes.lean` is regenerated from /repo's
source on every run by a points-to analysis over vm, compiler, optimizer, checker, conf, ast, parser, lexer, file and
expr, and the theorems from `shared_writes_empty` on are re-checked by the kernel against it.  A cache field on
Program, a write through a constant, a package-level memo, a reflect setter on the environment each change a
generated fact and break a theorem.

Outside the model (why this is partial): the Go memory model itself — that concurrent *reads* of memory nobody writes
are well-defined is Go's guarantee, not proved here; the race detector (used by the harness as validation of the
analysis, not as proof); internals of the standard library that synchronise their own caches (regexp's machine pool,
reflect's type caches, strings.Replacer's sync.Once); user-supplied functions, methods and visitors, which must
themselves be safe for concurrent use.
-/
namespace ExprModel.C08
open ExprModel ExprModel.Interleave

section machine
variable {Shared Local : Type} (step : Shared → Local → Shared × Local)

private theorem runAll_spec (h : ReadOnly step) :
    ∀ (sched : List Nat) (g : Shared × Locals Local),
      (runAll step sched g).1 = g.1 ∧
      ∀ i, (runAll step sched g).2 i = runAlone step g.1 (steps i sched) (g.2 i)
  | [], g => ⟨rfl, fun _ => rfl⟩
  | j :: rest, g => by
    have hs : (stepThread step g j).1 = g.1 := h g.1 (g.2 j)
    obtain ⟨ih1, ih2⟩ := runAll_spec h rest (stepThread step g j)
    refine ⟨by simp only [runAll]; rw [ih1, hs], fun i => ?_⟩
    simp only [runAll]
    rw [ih2 i, hs]
    simp only [steps, List.count_cons]
    by_cases e : j = i
    · subst e
      simp only [BEq.rfl, if_true, stepThread, setLocal, runAlone]
    · have e' : (j == i) = false := by simpa using e
      have e'' : ¬ i = j := fun x => e x.symm
      simp only [e', Bool.false_eq_true, if_false, Nat.add_zero, stepThread, setLocal, e'']

theorem shared_unchanged (h : ReadOnly step) (sched : List Nat) (g : Shared × Locals Local) :
    (runAll step sched g).1 = g.1 :=
  (runAll_spec step h sched g).1

/-- For every schedule (any number of threads, any length, any order), the final state of thread `i` is the state it
    reaches executing alone the number of steps the schedule gave it. -/
theorem interleaving_independent (h : ReadOnly step) (sched : List Nat) (g : Shared × Locals Local) (i : Nat) :
    (runAll step sched g).2 i = runAlone step g.1 (steps i sched) (g.2 i) :=
  (runAll_spec step h sched g).2 i

/-- two schedules that give thread `i` the same number of steps leave it in the same state, whatever the other
    threads did in between -/
theorem schedule_irrelevant (h : ReadOnly step) (s₁ s₂ : List Nat) (g : Shared × Locals Local) (i : Nat)
    (hc : steps i s₁ = steps i s₂) : (runAll step s₁ g).2 i = (runAll step s₂ g).2 i := by
  rw [interleaving_independent step h, interleaving_independent step h, hc]

theorem reordering_irrelevant (h : ReadOnly step) {s₁ s₂ : List Nat} (p : s₁.Perm s₂)
    (g : Shared × Locals Local) (i : Nat) : (runAll step s₁ g).2 i = (runAll step s₂ g).2 i :=
  schedule_irrelevant step h s₁ s₂ g i (p.count_eq i)

theorem unscheduled_untouched (h : ReadOnly step) (sched : List Nat) (g : Shared × Locals Local) (i : Nat)
    (hi : i ∉ sched) : (runAll step sched g).2 i = g.2 i := by
  rw [interleaving_independent step h, steps, List.count_eq_zero.2 hi]; rfl

end machine

/-- steps built from a pure transition `Shared → Local → Local` (the shape of `(*VM).Run`'s dispatch loop and
    of a Compile call over shared options) are read-only by construction -/
theorem pureStep_readOnly {Shared Local : Type} (f : Shared → Local → Local) : ReadOnly (pureStep f) :=
  fun _ _ => rfl

/-- concurrent runs / concurrent Compile calls in the pure shape: each returns what it returns alone -/
theorem concurrent_pure_independent {Shared Local : Type} (f : Shared → Local → Local) (sched : List Nat)
    (sh : Shared) (ls : Locals Local) (i : Nat) :
    (runAll (pureStep f) sched (sh, ls)).2 i = runAlone (pureStep f) sh (steps i sched) (ls i) :=
  interleaving_independent _ (pureStep_readOnly f) sched (sh, ls) i

/-- The hypothesis is needed: a step that bumps a shared counter (a "cache" on the program) and reads it
    makes thread 0's result depend on whether thread 1 ran first. -/
theorem race_witness :
    let step : Nat → Nat → Nat × Nat := fun sh l => (sh + 1, l + sh)
    (runAll step [0] (0, fun _ => 0)).2 0 ≠ (runAll step [1, 0] (0, fun _ => 0)).2 0 := by decide

/-- non-vacuity: a `ReadOnly` machine whose shared part is really used -/
example :
    let f : List Nat → Nat → Nat := fun consts ip => ip + consts.length
    (runAll (pureStep f) [2, 0, 1, 0, 2, 2] ([7, 8, 9], fun i => i)).2 2 = 2 + 3 + 3 + 3 := by decide

def badRoot : Gen.Writes.Root → Bool
  | .shared | .pkgvar | .unknown => true
  | _ => false

/-- the write sites that reach memory shared between concurrent callers, a package-level variable, or
    memory the analysis cannot account for -/
def sharedWrites : List Gen.Writes.Site := Gen.Writes.sites.filter fun s => badRoot s.root

/-- The library performs no write to shared state on the Run, Compile and Eval paths: every assignment,
    `++`, indexed store, `append` target, `delete`, `copy`, channel operation and reflect setter writes a
    local variable, memory allocated by the same call, or the VM record owned by the calling goroutine. -/
theorem shared_writes_empty : sharedWrites = [] := by decide +kernel

/-- the analysis saw the code: the three paths reach functions and there are write sites to classify -/
theorem analysis_not_vacuous :
    Gen.Writes.sites.length ≥ 100 ∧ Gen.Writes.localVarWrites ≥ 100 ∧
    Gen.Writes.reachedOnRun ≥ 30 ∧ Gen.Writes.reachedOnCompile ≥ 150 := by decide +kernel

/-- package-level variables are never assigned and never have their address taken anywhere in the library:
    they are read-only after package initialisation -/
theorem package_vars_readonly :
    (Gen.Writes.packageVars.all fun v => !v.2.1 && !v.2.2.1) = true := Gen.Writes.packageVars_never_written

/-- the package-level variables that hold references are the expected immutable tables -/
theorem package_vars_as_expected :
    (Gen.Writes.packageVars.filter fun v => v.2.2.2).map (·.1) =
      ["ast.isCapital", "checker.arrayType", "checker.boolType", "checker.floatType", "checker.integerType",
       "checker.interfaceType", "checker.mapType", "checker.nilType", "checker.stringType",
       "lexer.newlineNormalizer", "parser.binaryOperators", "parser.builtins", "parser.unaryOperators"] :=
  rfl

/-- Standard-library functions that may be handed references into shared memory, each known to only read
    through them (reflect inspectors, fmt formatting, regexp matching — documented safe for concurrent use —,
    strings.Replacer.Replace — internally synchronised).  `(reflect.Value).Call` invokes a user function. -/
def readOnlyExternals : List String :=
  ["(*regexp.Regexp).MatchString", "(*regexp.Regexp).String", "(*strings.Replacer).Replace",
   "(reflect.Type).AssignableTo", "(reflect.Type).Elem", "(reflect.Type).Field", "(reflect.Type).Implements",
   "(reflect.Type).In", "(reflect.Type).IsVariadic", "(reflect.Type).Kind", "(reflect.Type).Method",
   "(reflect.Type).MethodByName", "(reflect.Type).NumField", "(reflect.Type).NumIn", "(reflect.Type).NumMethod",
   "(reflect.Type).NumOut", "(reflect.Type).Out", "(reflect.Type).String", "(reflect.Type).Key",
   "(reflect.Value).Call", "(reflect.Value).CanInterface", "(reflect.Value).Elem", "(reflect.Value).FieldByName",
   "(reflect.Value).Index", "(reflect.Value).Interface", "(reflect.Value).IsNil", "(reflect.Value).IsValid",
   "(reflect.Value).Kind", "(reflect.Value).Len", "(reflect.Value).MapIndex", "(reflect.Value).MapKeys",
   "(reflect.Value).MethodByName", "(reflect.Value).NumMethod", "(reflect.Value).Slice", "(reflect.Value).String",
   "(reflect.Value).Type", "(reflect.Value).Field", "(reflect.Value).NumField",
   "(reflect.Type).FieldByName", "(reflect.Type).FieldByIndex", "(reflect.Type).Name", "(reflect.Type).PkgPath",
   "(reflect.Type).ConvertibleTo", "(reflect.Type).Comparable", "(reflect.Type).Len",
   "(reflect.Value).Convert", "(reflect.Value).CanConvert", "(reflect.Value).FieldByIndex", "(reflect.Value).IsZero",
   "(reflect.Value).Int", "(reflect.Value).Uint", "(reflect.Value).Float", "(reflect.Value).Bool", "(reflect.Value).Cap",
   "(reflect.Value).CanAddr", "(reflect.Value).CanSet", "(reflect.Value).Addr", "reflect.New", "reflect.MakeSlice",
   "reflect.MakeMap", "reflect.MakeMapWithSize",
   "fmt.Errorf", "fmt.Sprintf", "reflect.DeepEqual", "reflect.FuncOf", "reflect.Indirect", "reflect.SliceOf",
   "reflect.TypeOf", "reflect.ValueOf", "reflect.Zero", "regexp.MatchString", "regexp.Compile",
   "strings.Contains", "strings.HasPrefix", "strings.HasSuffix", "strings.Replace"]

/-- every standard-library call that receives a reference from which shared memory is reachable is on the
    read-only list (a `sort.Slice`, `copy`-like helper or reflect mutator on shared data would not be) -/
theorem external_calls_readonly :
    (Gen.Writes.externalSharedCalls.all fun c => readOnlyExternals.contains c.1) = true := by decide +kernel

/-- the places where the library calls code supplied by its user: visitors during Compile, the option
    closures, fast-call functions (other environment functions go through reflect.Value.Call) -/
theorem user_call_sites_as_expected :
    Gen.Writes.userCallSites.map (·.1) =
      ["ast.(*walker).walk: w.visitor.Enter", "ast.(*walker).walk: w.visitor.Exit", "expr.Compile: op",
       "vm.(*VM).Run: fn.(func(...interface{}) interface{})"] := rfl

/-- the only constructors assumed to return unaliased fresh values (the reflect ones take type descriptors and
    sizes only; a reflect setter on a value made by them is a write to memory of this call, any other reflect
    setter is classified by what its receiver denotes and caught by `shared_writes_empty`) -/
theorem fresh_constructors_as_expected :
    (Gen.Writes.assumedFreshConstructors.all fun c =>
      ["fmt.Errorf", "errors.New", "regexp.Compile", "reflect.New", "reflect.Zero", "reflect.MakeSlice", "reflect.MakeMap",
       "reflect.MakeMapWithSize"].contains c) = true := by
  decide +kernel

/-- the library starts no goroutine, uses no select, and imports no sync / atomic / unsafe / time / rand /
    os / runtime package: there is no synchronisation to get wrong and no hidden shared state behind one -/
theorem no_concurrency_primitives :
    Gen.Writes.concurrencyStatements = [] ∧ Gen.Writes.nondetImports = [] :=
  Gen.Writes.no_concurrency_no_nondet_imports

/-- The statement without the `ReadOnly` hypothesis: false in general (`race_witness`); for the Go code the
    hypothesis is supplied by the regenerated facts above, not by a Lean proof about Go itself. -/
def interleaving_independent_goal : Prop :=
  ∀ (step : Nat → Nat → Nat × Nat) (sched : List Nat) (g : Nat × Locals Nat) (i : Nat),
    (runAll step sched g).2 i = runAlone step g.1 (steps i sched) (g.2 i)

theorem interleaving_independent_goal_false : ¬ interleaving_independent_goal := by
  -- both schedules of `race_witness` give thread 0 one step
  intro h
  exact race_witness ((h _ [0] _ 0).trans (h _ [1, 0] _ 0).symm)

end ExprModel.C08
