import ExprModel.Proofs.CheckerSpec
import ExprModel.Proofs.SoundFrag
import ExprModel.Proofs.SoundAsm
import ExprModel.Proofs.SoundEnv
/-
C03 — Static typing is sound and rejects ill-typed expressions.

Model: `Types/Checker.lean` (`check`, the visitor of checker/checker.go clause by clause, with the annotated tree,
first-error-kept state, collection stack, explicit panic outcomes) tied to `checker.Check` by harness/c03.go (verdict, type,
error position and class, annotated tree).  Reference rules: `Types/HasType.lean` (`synth`, compositional;
`HasType`/`WellTyped` = `synth` with the documented rule set `TDefects.repaired`).

Rejection half.  `check_accepts_iff` characterises acceptance completely, so a violated rule is rejected *wherever in the
expression it sits* (`check_rejects`), for the documented rule set.  The code as it is (`TDefects.asIs`) deviates from the
documented rules in four places: witnesses below, harness keys `c03:…`.

Soundness half.  The full statement is given against an abstract evaluator (`check_sound_goal`); against the reference
evaluator `Spec.eval` it is proved on fragments (`inFrag` / `scalarTyped`, Proofs/SoundFrag.lean; `inFrag2` / `typed2`,
Proofs/SoundAsm.lean), for what `vtyOf` / `ValOfV` (Proofs/SoundVal.lean) make of "a value of a static type".
-/
namespace ExprModel.C03
open ExprModel

def expectOk (e : Expect) (τ : OTy) : Prop :=
  match e with
  | .none => True
  | .int64 | .float64 => isNumberT τ = true
  | .bool => τ.kind = .bool

theorem expectTest_none_iff (dt : TDefects) (e : Expect) (τ : OTy) :
    expectTest dt e τ = none ↔ expectOk e τ := by
  unfold expectTest expectOk
  cases e with
  | none => simp
  | int64 => by_cases h : isNumberT τ = true <;> simp [h]
  | float64 => by_cases h : isNumberT τ = true <;> simp [h]
  | bool =>
    cases τ with
    | none => by_cases h : dt.nilKindPanic = true <;> simp [h, OTy.kind]
    | some tt => by_cases h : tt.kind = RKind.bool <;> simp [h, OTy.kind]

theorem good_init : CkGood ({} : CState) := ⟨rfl, rfl⟩

theorem failResult_ne_ok (f : ExpectFail) (n' n'' : Node) (τ : OTy) : f.result n' ≠ .ok n'' τ := by
  cases f <;> simp [ExpectFail.result]

theorem check_ok_iff (cfg : CheckCfg) (n n'' : Node) (τ : OTy) :
    check cfg n = .ok n'' τ ↔
      (visit cfg n {}).1 = n'' ∧ (visit cfg n {}).2.1 = τ ∧ CkGood (visit cfg n {}).2.2 ∧
      expectTest cfg.dt cfg.expect τ = none :=
  check_ok_iff_visit cfg n n'' τ

/-- **Acceptance, completely characterised**: `checker.Check` accepts `n` with type `τ` iff the compositional rules (same rule
flags) give `n` the type `τ` and `τ` satisfies the result directive.  The visitor's state (first error kept, early returns,
the collection stack) neither loses a violation nor invents one. -/
theorem check_accepts_iff (cfg : CheckCfg) (n : Node) (τ : OTy) :
    (∃ n', check cfg n = .ok n' τ) ↔ synth cfg [] n = some τ ∧ expectOk cfg.expect τ := by
  rw [← expectTest_none_iff cfg.dt]
  constructor
  · rintro ⟨n', h⟩
    obtain ⟨hs, _, hx⟩ := (check_ok_iff_annot cfg n n' τ).1 h
    exact ⟨hs, hx⟩
  · rintro ⟨hs, hx⟩
    exact ⟨_, (check_ok_iff_annot cfg n _ τ).2 ⟨hs, rfl, hx⟩⟩

theorem accepted_type_is_synth (cfg : CheckCfg) (n n' : Node) (τ : OTy) (h : check cfg n = .ok n' τ) :
    synth cfg [] n = some τ :=
  ((check_ok_iff_annot cfg n n' τ).1 h).1

/-- **Ill-typed expressions are rejected, wherever the violation sits** (documented rule set): if the
reference rules give `n` no type then `Check` does not accept `n`. -/
theorem check_rejects (cfg : CheckCfg) (n : Node) (hdoc : cfg.dt = .repaired) (hill : ¬ WellTyped cfg n) :
    ∀ n' τ, check cfg n ≠ .ok n' τ := by
  intro n' τ h
  apply hill
  have := accepted_type_is_synth cfg n n' τ h
  refine ⟨τ, ?_⟩
  unfold HasType CheckCfg.reference
  rw [← hdoc]
  exact this

/-- the same for whatever rule flags the code has: ill-typed *by the rules as implemented* ⇒ rejected -/
theorem check_rejects_partial (cfg : CheckCfg) (n : Node) (hill : synth cfg [] n = none) :
    ∀ n' τ, check cfg n ≠ .ok n' τ := by
  intro n' τ h
  rw [accepted_type_is_synth cfg n n' τ h] at hill
  cases hill

/-- conversely a well-typed expression whose type satisfies the result directive is accepted -/
theorem check_accepts (cfg : CheckCfg) (n : Node) (τ : OTy) (hdoc : cfg.dt = .repaired)
    (h : HasType cfg [] n τ) (hx : expectOk cfg.expect τ) : ∃ n', check cfg n = .ok n' τ := by
  apply (check_accepts_iff cfg n τ).2
  refine ⟨?_, hx⟩
  unfold HasType CheckCfg.reference at h
  rw [← hdoc] at h
  exact h

/-- **Result directives at the level of types**: under `AsBool` an accepted expression has a type of
kind exactly bool; under `AsInt64` / `AsFloat64` a numeric (or interface) type — the compiler then
appends the conversion `OpCast`, whose result is exactly int64 / float64 (VM model, C01/C14). -/
theorem as_kind_exact (cfg : CheckCfg) (n n' : Node) (τ : OTy) (h : check cfg n = .ok n' τ) :
    (cfg.expect = .bool → τ.kind = .bool) ∧
    (cfg.expect = .int64 ∨ cfg.expect = .float64 → isNumberT τ = true) := by
  have hx := ((check_accepts_iff cfg n τ).1 ⟨n', h⟩).2
  constructor
  · intro he; rw [he] at hx; exact hx
  · rintro (he | he) <;> rw [he] at hx <;> exact hx

/-- **An error (or a panic) recorded in a sub-visit is never cleared.** -/
theorem error_never_cleared (cfg : CheckCfg) (n : Node) (st : CState) (h : ¬ CkGood st) :
    ¬ CkGood (visit cfg n st).2.2 :=
  (visit_spec cfg n st).2.1 h

theorem colls_balanced (cfg : CheckCfg) (n : Node) (st : CState) : (visit cfg n st).2.2.colls = st.colls :=
  (visit_spec cfg n st).1

/-! Where the code deviates from the documented rules.  `TDefects.asIs` are the rule flags of /repo's current code,
`TDefects.asWas` those of the code before the `fix:` commits listed there.  Witnessed here as statements about `asWas`, and
about `asIs` for the code after the commit: literal retyping to any parameter type (6162013), `AsBool` on the nil type
(b6f8e35), closure with a nil-typed body (106fb38), `in` with an unusable key (e2e7046), slicing of a map (265c5fa), computed
map-literal key of a non-string type (a03872c), type of a conditional (390c455).  Present in /repo (known_findings.json),
witnessed as statements about `asIs`: the loose index rule, the static slice types of `filter` / `map`, retyped non-literal
arguments, `combined` on interface operands. -/

def _root_.ExprModel.CheckResult.okType : CheckResult → Option OTy
  | .ok _ τ => some τ
  | _ => none

def _root_.ExprModel.CheckResult.errClass : CheckResult → Option CheckErrClass
  | .error _ c _ => some c
  | _ => none

def _root_.ExprModel.CheckResult.isPanic : CheckResult → Bool
  | .panic _ => true
  | _ => false

private theorem ok_of_okType {r : CheckResult} {τ : OTy} (h : r.okType = some τ) : ∃ n', r = .ok n' τ := by
  cases r with
  | ok n' σ => cases h; exact ⟨n', rfl⟩
  | error => cases h
  | panic => cases h

private theorem okType_of_ok {r : CheckResult} {n' : Node} {τ σ : OTy} (h : r = .ok n' τ) (ht : r.okType = some σ) :
    τ = σ := by
  rw [h] at ht
  exact Option.some.inj ht

private theorem bool_of_sound {E : ErrClass → Prop} {cfg : CheckCfg} {c : Spec.SCfg} {e : Node}
    (hok : (check cfg e).okType = some boolTy)
    (hs : ∀ n' τ V, check cfg e = .ok n' τ → vtyOf τ = some V → ∀ ctx s,
      match (Spec.eval c ctx n' s).1 with
      | .ok v => ValOfV v V
      | .error e => E e) :
    ∀ n' τ, check cfg e = .ok n' τ → ∀ ctx s,
      match (Spec.eval c ctx n' s).1 with
      | .ok v => ∃ b, v = .bool b
      | .error e => E e := by
  intro n' τ h ctx s
  obtain rfl := okType_of_ok h hok
  exact hs n' _ (.sc .bool) h (by decide) ctx s

def tInt : Ty := .num .int
def fld (n : String) (t : Ty) : Field := .mk n t false true
/-- `struct { Fs func(string) string; MSI map[string]int; Ints []int; I int }` -/
def envTy : Ty := .named "main.E" []
  (.struct [fld "Fs" (.func [.string] false [.string]), fld "MSI" (.map .string tInt), fld "Ints" (.slice tInt),
    fld "I" tInt])

def cfgWith (dt : TDefects) (ex : Expect := .none) : CheckCfg :=
  { types := createTypesTable .asIs id { ty := some envTy }, strict := true, expect := ex, dt := dt }

def ident (n : String) : Node := .ident {} n false
/-- `Fs(1)` -/
def exprFs1 : Node := .func {} "Fs" [.int {} 1] false
/-- `MSI[1]` -/
def exprMsi1 : Node := .index {} (ident "MSI") (.int {} 1)
/-- `Ints["a"]` -/
def exprIntsA : Node := .index {} (ident "Ints") (.str {} "a")
/-- `filter(Ints, {# > 1})` -/
def exprFilter : Node := .builtin {} "filter" [ident "Ints", .closure {} (.binary {} ">" (.pointer {}) (.int {} 1))]
/-- `map(Ints, {nil})` -/
def exprMapNil : Node := .builtin {} "map" [ident "Ints", .closure {} (.nil {})]

/-- `c03:ill-typed-accepted:int-literal-to-non-numeric-param`: the code before 6162013 accepts `Fs(1)` with
`Fs func(string) string`, with type string (the literal is "retyped" to string; the call then fails in `reflect.Call`); by
the documented rules it is ill typed, and the current checker reports the argument. -/
theorem retype_witness :
    (check (cfgWith .asWas) exprFs1).okType = some (some .string) ∧
    ¬ WellTyped (cfgWith .asWas) exprFs1 ∧
    (check (cfgWith .asIs) exprFs1).errClass = some .badArgument := by
  decide +kernel

/-- `c03:ill-typed-accepted:bad-index`: an integer index on a string-keyed map and a string index on a
slice are accepted. -/
theorem loose_index_witness :
    (check (cfgWith .asIs) exprMsi1).okType = some (some tInt) ∧
    (check (cfgWith .asIs) exprIntsA).okType = some (some tInt) ∧
    ¬ WellTyped (cfgWith .asIs) exprMsi1 ∧ ¬ WellTyped (cfgWith .asIs) exprIntsA ∧
    (check (cfgWith .repaired) exprMsi1).errClass = some .badIndex ∧
    (check (cfgWith .repaired) exprIntsA).errClass = some .badIndex := by
  decide +kernel

/-- `c03:dynamic-type-differs:filter-static-slice`: `filter(Ints, {# > 1})` is reported as `[]int`; the VM
builds `[]interface{}` (which is what the documented rule set reports). -/
theorem static_slice_witness :
    (check (cfgWith .asIs) exprFilter).okType = some (some (.slice tInt)) ∧
    (check (cfgWith .repaired) exprFilter).okType = some arrayTy := by
  decide +kernel

/-- `c03:asbool-on-nil-type-panics` (the code before b6f8e35), `c03:closure-with-nil-typed-body-panics` (before 106fb38):
two expressions on which `Check` panics instead of answering. -/
theorem panic_witness :
    (check (cfgWith .asWas .bool) (.nil {})).isPanic = true ∧
    (check (cfgWith .asIs .bool) (.nil {})).errClass = some .expected ∧
    (check (cfgWith .asWas) exprMapNil).isPanic = true ∧
    (check (cfgWith .asIs) exprMapNil).okType = some (some (.slice interfaceType)) := by
  decide +kernel

/-- `(MSI)[:]` -/
def exprSliceMap : Node := .slice {} (ident "MSI") none none
/-- `1.5 in MSI` -/
def exprInMap : Node := .binary {} "in" (.float {} 0) (ident "MSI")
/-- `{(1): 2}` -/
def exprMapKey : Node := .map {} [.pair {} (.int {} 1) (.int {} 2)]

/-- `c03:ill-typed-accepted:slice-of-map` (the code before 265c5fa), `…:in-map-key` (e2e7046), `…:map-literal-key` (a03872c):
three statically typed expressions that code accepts and the VM can only fail on (`cannot slice`, `MapIndex: value of type
float64 is not assignable to type string`, `interface {} is int, not string`); the current checker rejects them, as the
documented rules do. -/
theorem accepted_type_errors_witness :
    (check (cfgWith .asWas) exprSliceMap).okType = some (some (.map .string tInt)) ∧
    (check (cfgWith .asWas) exprInMap).okType = some boolTy ∧
    (check (cfgWith .asWas) exprMapKey).okType = some mapTy ∧
    Static (cfgWith .asWas) exprSliceMap ∧ Static (cfgWith .asWas) exprInMap ∧
    (check (cfgWith .asIs) exprSliceMap).errClass = some .notSliceable ∧
    (check (cfgWith .asIs) exprInMap).errClass = some .mismatchBinary ∧
    (check (cfgWith .asIs) exprMapKey).errClass = some .badMapKey := by
  decide +kernel

/-- `struct { Ff func(float64) float64; I int }` -/
def envTy2 : Ty := .named "main.E2" []
  (.struct [fld "Ff" (.func [.num .float64] false [.num .float64]), fld "I" tInt])

def cfgWith2 (dt : TDefects) : CheckCfg :=
  { types := createTypesTable .asIs id { ty := some envTy2 }, strict := true, dt := dt }

/-- `Ff(+I)` -/
def exprFfPlusI : Node := .func {} "Ff" [.unary {} "+" (ident "I")] false

/-- `c03:ill-typed-accepted:retyped-non-literal-argument` (known): an argument that is a unary `+ -` or a `+ - * /` expression
takes the parameter's type even when it contains no integer literal at all: `Ff(+I)` with `I int`,
`Ff func(float64) float64` is accepted (type float64); at run time the `int` reaches `reflect.Call` ("Call using int as
type float64").  The documented rule retypes integer *literals*. -/
theorem retype_non_literal_witness :
    (check (cfgWith2 .asIs) exprFfPlusI).okType = some (some (.num .float64)) ∧
    ¬ WellTyped (cfgWith2 .asIs) exprFfPlusI ∧
    (check (cfgWith2 .repaired) exprFfPlusI).errClass = some .badArgument := by
  decide +kernel

/-- `struct { Any interface{}; I int }` -/
def envTy3 : Ty := .named "main.E3" [] (.struct [fld "Any" interfaceType, fld "I" tInt])

def cfgWith3 (dt : TDefects) : CheckCfg :=
  { types := createTypesTable .asIs id { ty := some envTy3 }, strict := true, dt := dt }

def exprAnyTimes1 : Node := .binary {} "*" (ident "Any") (.int {} 1)

/-- `c03:dynamic-type-differs:arith-with-interface-operand` (known; held by /repo's tests): `Any * 1` with
`Any interface{}` is reported as `int` — `combined` gives `interface{}` weight 0 — although the value may be
a float64; under the documented rule set the result type is `interface{}`. -/
theorem combined_iface_witness :
    (check (cfgWith3 .asIs) exprAnyTimes1).okType = some (some tInt) ∧
    (check (cfgWith3 .repaired) exprAnyTimes1).okType = some ifaceTy ∧
    ¬ Static (cfgWith3 .asIs) exprAnyTimes1 := by
  decide +kernel

/-- `c ? 1 : Any`: in the code before 390c455 the type of a conditional whose first branch is assignable to the second is
the first branch's type. -/
theorem cond_type_witness :
    (check (cfgWith3 .asWas) (.cond {} (.bool {} true) (.int {} 1) (ident "Any"))).okType = some (some tInt) ∧
    (check (cfgWith3 .asIs) (.cond {} (.bool {} true) (.int {} 1) (ident "Any"))).okType = some ifaceTy := by
  decide +kernel

/-- the full rejection statement, for the rule flags `dt` … -/
def check_rejects_goal (dt : TDefects) : Prop :=
  ∀ (cfg : CheckCfg) (n : Node), cfg.dt = dt → ¬ WellTyped cfg n → ∀ n' τ, check cfg n ≠ .ok n' τ

theorem check_rejects_repaired : check_rejects_goal .repaired :=
  fun cfg n h hill => check_rejects cfg n h hill

/-- … fails for the current code because of the loose index rule: `MSI[1]` -/
theorem check_rejects_asIs_false : ¬ check_rejects_goal .asIs := by
  intro h
  obtain ⟨n', hc⟩ := ok_of_okType loose_index_witness.1
  exact h (cfgWith .asIs) exprMsi1 rfl loose_index_witness.2.2.1 n' _ hc

/-! The statement of soundness is given against any evaluator; `Static` is the hypothesis of the property ("all its
operands are statically typed"): no sub-expression has an interface type, the nil type or a defined scalar type (`type MyInt
int`).  The theorems proved below assume the fragment predicates `scalarTyped` / `typed2` in its place: per construct, what
the soundness of its rule needs of the operand types.  No comparison with `Static` is made. -/

structure Evaluator where
  Value : Type
  Environment : Type
  RunError : Type
  /-- `env ⊨ Γ`: the environment value has the environment type the checker was given -/
  conforms : CheckCfg → Environment → Prop
  /-- `⟦τ⟧ v`: `v` is a value of static type `τ` -/
  hasType : Value → OTy → Prop
  /-- failures that depend on values (for the reference evaluator `ValueDep`: index out of range, division by zero, budget) -/
  valueDependent : RunError → Prop
  /-- run of the program compiled from the *annotated* tree under the checker's configuration -/
  run : CheckCfg → Environment → Node → Except RunError Value

/-- **Soundness** (the full statement): an accepted, statically typed program never fails for a type
reason, and a successful result has the type the checker reported. -/
def check_sound_goal (E : Evaluator) : Prop :=
  ∀ (cfg : CheckCfg) (n n' : Node) (τ : OTy) (env : E.Environment),
    check cfg n = .ok n' τ → Static cfg n → E.conforms cfg env →
    match E.run cfg env n' with
    | .ok v => E.hasType v τ
    | .error e => E.valueDependent e

/-! The scalar fragment.  `inFrag`: literals, identifiers, `not ! - +`, `and or && ||`, `== != < > <= >=`, `+ - * / %`,
`contains startsWith endsWith`, the conditional.  `scalarTyped`: every sub-expression has a scalar static type (bool,
string, one of the twelve numeric kinds) — the fragment's form of "all its operands are statically typed". -/

/-- **Soundness on the scalar fragment** (`check_sound_goal` restricted to `inFrag`): if `Check` accepts `n` with type `τ`,
then evaluating the tree *as the checker annotated it* (`n'`: node types, retyped literals) with the reference evaluator
yields a value of type `τ`, or fails with a division by zero — never with a type error, whatever the environment's values. -/
theorem check_sound_partial (cfg : CheckCfg) (c : Spec.SCfg) (henv : EnvConforms cfg c.env)
    (n n' : Node) (τ : OTy) (hfrag : inFrag n = true) (hstatic : scalarTyped cfg [] n = true)
    (h : check cfg n = .ok n' τ) (ctx : Spec.Ctx) (s : Spec.SState) :
    match (Spec.eval c ctx n' s).1 with
    | .ok v => ValOfK v τ.kind
    | .error e => e = .divzero := by
  obtain ⟨hs, rfl, _⟩ := (check_ok_iff_annot cfg n n' τ).1 h
  have hτ : ScalarT τ := scalarOK_elim (scalarTyped_self cfg [] n hstatic) hs
  exact (frag_sound (E := fun e => e = .divzero) (P := fun _ => True) rfl cfg [] c henv n hfrag hstatic).evalOKV
    hs (vtyOf_scalar hτ) ctx trivial s

private theorem as_kind_of_eval (E : ErrClass → Prop) (cfg : CheckCfg) (c : Spec.SCfg) (n n' : Node) (τ : OTy)
    (h : check cfg n = .ok n' τ) (hτs : ScalarT τ)
    (hev0 : match (Spec.eval c [] n' {}).1 with
      | .ok v => ValOfK v τ.kind
      | .error e => E e) :
    (cfg.expect = .bool → match (Spec.run c none n').1 with
      | .ok v => ∃ b, v = .bool b | .error e => E e) ∧
    (cfg.expect = .int64 → match (Spec.run c (some 0) n').1 with
      | .ok v => ∃ x, v = .int .int64 x | .error e => E e) ∧
    (cfg.expect = .float64 → match (Spec.run c (some 1) n').1 with
      | .ok v => ∃ x, v = .f64 x | .error e => E e) := by
  have hk := as_kind_exact cfg n n' τ h
  simp only [Spec.run_eq]
  rcases hr : Spec.eval c [] n' {} with ⟨r, s'⟩
  rw [hr] at hev0
  cases r with
  | error e => exact ⟨fun _ => hev0, fun _ => hev0, fun _ => hev0⟩
  | ok v =>
    have num : isNumberT τ = true → ∃ k, NumOf v k := fun hn => by
      obtain ⟨k, hkk⟩ := (isNumberT_scalar hτs).1 hn
      rw [hkk] at hev0
      exact ⟨k, hev0⟩
    refine ⟨fun he => ?_, fun he => ?_, fun he => ?_⟩
    · rw [hk.1 he] at hev0
      exact hev0
    · obtain ⟨k, hv⟩ := num (hk.2 (.inl he))
      obtain ⟨x, hx⟩ := conv_num .int64 hv
      simp only [Except.bind, Option.elim, castV, numOf_kind hv, hx]
      exact ⟨x, rfl⟩
    · obtain ⟨k, hv⟩ := num (hk.2 (.inr he))
      obtain ⟨x, hx⟩ := conv_num .float64 hv
      simp only [Except.bind, Option.elim, castV, toFloat64Val, numOf_kind hv, hx]
      exact ⟨x, rfl⟩

/-- … and under `AsInt64` / `AsFloat64` the run's result is exactly an `int64` / a `float64` (`Spec.run` applies the
conversion the compiler appends: its argument is `OpCast`'s, `some 0` to int64, `some 1` to float64, `none` no conversion),
under `AsBool` exactly a `bool`. -/
theorem as_kind_exact_partial (cfg : CheckCfg) (c : Spec.SCfg) (henv : EnvConforms cfg c.env)
    (n n' : Node) (τ : OTy) (hfrag : inFrag n = true) (hstatic : scalarTyped cfg [] n = true)
    (h : check cfg n = .ok n' τ) :
    (cfg.expect = .bool → match (Spec.run c none n').1 with
      | .ok v => ∃ b, v = .bool b | .error e => e = .divzero) ∧
    (cfg.expect = .int64 → match (Spec.run c (some 0) n').1 with
      | .ok v => ∃ x, v = .int .int64 x | .error e => e = .divzero) ∧
    (cfg.expect = .float64 → match (Spec.run c (some 1) n').1 with
      | .ok v => ∃ x, v = .f64 x | .error e => e = .divzero) :=
  as_kind_of_eval (fun e => e = .divzero) cfg c n n' τ h
    (scalarOK_elim (scalarTyped_self cfg [] n hstatic) (accepted_type_is_synth cfg n n' τ h))
    (check_sound_partial cfg c henv n n' τ hfrag hstatic h [] {})

/-! The extended fragment: `inFrag2` (the constructs; calls of environment functions, `matches` with a literal pattern
and method calls are switched on by `FragOpts`, each behind a hypothesis on the world: `WorldConforms`, `RegexOn`,
`MethodsConform`) and `typed2` (every operand has a static type the construct's rule is sound for).  `typed2` excludes
the constructs behind the known findings: the loose index rule (an index typed `interface{}`), `filter` / `map` with
the static slice type `[]T` (in the fragment exactly when `cfg.dt.staticSliceOf = false`, the documented rule, and then
a `[]interface{}`), arithmetic on `interface{}` operands, calls with retyped non-literal arguments.  A computed
`matches` pattern stays outside, since `Spec.eval` reports a pattern that does not compile in the type class. -/

private theorem check_sound_frag2 {E : ErrClass → Prop} (hd : E .divzero) (hi : E .index) (hbud : E .budget)
    (cfg : CheckCfg) (c : Spec.SCfg) (henv : EnvConforms2 cfg c.env) (hdn : cfg.dn = NDefects.asIs)
    (fo : FragOpts) (hworld : fo.calls = true → WorldConforms E cfg c) (hregex : fo.regex = true → RegexOn c fo.okPat)
    (hmeth : fo.methods = true → MethodsConform E cfg c)
    (n n' : Node) (τ : OTy) (V : VTy) (hfrag : inFrag2 fo n = true) (hstatic : typed2 cfg [] n = true)
    (h : check cfg n = .ok n' τ) (hV : vtyOf τ = some V) (ctx : Spec.Ctx) (s : Spec.SState) :
    match (Spec.eval c ctx n' s).1 with
    | .ok v => ValOfV v V
    | .error e => E e := by
  obtain ⟨hs, rfl, _⟩ := (check_ok_iff_annot cfg n n' τ).1 h
  exact (frag2_sound hd hi hbud cfg c henv hdn fo hworld hregex hmeth n [] hfrag hstatic).evalOKV hs hV ctx trivial s

/-- **Soundness on the extended fragment**: if `Check` accepts `n` with type `τ` — any type `vtyOf` classifies: a scalar, a
slice of scalars (then with the static element tag and all elements of the element type), a `[]interface{}`, a struct or
pointer to struct (members conform, `Conf`), a slice of structs, a `map[string]interface{}`, or an interface (then nothing
is claimed of the value) — evaluating the annotated tree with the reference evaluator yields a value of that type or fails
with a value-dependent error (`ValueDep`); never with a type error. -/
theorem check_sound_collections_partial (cfg : CheckCfg) (c : Spec.SCfg) (henv : EnvConforms2 cfg c.env)
    (hdn : cfg.dn = NDefects.asIs)
    (n n' : Node) (τ : OTy) (V : VTy) (hfrag : inFrag2 {} n = true) (hstatic : typed2 cfg [] n = true)
    (h : check cfg n = .ok n' τ) (hV : vtyOf τ = some V) (ctx : Spec.Ctx) (s : Spec.SState) :
    match (Spec.eval c ctx n' s).1 with
    | .ok v => ValOfV v V
    | .error e => ValueDep e :=
  check_sound_frag2 (Or.inl rfl) (Or.inr (Or.inl rfl)) (Or.inr (Or.inr rfl)) cfg c henv hdn {} (fun h => by cases h)
    (fun h => by cases h) (fun h => by cases h) n n' τ V hfrag hstatic h hV ctx s

/-- **Soundness with calls of environment functions, `matches` and method calls**, each behind its hypothesis on the world
(`WorldConforms`, `RegexOn`, `MethodsConform`); tolerated here: the value-dependent failures and `ErrClass.call`, a panic
inside the function.  Arguments (`argOK`): an expression whose type is the parameter's value type and which the checker does
not retype, or a tree of integer literals retyped to a numeric parameter (`Ff(1)`, `Ff(-(1 + 2))`); the retyped non-literal
arguments of the known finding (`Ff(+I)`, `Fi(F64 + 1)`) are excluded by this predicate. -/
theorem check_sound_calls_partial (cfg : CheckCfg) (c : Spec.SCfg) (henv : EnvConforms2 cfg c.env)
    (hdn : cfg.dn = NDefects.asIs)
    (fo : FragOpts) (hworld : fo.calls = true → WorldConforms (fun e => ValueDep e ∨ e = .call) cfg c)
    (hregex : fo.regex = true → RegexOn c fo.okPat)
    (hmeth : fo.methods = true → MethodsConform (fun e => ValueDep e ∨ e = .call) cfg c)
    (n n' : Node) (τ : OTy) (V : VTy) (hfrag : inFrag2 fo n = true) (hstatic : typed2 cfg [] n = true)
    (h : check cfg n = .ok n' τ) (hV : vtyOf τ = some V) (ctx : Spec.Ctx) (s : Spec.SState) :
    match (Spec.eval c ctx n' s).1 with
    | .ok v => ValOfV v V
    | .error e => ValueDep e ∨ e = .call :=
  check_sound_frag2 (Or.inl (Or.inl rfl)) (Or.inl (Or.inr (Or.inl rfl))) (Or.inl (Or.inr (Or.inr rfl))) cfg c henv hdn fo
    hworld hregex hmeth n n' τ V hfrag hstatic h hV ctx s

/-- … and for whole programs (`Spec.run`): under `AsBool` the result is exactly a `bool`, under `AsInt64` exactly an `int64`,
under `AsFloat64` exactly a `float64`, or the run fails with a value-dependent error (`τ` scalar: not an
`interface{}`-typed result, which the directives also allow). -/
theorem as_kind_exact_collections_partial (cfg : CheckCfg) (c : Spec.SCfg) (henv : EnvConforms2 cfg c.env)
    (hdn : cfg.dn = NDefects.asIs)
    (n n' : Node) (τ : OTy) (hfrag : inFrag2 {} n = true) (hstatic : typed2 cfg [] n = true)
    (h : check cfg n = .ok n' τ) (hτs : ScalarT τ) :
    (cfg.expect = .bool → match (Spec.run c none n').1 with
      | .ok v => ∃ b, v = .bool b | .error e => ValueDep e) ∧
    (cfg.expect = .int64 → match (Spec.run c (some 0) n').1 with
      | .ok v => ∃ x, v = .int .int64 x | .error e => ValueDep e) ∧
    (cfg.expect = .float64 → match (Spec.run c (some 1) n').1 with
      | .ok v => ∃ x, v = .f64 x | .error e => ValueDep e) :=
  as_kind_of_eval ValueDep cfg c n n' τ h hτs
    (check_sound_collections_partial cfg c henv hdn n n' τ (.sc τ.kind) hfrag hstatic h (vtyOf_scalar hτs) [] {})

/-- the same with the constructs behind hypotheses on the world -/
theorem as_kind_exact_calls_partial (cfg : CheckCfg) (c : Spec.SCfg) (henv : EnvConforms2 cfg c.env)
    (hdn : cfg.dn = NDefects.asIs)
    (fo : FragOpts) (hworld : fo.calls = true → WorldConforms (fun e => ValueDep e ∨ e = .call) cfg c)
    (hregex : fo.regex = true → RegexOn c fo.okPat)
    (hmeth : fo.methods = true → MethodsConform (fun e => ValueDep e ∨ e = .call) cfg c)
    (n n' : Node) (τ : OTy) (hfrag : inFrag2 fo n = true) (hstatic : typed2 cfg [] n = true)
    (h : check cfg n = .ok n' τ) (hτs : ScalarT τ) :
    (cfg.expect = .bool → match (Spec.run c none n').1 with
      | .ok v => ∃ b, v = .bool b | .error e => ValueDep e ∨ e = .call) ∧
    (cfg.expect = .int64 → match (Spec.run c (some 0) n').1 with
      | .ok v => ∃ x, v = .int .int64 x | .error e => ValueDep e ∨ e = .call) ∧
    (cfg.expect = .float64 → match (Spec.run c (some 1) n').1 with
      | .ok v => ∃ x, v = .f64 x | .error e => ValueDep e ∨ e = .call) :=
  as_kind_of_eval (fun e => ValueDep e ∨ e = .call) cfg c n n' τ h hτs
    (check_sound_calls_partial cfg c henv hdn fo hworld hregex hmeth n n' τ (.sc τ.kind) hfrag hstatic h (vtyOf_scalar hτs) [] {})

example : WellTyped (cfgWith .repaired) (.binary {} "+" (ident "I") (.int {} 2)) ∧
    ¬ WellTyped (cfgWith .repaired) (.binary {} "+" (ident "I") (.str {} "a")) ∧
    Static (cfgWith .repaired) (.binary {} "+" (ident "I") (.int {} 2)) ∧
    inFrag (.binary {} "+" (ident "I") (.int {} 2)) = true ∧
    scalarTyped (cfgWith .asIs) [] (.binary {} "+" (ident "I") (.int {} 2)) = true := by
  decide +kernel

/-- `all(Ints, {# in 1..I}) and len(Ints) > Ints[0]` -/
def exprColl : Node :=
  .binary {} "and"
    (.builtin {} "all" [ident "Ints", .closure {} (.binary {} "in" (.pointer {}) (.binary {} ".." (.int {} 1) (ident "I")))])
    (.binary {} ">" (.builtin {} "len" [ident "Ints"]) (.index {} (ident "Ints") (.int {} 0)))

/-- `Ff(-(1 + 2))`: integer literals retyped to the float64 parameter -/
def exprFfLit : Node := .func {} "Ff" [.unary {} "-" (.binary {} "+" (.int {} 1) (.int {} 2))] false
/-- `Fs(Ints[1:2][0] > I ? "a" : "b")` over `envTy` -/
def exprFsCond : Node :=
  .func {} "Fs" [.cond {} (.binary {} ">" (.index {} (.slice {} (ident "Ints") (some (.int {} 1)) (some (.int {} 2))) (.int {} 0))
    (ident "I")) (.str {} "a") (.str {} "b")] false

/-- `I in [1, 2, I + 1] and len((I > 1 ? Ints : 1..3)[0:1]) == 1` -/
def exprArr : Node :=
  .binary {} "and"
    (.binary {} "in" (ident "I") (.array {} [.int {} 1, .int {} 2, .binary {} "+" (ident "I") (.int {} 1)]))
    (.binary {} "==" (.builtin {} "len" [.slice {} (.cond {} (.binary {} ">" (ident "I") (.int {} 1)) (ident "Ints")
      (.binary {} ".." (.int {} 1) (.int {} 3))) (some (.int {} 0)) (some (.int {} 1))]) (.int {} 1))

example : inFrag2 {} exprArr = true ∧ typed2 (cfgWith .asIs) [] exprArr = true ∧
    (check (cfgWith .asIs) exprArr).okType = some boolTy := by
  decide +kernel

private theorem exprFfLit_facts : inFrag2 { calls := true } exprFfLit = true ∧ typed2 (cfgWith2 .asIs) [] exprFfLit = true ∧
    (check (cfgWith2 .asIs) exprFfLit).okType = some (some (.num .float64)) := by
  decide +kernel

example : inFrag2 {} exprColl = true ∧ typed2 (cfgWith .asIs) [] exprColl = true ∧
    (check (cfgWith .asIs) exprColl).okType = some boolTy ∧
    inFrag2 { calls := true } exprFfLit = true ∧ typed2 (cfgWith2 .asIs) [] exprFfLit = true ∧
    (check (cfgWith2 .asIs) exprFfLit).okType = some (some (.num .float64)) ∧
    inFrag2 { calls := true } exprFsCond = true ∧ typed2 (cfgWith .asIs) [] exprFsCond = true ∧
    (check (cfgWith .asIs) exprFsCond).okType = some (some .string) ∧
    -- the excluded constructs are outside the predicates
    -- `filter`: in the fragment under the documented rule (`[]interface{}`), not under the code's (`[]T`)
    typed2 (cfgWith .asIs) [] exprFilter = false ∧ typed2 (cfgWith .repaired) [] exprFilter = true ∧
    inFrag2 {} exprFilter = true ∧ typed2 (cfgWith .asIs) [] exprFs1 = false ∧
    typed2 (cfgWith2 .asIs) [] exprFfPlusI = false ∧
    typed2 (cfgWith3 .asIs) [] exprAnyTimes1 = false ∧ typed2 (cfgWith .asIs) [] exprIntsA = false :=
  ⟨by decide +kernel, by decide +kernel, by decide +kernel, exprFfLit_facts.1, exprFfLit_facts.2.1, exprFfLit_facts.2.2,
    by decide +kernel⟩

def sampleWorld : World := { call := fun _ _ => .ok (.f64 0), regexMatch := fun _ _ => none, pow := fun _ _ => 0 }
def sampleSCfg : Spec.SCfg :=
  { world := sampleWorld, env := .struct "main.E2" false [("Ff", .fn "Ff"), ("I", .int .int 1)], budget := 1000 }

def sampleTable : Table := [("I", { ty := some tInt }), ("Ff", { ty := some (.func [.num .float64] false [.num .float64]) })]

private theorem sample_types : (cfgWith2 .asIs).types = some sampleTable := by decide +kernel

private theorem get?_cons (k : String) (v : Tag) (r : Table) (n : String) :
    Table.get? ((k, v) :: r) n = if n = k then some v else Table.get? r n := by
  rw [Table.get?_cons]
  exact ite_congr (propext eq_comm) (fun _ => rfl) (fun _ => rfl)

private theorem sample_env : EnvConforms2 (cfgWith2 .asIs) sampleSCfg.env := by
  refine envConforms2_of_table sample_types rfl fun e he => ?_
  simp only [sampleTable, List.mem_cons, List.not_mem_nil, or_false] at he
  rcases he with rfl | rfl
  · exact .intro (V := .sc (.num .int)) (by decide) (fun ns => by cases ns <;> rfl) ⟨1, rfl⟩
  · exact .of_unclassified (by decide)

private theorem sample_world (E : ErrClass → Prop) : WorldConforms E (cfgWith2 .asIs) sampleSCfg := by
  intro name fn im ins variadic numIn offset out vs V hft hfp hconf hV
  obtain ⟨v, hparts⟩ := funcPlan_out hfp
  obtain ⟨g, hg, hfn⟩ := funcTargetC_mem sample_types hft
  simp only [sampleTable, List.mem_cons, List.not_mem_nil, or_false, Prod.mk.injEq] at hg
  rcases hg with ⟨rfl, rfl⟩ | ⟨rfl, rfl⟩
  · cases hfn
  · -- `Ff`: the result type is float64, the call returns a float64
    cases hfn
    cases hparts
    cases hV.symm.trans (by decide : vtyOf (some (.num .float64)) = some (.sc (.num .float64)))
    exact ⟨0, rfl⟩

/-- the hypotheses of the soundness theorems are satisfiable — an environment value and a world for `envTy2` — and the theorem
applies: `Ff(-(1 + 2))`, accepted with type float64, evaluates to a float64 or fails with a tolerated class. -/
theorem sound_hypotheses_witness :
    EnvConforms2 (cfgWith2 .asIs) sampleSCfg.env ∧
    WorldConforms (fun e => ValueDep e ∨ e = .call) (cfgWith2 .asIs) sampleSCfg ∧
    ∀ n' τ, check (cfgWith2 .asIs) exprFfLit = .ok n' τ → ∀ ctx s,
      match (Spec.eval sampleSCfg ctx n' s).1 with
      | .ok v => ∃ x, v = .f64 x
      | .error e => ValueDep e ∨ e = .call := by
  refine ⟨sample_env, sample_world _, ?_⟩
  intro n' τ h ctx s
  obtain rfl := okType_of_ok h exprFfLit_facts.2.2
  exact check_sound_calls_partial (cfgWith2 .asIs) sampleSCfg sample_env rfl { calls := true } (fun _ => sample_world _)
    (fun h => by cases h) (fun h => by cases h) exprFfLit n' _
    (.sc (.num .float64)) exprFfLit_facts.1 exprFfLit_facts.2.1 h (by decide) ctx s

def tZA : Ty := .named "main.ZA" [] (.struct [fld "X" tInt, fld "Y" .string])
/-- `struct { St ZA; PSt *ZA; I int; Sts []ZA }` -/
def envTy4 : Ty := .named "main.E4" [] (.struct [fld "St" tZA, fld "PSt" (.ptr tZA), fld "I" tInt, fld "Sts" (.slice tZA)])
def cfgWith4 (dt : TDefects) : CheckCfg :=
  { types := createTypesTable .asIs id { ty := some envTy4 }, strict := true, dt := dt }

/-- `St.X + PSt.X > I and PSt?.Y == "a"` -/
def exprMembers : Node :=
  .binary {} "and"
    (.binary {} ">" (.binary {} "+" (.prop {} (ident "St") "X" false) (.prop {} (ident "PSt") "X" false)) (ident "I"))
    (.binary {} "==" (.prop {} (ident "PSt") "Y" true) (.str {} "a"))

private theorem exprMembers_facts : inFrag2 {} exprMembers = true ∧ typed2 (cfgWith4 .asIs) [] exprMembers = true ∧
    (check (cfgWith4 .asIs) exprMembers).okType = some boolTy := by
  decide +kernel

example : inFrag2 {} exprMembers = true ∧ typed2 (cfgWith4 .asIs) [] exprMembers = true ∧
    (check (cfgWith4 .asIs) exprMembers).okType = some boolTy ∧
    -- a member of an interface-typed or map-typed receiver is outside the predicate
    typed2 (cfgWith3 .asIs) [] (.prop {} (ident "Any") "x" false) = false ∧
    typed2 (cfgWith .asIs) [] (.prop {} (ident "MSI") "k" false) = false :=
  ⟨exprMembers_facts.1, exprMembers_facts.2.1, exprMembers_facts.2.2, by decide +kernel⟩

/-- `struct { MA map[string]interface{}; Anys []interface{}; St ZA; Str string }` -/
def envTy5 : Ty := .named "main.E5" [] (.struct [fld "MA" (.map .string interfaceType), fld "Anys" (.slice interfaceType),
  fld "St" tZA, fld "Str" .string])
def cfgWith5 (dt : TDefects) : CheckCfg :=
  { types := createTypesTable .asIs id { ty := some envTy5 }, strict := true, dt := dt }

/-- `Str in MA and "X" in St and len({a: MA.k, "b": Anys[0], c: MA["k"]}) == len(MA)` -/
def exprMaps : Node :=
  .binary {} "and" (.binary {} "and" (.binary {} "in" (ident "Str") (ident "MA")) (.binary {} "in" (.str {} "X") (ident "St")))
    (.binary {} "==" (.builtin {} "len" [.map {} [.pair {} (.str {} "a") (.prop {} (ident "MA") "k" false),
        .pair {} (.str {} "b") (.index {} (ident "Anys") (.int {} 0)), .pair {} (.str {} "c") (.index {} (ident "MA") (.str {} "k"))]])
      (.builtin {} "len" [ident "MA"]))

private theorem exprMaps_facts : inFrag2 {} exprMaps = true ∧ typed2 (cfgWith5 .asIs) [] exprMaps = true ∧
    (check (cfgWith5 .asIs) exprMaps).okType = some boolTy := by
  decide +kernel

example : inFrag2 {} exprMaps = true ∧ typed2 (cfgWith5 .asIs) [] exprMaps = true ∧
    (check (cfgWith5 .asIs) exprMaps).okType = some boolTy ∧
    -- an interface-typed value under an operator stays outside; so does a member of a typed map (`MSI.k`: the
    -- model's value universe yields nil, not the element's zero value, for a missing key)
    typed2 (cfgWith5 .asIs) [] (.binary {} "+" (.index {} (ident "Anys") (.int {} 0)) (.int {} 1)) = false ∧
    typed2 (cfgWith .asIs) [] (.index {} (ident "MSI") (.str {} "k")) = false :=
  ⟨exprMaps_facts.1, exprMaps_facts.2.1, exprMaps_facts.2.2, by decide +kernel⟩

/-- the patterns of a small faithful matcher: an optional `^`, literal ASCII characters that are no regexp
metacharacters, an optional `$` (the class `Drv.simpleRegex` models exactly); everything else — `"("`, `"a+"`
— does not "compile" here -/
def litBody (pat : String) : Bool × Bool × List Char :=
  let cs := pat.toList
  let (anchS, cs) := match cs with
    | '^' :: rest => (true, rest)
    | _ => (false, cs)
  let (anchE, cs) := match cs.reverse with
    | '$' :: rest => (true, rest.reverse)
    | _ => (false, cs)
  (anchS, anchE, cs)

def litOK (pat : String) : Bool :=
  (litBody pat).2.2.all (fun c => c.toNat < 128 && !("\\.+*?()|[]{}^$".toList.contains c))

def litRegex (pat subj : String) : Option Bool :=
  if litOK pat then
    let lit := String.ofList (litBody pat).2.2
    some (match (litBody pat).1, (litBody pat).2.1 with
      | true, true => subj == lit
      | true, false => strHasPrefix subj lit
      | false, true => strHasSuffix subj lit
      | false, false => strContains subj lit)
  else none

/-- `Str matches "^a" and not (St.Y matches "b$")` over `envTy5`: literal patterns -/
def exprMatches : Node :=
  .binary {} "and" (.matches {} true (ident "Str") (.str {} "^a"))
    (.unary {} "not" (.matches {} true (.prop {} (ident "St") "Y" false) (.str {} "b$")))

/-- a computed pattern, and a literal the matcher does not compile -/
def exprMatchesDyn : Node := .matches {} false (ident "Str") (ident "Str")
def exprMatchesBad : Node := .matches {} true (ident "Str") (.str {} "(")

private theorem exprMatches_facts : inFrag2 { regex := true, okPat := litOK } exprMatches = true ∧ typed2 (cfgWith5 .asIs) [] exprMatches = true ∧
    (check (cfgWith5 .asIs) exprMatches).okType = some boolTy := by
  decide +kernel

example : inFrag2 { regex := true, okPat := litOK } exprMatches = true ∧ inFrag2 {} exprMatches = false ∧
    typed2 (cfgWith5 .asIs) [] exprMatches = true ∧
    (check (cfgWith5 .asIs) exprMatches).okType = some boolTy ∧
    -- outside the fragment: a computed pattern; a literal that does not compile
    inFrag2 { regex := true, okPat := litOK } exprMatchesDyn = false ∧
    inFrag2 { regex := true, okPat := litOK } exprMatchesBad = false ∧
    litRegex "(" "a" = none ∧ litRegex "a+" "a" = none ∧ litRegex "^a" "ab" = some true :=
  ⟨exprMatches_facts.1, by decide +kernel, exprMatches_facts.2.1, exprMatches_facts.2.2, by decide +kernel⟩

/-- `type ZM struct { N int }` with `func (ZM) Add(a, b int) int` and a function-typed field -/
def tZM : Ty := .named "main.ZM" [.mk "Add" (.func [tInt, tInt] false [tInt]) false]
  (.struct [fld "N" tInt, fld "F" (.func [.string] false [.string])])
/-- `struct { M ZM; PM *ZM; I int }` -/
def envTy6 : Ty := .named "main.E6" [] (.struct [fld "M" tZM, fld "PM" (.ptr tZM), fld "I" tInt])
def cfgWith6 (dt : TDefects) : CheckCfg :=
  { types := createTypesTable .asIs id { ty := some envTy6 }, strict := true, dt := dt }

/-- `M.Add(I, 2) + PM.Add(1, M.N) > 0 and M.F("a") == "a"` -/
def exprMethods : Node :=
  .binary {} "and"
    (.binary {} ">" (.binary {} "+" (.method {} (ident "M") "Add" [ident "I", .int {} 2] false)
      (.method {} (ident "PM") "Add" [.int {} 1, .prop {} (ident "M") "N" false] false)) (.int {} 0))
    (.binary {} "==" (.method {} (ident "M") "F" [.str {} "a"] false) (.str {} "a"))

private theorem exprMethods_facts : inFrag2 { methods := true } exprMethods = true ∧ typed2 (cfgWith6 .asIs) [] exprMethods = true ∧
    (check (cfgWith6 .asIs) exprMethods).okType = some boolTy := by
  decide +kernel

example : inFrag2 { methods := true } exprMethods = true ∧ inFrag2 {} exprMethods = false ∧
    typed2 (cfgWith6 .asIs) [] exprMethods = true ∧
    (check (cfgWith6 .asIs) exprMethods).okType = some boolTy ∧
    -- a wrong argument type or an unknown method is outside
    typed2 (cfgWith6 .asIs) [] (.method {} (ident "M") "Add" [.str {} "a", .int {} 2] false) = false ∧
    typed2 (cfgWith6 .asIs) [] (.method {} (ident "I") "Add" [] false) = false :=
  ⟨exprMethods_facts.1, by decide +kernel, exprMethods_facts.2.1, exprMethods_facts.2.2, by decide +kernel⟩

/-- `all(Sts, {#.X > I}) and Sts[0].Y == "a" and len(Sts) > count(Sts, {any(Sts, {#.X > 1}) and #.Y != ""})` over `envTy4` -/
def exprSts : Node :=
  let hX : Node := .prop {} (.pointer {}) "X" false
  let hY : Node := .prop {} (.pointer {}) "Y" false
  .binary {} "and"
    (.binary {} "and"
      (.builtin {} "all" [ident "Sts", .closure {} (.binary {} ">" hX (ident "I"))])
      (.binary {} "==" (.prop {} (.index {} (ident "Sts") (.int {} 0)) "Y" false) (.str {} "a")))
    (.binary {} ">" (.builtin {} "len" [ident "Sts"])
      (.builtin {} "count" [ident "Sts", .closure {} (.binary {} "and"
        (.builtin {} "any" [ident "Sts", .closure {} (.binary {} ">" hX (.int {} 1))])
        (.binary {} "!=" hY (.str {} "")))]))

/-- `len(map(Sts, {#.Y})) == len(filter(Sts, {#.X > 0}))` -/
def exprStsFM : Node :=
  .binary {} "==" (.builtin {} "len" [.builtin {} "map" [ident "Sts", .closure {} (.prop {} (.pointer {}) "Y" false)]])
    (.builtin {} "len" [.builtin {} "filter" [ident "Sts", .closure {} (.binary {} ">" (.prop {} (.pointer {}) "X" false) (.int {} 0))]])

private theorem exprSts_facts : inFrag2 {} exprSts = true ∧ typed2 (cfgWith4 .asIs) [] exprSts = true ∧
    (check (cfgWith4 .asIs) exprSts).okType = some boolTy := by
  decide +kernel

example : inFrag2 {} exprSts = true ∧ typed2 (cfgWith4 .asIs) [] exprSts = true ∧
    (check (cfgWith4 .asIs) exprSts).okType = some boolTy ∧
    -- `map` / `filter` over structs: in the fragment under the documented result type only
    typed2 (cfgWith4 .asIs) [] (.builtin {} "len" [.slice {} (ident "Sts") (some (.int {} 1)) none]) = true ∧
    inFrag2 {} exprStsFM = true ∧ typed2 (cfgWith4 .repaired) [] exprStsFM = true ∧
    typed2 (cfgWith4 .asIs) [] exprStsFM = false ∧
    (check (cfgWith4 .repaired) exprStsFM).okType = some boolTy :=
  ⟨exprSts_facts.1, exprSts_facts.2.1, exprSts_facts.2.2, by decide +kernel⟩

/-- `RegexOn` holds of a faithful matcher in which bad patterns do not compile -/
theorem regexOn_lit (c : Spec.SCfg) (h : c.world.regexMatch = litRegex) : RegexOn c litOK := by
  intro pat subj hok
  rw [h]
  simp [litRegex, hok]

def tbl4 : Table := [("Sts", { ty := some (.slice tZA) }), ("I", { ty := some tInt }), ("PSt", { ty := some (.ptr tZA) }), ("St", { ty := some tZA })]
theorem types4 : (cfgWith4 .asIs).types = some tbl4 := by decide +kernel

def zaV : Val := .struct "main.ZA" false [("X", .int .int 1), ("Y", .str "a")]
def pzaV : Val := .struct "main.ZA" true [("X", .int .int 1), ("Y", .str "a")]
def env4 : Val := .struct "main.E4" false [("St", zaV), ("PSt", pzaV), ("I", .int .int 5), ("Sts", .arr (.other "main.ZA") [zaV, zaV])]
def scfg4 : Spec.SCfg := { world := sampleWorld, env := env4, budget := 1000 }

theorem zaFields' (name : String) :
    fieldTypeT .asIs (some tZA) name = if name = "X" then some tInt else if name = "Y" then some .string else none :=
  fieldTypeT_flat2 (s := tZA) rfl rfl rfl (by decide) name

theorem pzaFields' (name : String) :
    fieldTypeT .asIs (some (.ptr tZA)) name = if name = "X" then some tInt else if name = "Y" then some .string else none :=
  fieldTypeT_flat2 (s := tZA) rfl rfl rfl (by decide) name

private theorem zaMethodsAt (t : Ty) (hms : methodSet t = []) (hd : t.derefOnce = tZA) (name : String) :
    methodTarget .asIs (some t) name = none := by
  have hn : methodByName t name = none := by
    rw [methodByName, hms]
    rfl
  rw [methodTarget, methodTypeT_flat2 hd rfl rfl (by decide), hn]
  dsimp only
  split
  · rfl
  · split <;> rfl

theorem zaMethods' (name : String) : methodTarget .asIs (some tZA) name = none :=
  zaMethodsAt tZA (by decide +kernel) rfl name

theorem pzaMethods' (name : String) : methodTarget .asIs (some (.ptr tZA)) name = none :=
  zaMethodsAt (.ptr tZA) (by decide +kernel) rfl name

private theorem vty_tZA : vtyOf (some tZA) = some (.obj (some tZA)) := by decide +kernel

private theorem vty_ptZA : vtyOf (some (.ptr tZA)) = some (.obj (some (.ptr tZA))) := by decide +kernel

theorem confZA (p : Bool) (t : Ty) (hV : vtyOf (some t) = some (.obj (some t)))
    (hf : ∀ name, fieldTypeT .asIs (some t) name = if name = "X" then some tInt else if name = "Y" then some .string else none)
    (hm : ∀ name, methodTarget .asIs (some t) name = none) :
    ValOfV (.struct "main.ZA" p [("X", .int .int 1), ("Y", .str "a")]) (.obj (some t)) := by
  refine (valOfV_obj_iff hV _).2 ⟨_, _, _, rfl, fun name τ h => ?_, fun name fn im h => by rw [hm] at h; cases h⟩
  rw [hf] at h
  split at h
  · next h1 =>
    subst h1
    cases h
    exact ⟨.int .int 1, fun ns => by cases ns <;> rfl, valOfV_conf (V := .sc (.num .int)) (by decide) ⟨1, rfl⟩⟩
  · split at h
    · next h2 =>
      subst h2
      cases h
      exact ⟨.str "a", fun ns => by cases ns <;> rfl, valOfV_conf (V := .sc .string) (by decide) ⟨"a", rfl⟩⟩
    · cases h

/-- the conformance hypothesis on struct values is satisfiable: a `ZA` value conforms to the type `ZA` to every depth -/
theorem struct_conforms_witness :
    ValOfV (.struct "main.ZA" false [("X", .int .int 1), ("Y", .str "a")]) (.obj (some tZA)) :=
  confZA false tZA vty_tZA zaFields' zaMethods'

def tbl5 : Table := [("Str", { ty := some .string }), ("St", { ty := some tZA }), ("Anys", { ty := some (.slice interfaceType) }), ("MA", { ty := some (.map .string interfaceType) })]
theorem types5 : (cfgWith5 .asIs).types = some tbl5 := by decide +kernel
def env5 : Val := .struct "main.E5" false [("MA", .map [("k", .int .int 1)]), ("Anys", .arr .iface [.str "z"]), ("St", zaV), ("Str", .str "k")]
def scfg5 : Spec.SCfg := { world := { sampleWorld with regexMatch := litRegex }, env := env5, budget := 1000 }

theorem get5 (name : String) :
    tbl5.get? name = if name = "Str" then some { ty := some .string }
      else if name = "St" then some { ty := some tZA }
      else if name = "Anys" then some { ty := some (.slice interfaceType) }
      else if name = "MA" then some { ty := some (.map .string interfaceType) } else none := by
  simp only [tbl5, get?_cons]
  rfl

theorem env5_conf : EnvConforms2 (cfgWith5 .asIs) scfg5.env := by
  refine envConforms2_of_table types5 rfl fun e he => ?_
  simp only [tbl5, List.mem_cons, List.not_mem_nil, or_false] at he
  rcases he with rfl | rfl | rfl | rfl
  · exact .intro (V := .sc .string) (by decide) (fun ns => by cases ns <;> rfl) ⟨"k", rfl⟩
  · exact .intro vty_tZA (fun ns => by cases ns <;> rfl) struct_conforms_witness
  · exact .intro (V := .anys) (by decide +kernel) (fun ns => by cases ns <;> rfl) ⟨_, rfl⟩
  · exact .intro (V := .mapAny) (by decide +kernel) (fun ns => by cases ns <;> rfl) ⟨_, rfl⟩

theorem sound_maps_witness : ∀ n' τ, check (cfgWith5 .asIs) exprMaps = .ok n' τ → ∀ ctx s,
      match (Spec.eval scfg5 ctx n' s).1 with
      | .ok v => ∃ b, v = .bool b
      | .error e => ValueDep e :=
  bool_of_sound exprMaps_facts.2.2 fun n' τ V h hV =>
    check_sound_collections_partial (cfgWith5 .asIs) scfg5 env5_conf rfl exprMaps n' τ V exprMaps_facts.1 exprMaps_facts.2.1 h hV

theorem sound_matches_witness : ∀ n' τ, check (cfgWith5 .asIs) exprMatches = .ok n' τ → ∀ ctx s,
      match (Spec.eval scfg5 ctx n' s).1 with
      | .ok v => ∃ b, v = .bool b
      | .error e => ValueDep e ∨ e = .call :=
  bool_of_sound exprMatches_facts.2.2 fun n' τ V h hV =>
    check_sound_calls_partial (cfgWith5 .asIs) scfg5 env5_conf rfl { regex := true, okPat := litOK } (fun h => by cases h)
      (fun _ => regexOn_lit scfg5 rfl) (fun h => by cases h) exprMatches n' τ V exprMatches_facts.1 exprMatches_facts.2.1 h hV

theorem get4 (name : String) :
    tbl4.get? name = if name = "Sts" then some { ty := some (.slice tZA) }
      else if name = "I" then some { ty := some tInt }
      else if name = "PSt" then some { ty := some (.ptr tZA) }
      else if name = "St" then some { ty := some tZA } else none := by
  simp only [tbl4, get?_cons]
  rfl

theorem env4_conf : EnvConforms2 (cfgWith4 .asIs) scfg4.env := by
  refine envConforms2_of_table types4 rfl fun e he => ?_
  simp only [tbl4, List.mem_cons, List.not_mem_nil, or_false] at he
  rcases he with rfl | rfl | rfl | rfl
  · refine .intro (V := .slo (some tZA)) (by decide +kernel) (fun ns => by cases ns <;> rfl) ⟨_, _, rfl, fun x hx => ?_⟩
    simp only [List.mem_cons, List.not_mem_nil, or_false, or_self] at hx
    subst hx
    exact struct_conforms_witness
  · exact .intro (V := .sc (.num .int)) (by decide) (fun ns => by cases ns <;> rfl) ⟨5, rfl⟩
  · exact .intro vty_ptZA (fun ns => by cases ns <;> rfl) (confZA true (.ptr tZA) vty_ptZA pzaFields' pzaMethods')
  · exact .intro vty_tZA (fun ns => by cases ns <;> rfl) struct_conforms_witness

theorem sound_members_witness : ∀ n' τ, check (cfgWith4 .asIs) exprMembers = .ok n' τ → ∀ ctx s,
      match (Spec.eval scfg4 ctx n' s).1 with
      | .ok v => ∃ b, v = .bool b
      | .error e => ValueDep e :=
  bool_of_sound exprMembers_facts.2.2 fun n' τ V h hV =>
    check_sound_collections_partial (cfgWith4 .asIs) scfg4 env4_conf rfl exprMembers n' τ V exprMembers_facts.1
      exprMembers_facts.2.1 h hV

theorem sound_sts_witness : ∀ n' τ, check (cfgWith4 .asIs) exprSts = .ok n' τ → ∀ ctx s,
      match (Spec.eval scfg4 ctx n' s).1 with
      | .ok v => ∃ b, v = .bool b
      | .error e => ValueDep e :=
  bool_of_sound exprSts_facts.2.2 fun n' τ V h hV =>
    check_sound_collections_partial (cfgWith4 .asIs) scfg4 env4_conf rfl exprSts n' τ V exprSts_facts.1 exprSts_facts.2.1 h hV

def tFss : Ty := .func [.string] false [.string]
def addSig : Ty := .func [tZM, tInt, tInt] false [tInt]
def addSigP : Ty := .func [.ptr tZM, tInt, tInt] false [tInt]

theorem zmFieldsAt (t : Ty) (hdep : t.depth = tZM.depth ∨ t.depth = tZM.depth + 1) (hd : t.deref = tZM) (name : String) :
    fieldTypeT .asIs (some t) name = if name = "N" then some tInt else if name = "F" then some tFss else none :=
  fieldTypeT_flat2 hd rfl rfl (by decide) name

theorem zmMethodsAt (t sigT : Ty) (hms : methodSet t = [("Add", sigT)]) (hdo : t.derefOnce = tZM)
    (hki : (t.kind != .iface) = true) (hfs : isFuncType (some sigT) = some sigT) (name : String) :
    methodTarget .asIs (some t) name =
      if name = "Add" then some (sigT, true) else if name = "F" then some (tFss, false) else none := by
  rw [methodTarget, methodTypeT_flat2 hdo rfl rfl (by decide), methodByName, hms]
  by_cases h0 : name = "Add"
  · subst h0
    simp [hki, hfs]
  · have h0' : ¬ "Add" = name := fun h => h0 h.symm
    simp only [List.find?, h0', decide_false, Option.map_none, h0, if_false]
    split
    · next h1 => subst h1; rfl
    · split
      · next h2 => subst h2; rfl
      · rfl

def zmV (p : Bool) : Val := .struct "main.ZM" p [("N", .int .int 1), ("F", .fn "main.ZM.F"), ("Add", .fn "main.ZM.Add")]
def world6 : World :=
  { call := fun id _ => if id = "main.ZM.Add" then .ok (.int .int 7) else if id = "main.ZM.F" then .ok (.str "a") else .error .call
    regexMatch := fun _ _ => none, pow := fun _ _ => 0 }
def env6 : Val := .struct "main.E6" false [("M", zmV false), ("PM", zmV true), ("I", .int .int 5)]
def scfg6 : Spec.SCfg := { world := world6, env := env6, budget := 1000 }

theorem confZM (p : Bool) (t sigT : Ty) (hV : vtyOf (some t) = some (.obj (some t)))
    (hf : ∀ name, fieldTypeT .asIs (some t) name = if name = "N" then some tInt else if name = "F" then some tFss else none)
    (hm : ∀ name, methodTarget .asIs (some t) name =
      if name = "Add" then some (sigT, true) else if name = "F" then some (tFss, false) else none)
    (hkA : methKey (some t) "Add" = "main.ZM.Add") (hkF : methKey (some t) "F" = "main.ZM.F") :
    ValOfV (zmV p) (.obj (some t)) := by
  refine (valOfV_obj_iff hV _).2 ⟨_, _, _, rfl, fun name τ h => ?_, fun name fn im h => ?_⟩
  · rw [hf] at h
    split at h
    · next h1 =>
      subst h1
      cases h
      exact ⟨.int .int 1, fun ns => by cases ns <;> rfl, valOfV_conf (V := .sc (.num .int)) (by decide) ⟨1, rfl⟩⟩
    · split at h
      · next h2 =>
        subst h2
        cases h
        exact ⟨.fn "main.ZM.F", fetchV_field rfl (by decide +kernel), conf_of_unclassified (by decide +kernel)⟩
      · cases h
  · rw [hm] at h
    split at h
    · next h1 => subst h1; rw [hkA]; rfl
    · split at h
      · next h2 => subst h2; rw [hkF]; rfl
      · cases h

private theorem vty_tZM : vtyOf (some tZM) = some (.obj (some tZM)) := by decide +kernel

private theorem vty_ptZM : vtyOf (some (.ptr tZM)) = some (.obj (some (.ptr tZM))) := by decide +kernel

private theorem zmMethods (name : String) : methodTarget .asIs (some tZM) name =
    if name = "Add" then some (addSig, true) else if name = "F" then some (tFss, false) else none :=
  zmMethodsAt tZM addSig (by decide +kernel) (by decide +kernel) (by decide +kernel) (by decide +kernel) name

private theorem pzmMethods (name : String) : methodTarget .asIs (some (.ptr tZM)) name =
    if name = "Add" then some (addSigP, true) else if name = "F" then some (tFss, false) else none :=
  zmMethodsAt (.ptr tZM) addSigP (by decide +kernel) (by decide +kernel) (by decide +kernel) (by decide +kernel) name

private theorem zmKeys : methKey (some tZM) "Add" = "main.ZM.Add" ∧ methKey (some tZM) "F" = "main.ZM.F" :=
  ⟨by decide +kernel, by decide +kernel⟩

private theorem pzmKeys : methKey (some (.ptr tZM)) "Add" = "main.ZM.Add" ∧ methKey (some (.ptr tZM)) "F" = "main.ZM.F" :=
  ⟨by decide +kernel, by decide +kernel⟩

theorem zm_conf : ValOfV (zmV false) (.obj (some tZM)) :=
  confZM false tZM addSig vty_tZM (zmFieldsAt tZM (Or.inl rfl) (by decide +kernel)) zmMethods zmKeys.1 zmKeys.2

theorem pzm_conf : ValOfV (zmV true) (.obj (some (.ptr tZM))) :=
  confZM true (.ptr tZM) addSigP vty_ptZM (zmFieldsAt (.ptr tZM) (Or.inr (by decide +kernel)) (by decide +kernel))
    pzmMethods pzmKeys.1 pzmKeys.2

def tbl6 : Table := [("I", { ty := some tInt }), ("PM", { ty := some (.ptr tZM) }), ("M", { ty := some tZM })]
theorem types6 : (cfgWith6 .asIs).types = some tbl6 := by decide +kernel

theorem get6 (name : String) :
    tbl6.get? name = if name = "I" then some { ty := some tInt }
      else if name = "PM" then some { ty := some (.ptr tZM) }
      else if name = "M" then some { ty := some tZM } else none := by
  simp only [tbl6, get?_cons]
  rfl

theorem env6_conf : EnvConforms2 (cfgWith6 .asIs) scfg6.env := by
  refine envConforms2_of_table types6 rfl fun e he => ?_
  simp only [tbl6, List.mem_cons, List.not_mem_nil, or_false] at he
  rcases he with rfl | rfl | rfl
  · exact .intro (V := .sc (.num .int)) (by decide) (fun ns => by cases ns <;> rfl) ⟨5, rfl⟩
  · exact .intro vty_ptZM (fun ns => by cases ns <;> rfl) pzm_conf
  · exact .intro vty_tZM (fun ns => by cases ns <;> rfl) zm_conf

/-- the hypothesis on methods holds of `world6` — with calls that succeed -/
theorem methods6 : MethodsConform (fun e => ValueDep e ∨ e = .call) (cfgWith6 .asIs) scfg6 := by
  intro t ht name fn im ins variadic numIn offset out vs V hVt hmt hfp _ hV
  obtain ⟨v, hparts⟩ := funcPlan_out hfp
  -- on either receiver type `Add` has the single result `int`, `F` the single result `string`; so has `world6`
  have key : ∀ (sigT : Ty) (ps : List Ty), sigT.funcParts = some (ps, false, [tInt]) →
      methodTarget .asIs t name =
        (if name = "Add" then some (sigT, true) else if name = "F" then some (tFss, false) else none) →
      methKey t "Add" = "main.ZM.Add" → methKey t "F" = "main.ZM.F" →
      ROK (fun e => ValueDep e ∨ e = .call) (fun v => ValOfV v V) (scfg6.world.call (methKey t name) vs) := by
    intro sigT ps hsig hm hkA hkF
    rw [show (cfgWith6 .asIs).dn = NDefects.asIs from rfl, hm] at hmt
    split at hmt
    · next h1 =>
      subst h1
      cases hmt
      rw [hsig] at hparts
      cases hparts
      cases hV.symm.trans (by decide : vtyOf (some tInt) = some (.sc (.num .int)))
      rw [hkA]
      exact ⟨7, rfl⟩
    · split at hmt
      · next h2 =>
        subst h2
        cases hmt
        cases hparts
        cases hV.symm.trans (by decide : vtyOf (some Ty.string) = some (.sc .string))
        rw [hkF]
        exact ⟨"a", rfl⟩
      · cases hmt
  have hrecv : ∀ x ∈ recvTys (cfgWith6 .asIs), vtyOf x = some (.obj x) → x = some tZM ∨ x = some (.ptr tZM) := by
    decide +kernel
  rcases hrecv t ht hVt with rfl | rfl
  · exact key addSig _ rfl (zmMethods name) zmKeys.1 zmKeys.2
  · exact key addSigP _ rfl (pzmMethods name) pzmKeys.1 pzmKeys.2

/-- end to end, with successful method calls: `M.Add(I, 2) + PM.Add(1, M.N) > 0 and M.F("a") == "a"` over an
environment and a world that satisfy every hypothesis (`Add` returns 7, `F` returns "a") -/
theorem sound_methods_witness : ∀ n' τ, check (cfgWith6 .asIs) exprMethods = .ok n' τ → ∀ ctx s,
      match (Spec.eval scfg6 ctx n' s).1 with
      | .ok v => ∃ b, v = .bool b
      | .error e => ValueDep e ∨ e = .call :=
  bool_of_sound exprMethods_facts.2.2 fun n' τ V h hV =>
    check_sound_calls_partial (cfgWith6 .asIs) scfg6 env6_conf rfl { methods := true } (fun h => by cases h)
      (fun h => by cases h) (fun _ => methods6) exprMethods n' τ V exprMethods_facts.1 exprMethods_facts.2.1 h hV

end ExprModel.C03
