import ExprModel.Proofs.SoundFrag
/-
Node lemmas of the extended fragment: slicing, array and map literals, `**`, member access, `matches`, and calls of
environment functions and methods behind a hypothesis on the world ("called with arguments of its parameter types, a function
returns a value of its declared result type or fails with a tolerated class").
-/
namespace ExprModel
open Spec

variable {E : ErrClass → Prop}

theorem sliceV_arr_gen {tag : ElemT} {xs : List Val} {fv tv : Val} {kf kt : Kind} (Q : Val → Prop) (hi : E .index)
    (hxs : ∀ x ∈ xs, Q x) (hf : NumOf fv kf) (ht : NumOf tv kt) :
    ROK E (fun v => ∃ ys, v = .arr tag ys ∧ ∀ y ∈ ys, Q y) (sliceV (.arr tag xs) fv tv) := by
  obtain ⟨f, hf'⟩ := toIntR_num hf
  obtain ⟨t, ht'⟩ := toIntR_num ht
  simp only [sliceV, hf', ht']
  refine rok_ite (fun _ => hi) (fun _ => ?_)
  exact ⟨_, rfl, fun x hx => hxs x (List.mem_of_mem_drop (List.mem_of_mem_take hx))⟩

theorem sliceV_coll {a fv tv : Val} {Va : VTy} (hi : E .index) (hVa : Va.isColl = true) (ha : ValOfV a Va)
    (hf : ∃ kf, NumOf fv kf) (ht : ∃ kt, NumOf tv kt) : ROK E (fun v => ValOfV v Va) (sliceV a fv tv) := by
  obtain ⟨kf, hf⟩ := hf
  obtain ⟨kt, ht⟩ := ht
  rcases VTy.isColl_cases hVa with ⟨k, rfl⟩ | ⟨et, rfl⟩
  · obtain ⟨et, xs, rfl, htag, hxs⟩ := ha
    exact (sliceV_arr_gen _ hi hxs hf ht).mono fun v ⟨ys, hv, hys⟩ => ⟨et, ys, hv, htag, hys⟩
  · obtain ⟨tag, xs, rfl, hall⟩ := ha
    exact (sliceV_arr_gen _ hi hall hf ht).mono fun v ⟨ys, hv, hys⟩ => ⟨tag, ys, hv, hys⟩

theorem bound_sound (cfg : CheckCfg) (c : SCfg) (cs : List OTy) (b : Option Node)
    (ih : ∀ n, b = some n → SpecS E (CtxFor cs) cfg c cs n)
    (hb : ∀ n, b = some n → intOK (synth cfg cs n) = true)
    (hs : synthBound cfg cs b = true) (ctx : Ctx) (hctx : CtxFor cs ctx) (d : SM Val)
    (hd : SMOK E (fun v => ∃ k, NumOf v k) d) :
    SMOK E (fun v => ∃ k, NumOf v k) (Spec.boundOr c ctx d (annotOpt cfg cs b)) := by
  cases b with
  | none => exact hd
  | some n =>
    obtain ⟨it, hsn, hii⟩ := synthBound_some hs
    have his := (intOK_elim (hb n rfl) hsn).1
    obtain ⟨ki, hki, _⟩ := (isIntegerT_scalar his).1 hii
    have ev := ih n rfl it _ hsn (vtyOf_scalar his) ctx hctx
    rw [hki] at ev
    exact smok_mono ev fun v hv => ⟨ki, hv⟩

theorem sliceResult_slice (dt : TDefects) {t : OTy} {Va : VTy} (hk : vtyOf t = some Va) (hVa : Va.isColl = true) :
    sliceResult dt t = t := by
  obtain ⟨ty, rfl, hp, hkind⟩ := coll_shape hk hVa
  unfold sliceResult
  have hd : OTy.deref (some ty) = some ty := by
    simp only [OTy.deref, Ty.deref_of_not_isPtr hp]
  rw [hd]
  simp [hkind]

theorem spec_slice (hi : E .index) (cfg : CheckCfg) (c : SCfg) (cs : List OTy) (m : Meta) (x : Node)
    (f t : Option Node) (ihx : SpecS E (CtxFor cs) cfg c cs x)
    (ihf : ∀ n, f = some n → SpecS E (CtxFor cs) cfg c cs n) (iht : ∀ n, t = some n → SpecS E (CtxFor cs) cfg c cs n)
    (hx : collOK (synth cfg cs x) = true)
    (hf : ∀ n, f = some n → intOK (synth cfg cs n) = true) (ht : ∀ n, t = some n → intOK (synth cfg cs n) = true) :
    SpecS E (CtxFor cs) cfg c cs (.slice m x f t) := by
  intro τ V hs hV
  obtain ⟨tx, hsx, _, hbf, hbt, hτ⟩ := synth_slice_some hs
  obtain ⟨Va, hk, hVa⟩ := vtyB_elim hx hsx
  rw [hτ, sliceResult_slice cfg.dt hk hVa] at hV
  cases hk.symm.trans hV
  intro ctx hctx
  rw [annot]
  show SMOK E _ (eval c ctx (.slice _ _ _ _))
  rw [Spec.eval_slice]
  refine smok_bind (ihx tx _ hsx hk ctx hctx) fun a ha => ?_
  have hlen : SMOK E (fun v => ∃ k, NumOf v k) (do pure (.int .int (← SM.lift (lengthV a)))) := by
    obtain ⟨et, xs, rfl⟩ := arr_of_sliceV (VTy.isSlice_of_isColl hVa) ha
    exact smok_pure ⟨.int, _, rfl⟩
  have hzero : SMOK E (fun v => ∃ k, NumOf v k) (pure (.int .int 0)) := smok_pure ⟨.int, _, rfl⟩
  have hF := bound_sound cfg c cs f ihf hf hbf ctx hctx _ hzero
  have hT := bound_sound cfg c cs t iht ht hbt ctx hctx _ hlen
  split
  · exact smok_bind hT fun tv htv => smok_bind hF fun fv hfv => smok_lift (sliceV_coll hi hVa ha hfv htv)
  · exact smok_bind hF fun fv hfv => smok_bind hT fun tv htv => smok_lift (sliceV_coll hi hVa ha hfv htv)

/-! `Node.isPair` (which clause of `evalList` reads an element) is kept by the checker's annotation and by the retyping of
integer literals. -/

theorem isPair_setKd (n : Node) (t : OTy) : (setKd n t).isPair = n.isPair := by
  cases n <;> rfl

theorem annot_isPair (cfg : CheckCfg) (cs : List OTy) : ∀ n : Node, (annot cfg cs n).isPair = n.isPair
  | .nil _ | .ident .. | .int .. | .float .. | .bool .. | .str .. | .const .. | .pointer _ | .builtin _ _ []
  | .builtin _ _ (_ :: _ :: _ :: _) => by simp only [annot, isPair_setKd]
  | .builtin _ _ [_] | .builtin _ _ [_, _] | .unary .. | .binary .. | .matches .. | .prop .. | .index .. | .slice ..
  | .method .. | .func .. | .closure .. | .cond .. | .array .. | .map .. | .pair .. => by
    simp only [annot, isPair_setKd]
    rfl

theorem setTypeForIntegers_isPair (k : RKind) (n : Node) : (setTypeForIntegers k n).isPair = n.isPair := by
  cases n <;> (try rfl) <;> (simp only [setTypeForIntegers]; split <;> rfl)

theorem intConst_num (k : Kind) (v : Int) : NumOf (intConst (.num k) v) k := by
  cases k <;> exact ⟨_, rfl⟩

theorem maxRank_self (k : Kind) : Kind.maxRank k k = k := by
  unfold Kind.maxRank; split <;> rfl

theorem litTree_sound (hd : E .divzero) (cfg : CheckCfg) (c : SCfg) (cs : List OTy) (k : Kind) (ctx : Ctx) :
    ∀ a : Node, intLiteralTree a = true →
      SMOK E (fun v => ValOfK v (.num k)) (eval c ctx (setTypeForIntegers (.num k) (annot cfg cs a)))
  | .int m v, _ => by
    simp only [annot, setKd, Node.withMeta, Node.getMeta, setTypeForIntegers, Spec.eval_int]
    exact smok_pure (intConst_num k v)
  | .unary m op x, h => by
    simp only [intLiteralTree, Bool.and_eq_true, Bool.or_eq_true, beq_iff_eq] at h
    have hop : (op == "+" || op == "-") = true := by simpa using h.1
    simp only [annot, setKd, Node.withMeta, Node.getMeta, setTypeForIntegers, hop, if_true]
    exact evalOK_sign c ctx _ op _ k h.1 (litTree_sound hd cfg c cs k ctx x h.2)
  | .binary m op l r, h => by
    simp only [intLiteralTree, Bool.and_eq_true, Bool.or_eq_true, beq_iff_eq] at h
    have hop : (op == "+" || op == "/" || op == "-" || op == "*") = true := by simpa using h.1.1
    simp only [annot, setKd, Node.withMeta, Node.getMeta, setTypeForIntegers, hop, if_true]
    have := evalOK_arith (E := E) hd c ctx { m with kd := (tyOf cfg cs (.binary m op l r)).kind } op _ _ k k
      (by rcases h.1.1 with ((e | e) | e) | e <;> simp [e])
      (litTree_sound hd cfg c cs k ctx l h.1.2) (litTree_sound hd cfg c cs k ctx r h.2)
    rw [maxRank_self] at this
    exact this
  -- written out, although `match` would close these cases from `h` by itself: that way costs ten times the elaboration
  | .nil _, h | .ident _ _ _, h | .float _ _, h | .bool _ _, h | .str _ _, h | .const _ _, h
  | .matches _ _ _ _, h | .prop _ _ _ _, h | .index _ _ _, h | .slice _ _ _ _, h
  | .method _ _ _ _ _, h | .func _ _ _ _, h | .builtin _ _ _, h | .closure _ _, h
  | .pointer _, h | .cond _ _ _ _, h | .array _ _, h | .map _ _, h | .pair _ _ _, h => by
    simp [intLiteralTree] at h

def ArgsConform (ins : List Ty) (variadic : Bool) (numIn offset : Nat) : Nat → List Val → Prop
  | _, [] => True
  | i, v :: rest =>
    (∃ Vp, vtyOf (paramFor ins variadic numIn offset i) = some Vp ∧ ValOfV v Vp) ∧
      ArgsConform ins variadic numIn offset (i + 1) rest

/-- **the hypothesis on the world**: an environment function called with arguments of its parameter
types returns a value of its declared result type, or fails with a tolerated class (`E`; a panic inside
the function is `ErrClass.call`) -/
def WorldConforms (E : ErrClass → Prop) (cfg : CheckCfg) (c : SCfg) : Prop :=
  ∀ (name : String) (fn : Ty) (isMethod : Bool) (ins : List Ty) (variadic : Bool) (numIn offset : Nat)
    (out : Ty) (vs : List Val) (V : VTy),
    funcTargetC cfg name = some (fn, isMethod) →
    funcPlan fn isMethod vs.length = .inr (ins, variadic, numIn, offset, out) →
    ArgsConform ins variadic numIn offset 0 vs → vtyOf (some out) = some V →
    ROK E (fun v => ValOfV v V) (callMember c.world c.env name vs)

/-- an argument the fragment admits for the parameter type `inT`: of the parameter's value type, or the parameter an interface;
or a tree of integer literals retyped to a numeric scalar parameter -/
def argOK (cfg : CheckCfg) (a : Node) (t0 : Option OTy) (inT : OTy) : Bool :=
  match t0 with
  | some t0 =>
    (vtyOf t0).isSome && (vtyOf inT).isSome &&
    (if retypes cfg.dt a inT then intLiteralTree a && inT.kind.isScalar && isNumberT inT
     else vtyOf inT == some .any || vtyOf t0 == vtyOf inT)
  | none => false

/-- what the recursion over the fragment delivers for an argument list (`frag2_args`; `ElemsOK`, `PairsOK` likewise); no
`pair`, so that `evalList_cons` is the clause of `evalList` that reads it -/
def ArgsOK (E : ErrClass → Prop) (cfg : CheckCfg) (c : SCfg) (cs : List OTy) (ins : List Ty) (variadic : Bool)
    (numIn offset : Nat) : Nat → List Node → Prop
  | _, [] => True
  | i, a :: rest =>
    (a.isPair = false ∧ Spec2 E cfg c cs a ∧
      argOK cfg a (synth cfg cs a) (paramFor ins variadic numIn offset i) = true) ∧
    ArgsOK E cfg c cs ins variadic numIn offset (i + 1) rest

theorem args_sound (hd : E .divzero) (cfg : CheckCfg) (c : SCfg) (cs : List OTy) (ins : List Ty) (variadic : Bool)
    (numIn offset : Nat) :
    ∀ (args : List Node) (i : Nat), ArgsOK E cfg c cs ins variadic numIn offset i args →
      synthArgs cfg cs ins variadic numIn offset i args = true → ∀ ctx, CtxFor cs ctx →
        SMOK E (fun vs => vs.length = args.length ∧ ArgsConform ins variadic numIn offset i vs)
          (evalList c ctx (annotArgs cfg cs ins variadic numIn offset i args))
  | [], i, _, _, ctx, _ => by
    rw [annotArgs, Spec.evalList_nil]
    exact smok_pure ⟨rfl, trivial⟩
  | a :: rest, i, ⟨⟨hnp, ih, harg⟩, hrest⟩, hs, ctx, hctx => by
    obtain ⟨t0, hsa, _, hsr⟩ := synthArgs_cons hs
    rw [hsa] at harg
    simp only [argOK, Bool.and_eq_true] at harg
    obtain ⟨⟨hv0, hvp⟩, hcase⟩ := harg
    obtain ⟨V0, hV0⟩ := Option.isSome_iff_exists.1 hv0
    obtain ⟨Vp, hVp⟩ := Option.isSome_iff_exists.1 hvp
    have ev := spec2_iff.1 ih t0 V0 hsa hV0 ctx hctx
    rw [annotArgs]
    generalize hp : paramFor ins variadic numIn offset i = p at hcase hVp ⊢
    have harg : SMOK E (fun v => ValOfV v Vp) (eval c ctx
        (if retypes cfg.dt a p = true then setTypeForIntegers (OTy.kind p) (annot cfg cs a) else annot cfg cs a)) := by
      by_cases hrt : retypes cfg.dt a p = true
      · rw [if_pos hrt] at hcase ⊢
        simp only [Bool.and_eq_true] at hcase
        obtain ⟨⟨hlit, hsc⟩, hnum⟩ := hcase
        obtain ⟨k, hk⟩ := (isNumberT_scalar (t := p) hsc).1 hnum
        rw [vtyOf_scalar (t := p) hsc, hk] at hVp
        cases hVp
        rw [hk]
        exact litTree_sound hd cfg c cs k ctx a hlit
      · rw [if_neg hrt] at hcase ⊢
        simp only [Bool.or_eq_true, beq_iff_eq] at hcase
        rcases hcase with hany | this
        · rw [hany] at hVp
          cases hVp
          exact smok_mono ev fun _ _ => trivial
        · rw [this, hVp] at hV0
          cases hV0
          exact ev
    have hnp' : (if retypes cfg.dt a p = true then setTypeForIntegers (OTy.kind p) (annot cfg cs a)
        else annot cfg cs a).isPair = false := by
      split
      · rw [setTypeForIntegers_isPair, annot_isPair]
        exact hnp
      · rw [annot_isPair]
        exact hnp
    rw [evalList_cons c ctx _ _ hnp']
    refine smok_bind harg fun v hv' => ?_
    refine smok_bind (args_sound hd cfg c cs ins variadic numIn offset rest (i + 1) hrest hsr ctx hctx) ?_
    intro vs ⟨hlen, hconf⟩
    exact smok_pure ⟨by simp only [List.length_cons, hlen], ⟨Vp, hp ▸ hVp, hv'⟩, hconf⟩

theorem funcPlan_cases (fn : Ty) (im : Bool) (n : Nat) :
    match funcPlan fn im n with
    | .inl rule => rule = .ok ifaceTy ∨ ∃ e, rule = .error e
    | .inr (ins, v, _, _, out) => fn.funcParts = some (ins, v, [out]) := by
  unfold funcPlan
  by_cases hi : (fn.kind == .iface) = true
  · rw [if_pos hi]
    exact .inl rfl
  rw [if_neg hi]
  cases hp : fn.funcParts with
  | none => exact .inl rfl
  | some q =>
    obtain ⟨ps, v, outs⟩ := q
    cases outs with
    | nil => exact .inr ⟨_, rfl⟩
    | cons o rest =>
      cases rest with
      | cons _ _ => exact .inr ⟨_, rfl⟩
      | nil =>
        dsimp only
        generalize (if im = true then ps.length - 1 else ps.length) = k
        by_cases c1 : (v && decide (n < k - 1)) = true
        · rw [if_pos c1]
          exact .inr ⟨_, rfl⟩
        rw [if_neg c1]
        by_cases c2 : (!v && decide (n > k)) = true
        · rw [if_pos c2]
          exact .inr ⟨_, rfl⟩
        rw [if_neg c2]
        by_cases c3 : (!v && decide (n < k)) = true
        · rw [if_pos c3]
          exact .inr ⟨_, rfl⟩
        rw [if_neg c3]

theorem funcPlan_inl {fn : Ty} {im : Bool} {n : Nat} {rule : Rule} (h : funcPlan fn im n = .inl rule) :
    rule = .ok ifaceTy ∨ ∃ e, rule = .error e := by
  have := funcPlan_cases fn im n
  rw [h] at this
  exact this

theorem spec_func (hd : E .divzero) (cfg : CheckCfg) (c : SCfg) (hw : WorldConforms E cfg c) (cs : List OTy) (m : Meta)
    (name : String) (args : List Node) (fast : Bool) (fn : Ty) (isMethod : Bool)
    (hft : funcTargetC cfg name = some (fn, isMethod))
    (hplan : ∃ ins variadic numIn offset out, funcPlan fn isMethod args.length = .inr (ins, variadic, numIn, offset, out) ∧
      ArgsOK E cfg c cs ins variadic numIn offset 0 args) :
    SpecS E (CtxFor cs) cfg c cs (.func m name args fast) := by
  intro τ V hs hV
  obtain ⟨ins, variadic, numIn, offset, out, hfp, hargs⟩ := hplan
  obtain ⟨hsa, rfl⟩ := synth_func_args hs hft hfp
  intro ctx hctx
  simp only [annot, planArgs, hft, hfp]
  show SMOK E _ (eval c ctx (.func _ name _ _))
  rw [Spec.eval_func]
  refine smok_bind (args_sound hd cfg c cs ins variadic numIn offset args 0 hargs hsa ctx hctx) fun vs ⟨hlen, hconf⟩ => ?_
  exact smok_callTail name vs
    (hw name fn isMethod ins variadic numIn offset out vs V hft (by rw [hlen]; exact hfp) hconf hV)

def ElemsOK (E : ErrClass → Prop) (cfg : CheckCfg) (c : SCfg) (cs : List OTy) : List Node → Prop
  | [] => True
  | a :: rest => (a.isPair = false ∧ Spec2 E cfg c cs a ∧ vtyOK (synth cfg cs a) = true) ∧ ElemsOK E cfg c cs rest

theorem elems_sound (cfg : CheckCfg) (c : SCfg) (cs : List OTy) :
    ∀ xs : List Node, ElemsOK E cfg c cs xs → synthList cfg cs xs = true → ∀ ctx, CtxFor cs ctx →
      SMOK E (fun _ => True) (evalList c ctx (annotList cfg cs xs))
  | [], _, _, ctx, _ => by
    rw [annotList, Spec.evalList_nil]
    exact smok_pure trivial
  | a :: rest, ⟨⟨hnp, ih, hv⟩, hrest⟩, hs, ctx, hctx => by
    obtain ⟨⟨t0, hsa⟩, hsr⟩ := synthList_cons hs
    rw [hsa] at hv
    obtain ⟨V0, hV0⟩ := Option.isSome_iff_exists.1 hv
    rw [annotList, evalList_cons c ctx _ _ (by rw [annot_isPair]; exact hnp)]
    exact smok_bind (spec2_iff.1 ih t0 V0 hsa hV0 ctx hctx) fun v _ =>
      smok_bind (elems_sound cfg c cs rest hrest hsr ctx hctx) fun vs _ => smok_pure trivial

theorem spec_array (hb : E .budget) (cfg : CheckCfg) (c : SCfg) (cs : List OTy) (m : Meta) (xs : List Node)
    (hxs : ElemsOK E cfg c cs xs) : SpecS E (CtxFor cs) cfg c cs (.array m xs) := by
  intro τ V hs hV
  obtain ⟨hl, rfl⟩ := synth_array_some hs
  cases hV.symm.trans (by decide : vtyOf arrayTy = some .anys)
  intro ctx hctx
  rw [annot]
  show SMOK E _ (eval c ctx (.array _ _))
  rw [Spec.eval_array]
  refine smok_bind (elems_sound cfg c cs xs hxs hl ctx hctx) fun vs _ => ?_
  exact smok_bind (smok_allocAfter hb _ _ _) fun _ _ => smok_pure ⟨vs, rfl⟩

theorem toFloat64Val_num {v : Val} {k : Kind} (h : NumOf v k) : ∃ x, toFloat64Val v = some x := by
  obtain ⟨x, hx⟩ := conv_num .float64 h
  exact ⟨x, by simp only [toFloat64Val, hx, numOf_kind h]⟩

theorem spec_pow {P : Ctx → Prop} (cfg : CheckCfg) (c : SCfg) (cs : List OTy) (m : Meta) (l r : Node)
    (ihl : SpecS E P cfg c cs l) (ihr : SpecS E P cfg c cs r)
    (hl : scalarOK (synth cfg cs l) = true) (hr : scalarOK (synth cfg cs r) = true) :
    SpecS E P cfg c cs (.binary m "**" l r) := by
  refine spec_binaryV cfg cs c m "**" l r ihl ihr fun lt rt τ V hsl hsr hrule hV => ?_
  have hls := scalarOK_elim hl hsl
  have hrs := scalarOK_elim hr hsr
  simp [binaryRule] at hrule
  split at hrule
  · rename_i hc
    cases hrule
    obtain ⟨ka, k1⟩ := (isNumberT_scalar hls).1 hc.1
    obtain ⟨kb, k2⟩ := (isNumberT_scalar hrs).1 hc.2
    have : vtyOf floatTy = some (.sc (.num .float64)) := by decide
    rw [this] at hV; cases hV
    refine ⟨_, _, vtyOf_scalar hls, vtyOf_scalar hrs, fun ctx m' l' r' _ _ ev1 ev2 => ?_⟩
    refine smok_strict ev1 ev2 (eval_strict c ctx m' (op := "**") rfl l' r') fun a b ha hb => ?_
    rw [Refine.binTail_powMatch]
    rw [k1] at ha; rw [k2] at hb
    obtain ⟨x, hx⟩ := toFloat64Val_num ha
    obtain ⟨y, hy⟩ := toFloat64Val_num hb
    simp only [hx, hy]
    exact smok_pure ⟨_, rfl⟩
  · cases hrule

theorem spec_prop_gen {P : Ctx → Prop} (cfg : CheckCfg) (c : SCfg) (cs : List OTy) (m : Meta) (x : Node) (name : String)
    (nilsafe : Bool) (ihx : SpecS E P cfg c cs x)
    (hx : ∀ t, synth cfg cs x = some t → ∃ Vx, vtyOf t = some Vx ∧
      ∀ τ V a, synth cfg cs (.prop m x name nilsafe) = some τ → vtyOf τ = some V → ValOfV a Vx →
        ROK E (fun v => ValOfV v V) (fetchV a (.str name) nilsafe)) :
    SpecS E P cfg c cs (.prop m x name nilsafe) := by
  intro τ V hs hV
  obtain ⟨t, hsx, _⟩ := synth_prop_some hs
  obtain ⟨Vx, hVx, hf⟩ := hx t hsx
  intro ctx hctx
  rw [annot]
  show SMOK E _ (eval c ctx (.prop _ _ name nilsafe))
  rw [Spec.eval_prop]
  exact smok_bind (ihx t Vx hsx hVx ctx hctx) fun a ha => smok_lift (hf τ V a hs hV ha)

theorem spec_prop {P : Ctx → Prop} (cfg : CheckCfg) (c : SCfg) (cs : List OTy) (hdn : cfg.dn = NDefects.asIs) (m : Meta)
    (x : Node) (name : String) (nilsafe : Bool) (ihx : SpecS E P cfg c cs x)
    (hx : objOK (synth cfg cs x) = true) :
    SpecS E P cfg c cs (.prop m x name nilsafe) := by
  refine spec_prop_gen cfg c cs m x name nilsafe ihx fun t hsx => ?_
  have hVt := objOK_elim hx hsx
  refine ⟨.obj t, hVt, fun τ V v hs hV hv => ?_⟩
  obtain ⟨t', hsx', hrule⟩ := synth_prop_some hs
  cases hsx.symm.trans hsx'
  obtain ⟨ft, hft, rfl⟩ : ∃ ft, fieldTypeT .asIs t name = some ft ∧ τ = some ft := by
    unfold propRule at hrule
    rw [hdn] at hrule
    cases hf : fieldTypeT NDefects.asIs t name with
    | some ft =>
      rw [hf] at hrule
      cases hrule
      exact ⟨ft, rfl, rfl⟩
    | none =>
      rw [hf] at hrule
      dsimp only at hrule
      split at hrule
      · cases hrule
      · cases hrule
        cases hV
  obtain ⟨_, _, _, _, hflds, _⟩ := (valOfV_obj_iff hVt v).1 hv
  obtain ⟨w, hw, hconf⟩ := hflds name ft hft
  rw [hw nilsafe]
  exact conf_valOfV hV hconf

theorem spec_prop_map {P : Ctx → Prop} (cfg : CheckCfg) (c : SCfg) (cs : List OTy) (m : Meta) (x : Node) (name : String)
    (nilsafe : Bool) (ihx : SpecS E P cfg c cs x)
    (h : propMapOK (synth cfg cs x) (synth cfg cs (.prop m x name nilsafe)) = true) :
    SpecS E P cfg c cs (.prop m x name nilsafe) := by
  refine spec_prop_gen cfg c cs m x name nilsafe ihx fun t hsx => ?_
  obtain ⟨τ0, hr, hVx, hVr⟩ := propMapOK_elim h hsx
  refine ⟨.mapAny, hVx, fun τ V a hτ hV ha => ?_⟩
  cases hr.symm.trans hτ
  cases hVr.symm.trans hV
  exact fetch_mapAny nilsafe ha ⟨name, rfl⟩

def PairsOK (E : ErrClass → Prop) (cfg : CheckCfg) (c : SCfg) (cs : List OTy) : List Node → Prop
  | [] => True
  | .pair _ k v :: rest =>
    (Spec2 E cfg c cs k ∧ Spec2 E cfg c cs v ∧
      (∀ kt, synth cfg cs k = some kt → vtyOf kt = some (.sc .string)) ∧ vtyOK (synth cfg cs v) = true) ∧
    PairsOK E cfg c cs rest
  | _ :: _ => False

/-- the flat list `k₁ v₁ k₂ v₂ …` with string keys -/
def FlatOK : List Val → Prop
  | [] => True
  | [_] => False
  | k :: _ :: rest => (∃ s, k = .str s) ∧ FlatOK rest

theorem buildMap_ok : ∀ vs : List Val, FlatOK vs → ∃ m, buildMap vs = .ok m
  | [], _ => ⟨_, rfl⟩
  | [_], h => absurd h id
  | k :: v :: rest, h => by
    obtain ⟨⟨s, rfl⟩, hr⟩ := h
    obtain ⟨m, hm⟩ := buildMap_ok rest hr
    exact ⟨insertSorted s v m, by simp only [buildMap, hm]; rfl⟩

theorem pairs_sound (cfg : CheckCfg) (c : SCfg) (cs : List OTy) :
    ∀ ps : List Node, PairsOK E cfg c cs ps → synthList cfg cs ps = true → ∀ ctx, CtxFor cs ctx →
      SMOK E FlatOK (evalList c ctx (annotList cfg cs ps))
  | [], _, _, ctx, _ => by
    rw [annotList, Spec.evalList_nil]
    exact smok_pure (Q := FlatOK) trivial
  | .pair m k v :: rest, ⟨⟨ihk, ihv, hkt, hvt⟩, hrest⟩, hs, ctx, hctx => by
    obtain ⟨⟨t, hsp⟩, hsr⟩ := synthList_cons hs
    obtain ⟨kt, vt, hsk, hsv, _, _⟩ := synth_pair_some hsp
    rw [hsv] at hvt
    obtain ⟨Vv, hVv⟩ := Option.isSome_iff_exists.1 hvt
    rw [annotList, annot]
    show SMOK E FlatOK (evalList c ctx (.pair _ _ _ :: _))
    rw [Spec.evalList_pair]
    exact smok_bind (spec2_iff.1 ihk kt _ hsk (hkt kt hsk) ctx hctx) fun kv hkv =>
      smok_bind (spec2_iff.1 ihv vt Vv hsv hVv ctx hctx) fun vv _ =>
        smok_bind (pairs_sound cfg c cs rest hrest hsr ctx hctx) fun vs hvs => smok_pure (Q := FlatOK) ⟨hkv, hvs⟩
  -- written out for the same reason as in `litTree_sound`
  | .nil _ :: _, h, _, _, _ | .ident _ _ _ :: _, h, _, _, _ | .int _ _ :: _, h, _, _, _ | .float _ _ :: _, h, _, _, _
  | .bool _ _ :: _, h, _, _, _ | .str _ _ :: _, h, _, _, _ | .const _ _ :: _, h, _, _, _ | .unary _ _ _ :: _, h, _, _, _
  | .binary _ _ _ _ :: _, h, _, _, _ | .matches _ _ _ _ :: _, h, _, _, _ | .prop _ _ _ _ :: _, h, _, _, _
  | .index _ _ _ :: _, h, _, _, _ | .slice _ _ _ _ :: _, h, _, _, _ | .method _ _ _ _ _ :: _, h, _, _, _
  | .func _ _ _ _ :: _, h, _, _, _ | .builtin _ _ _ :: _, h, _, _, _ | .closure _ _ :: _, h, _, _, _
  | .pointer _ :: _, h, _, _, _ | .cond _ _ _ _ :: _, h, _, _, _ | .array _ _ :: _, h, _, _, _ | .map _ _ :: _, h, _, _, _ =>
    absurd h id

theorem spec_mapLit (hb : E .budget) (cfg : CheckCfg) (c : SCfg) (cs : List OTy) (m : Meta) (ps : List Node)
    (hps : PairsOK E cfg c cs ps) : SpecS E (CtxFor cs) cfg c cs (.map m ps) := by
  intro τ V hs hV
  obtain ⟨hl, rfl⟩ := synth_map_some hs
  cases hV.symm.trans (by decide : vtyOf mapTy = some .mapAny)
  intro ctx hctx
  rw [annot]
  show SMOK E _ (eval c ctx (.map _ _))
  rw [Spec.eval_mapLit]
  refine smok_bind (pairs_sound cfg c cs ps hps hl ctx hctx) fun flat hflat => ?_
  obtain ⟨mm, hmm⟩ := buildMap_ok flat hflat
  rw [hmm]
  refine smok_bind (Qa := fun _ => True) (smok_lift trivial) fun mv _ => ?_
  exact smok_bind (smok_allocAfter hb _ _ _) fun _ _ => smok_pure ⟨_, rfl⟩

/-- **the hypothesis on regular expressions, for computed patterns too**: every pattern the program meets compiles (for a constant
pattern the compiler has checked it; a computed pattern that does not compile is a run-time failure that
depends on the pattern's value, which `Spec.eval` reports in the type class) -/
def RegexTotal (c : SCfg) : Prop := ∀ pat subj, (c.world.regexMatch pat subj).isSome = true

/-- `matches` is sound where the patterns it can meet compile: the node's own constant pattern (`hasRe`, read by `patOf`), or
whatever the right operand evaluates to -/
theorem spec_matches {P : Ctx → Prop} (cfg : CheckCfg) (c : SCfg) (cs : List OTy) (m : Meta) (hasRe : Bool) (l r : Node)
    (hpat : ∀ pat subj, (hasRe = true → Refine.patOf (annot cfg cs r) = pat) → (c.world.regexMatch pat subj).isSome = true)
    (ihl : SpecS E P cfg c cs l) (ihr : hasRe = false → SpecS E P cfg c cs r)
    (hl : ∀ t, synth cfg cs l = some t → vtyOf t = some (.sc .string))
    (hr : ∀ t, synth cfg cs r = some t → vtyOf t = some (.sc .string)) :
    SpecS E P cfg c cs (.matches m hasRe l r) := by
  intro τ V hs hV
  obtain ⟨lt, rt, hsl, hsr, hrule⟩ := synth_matches_some hs
  obtain rfl : τ = boolTy := by
    unfold matchesRule at hrule
    split at hrule
    · cases hrule
      rfl
    · cases hrule
  cases hV.symm.trans (by decide : vtyOf boolTy = some (.sc .bool))
  intro ctx hctx
  have hmatch : ∀ pat subj, (hasRe = true → Refine.patOf (annot cfg cs r) = pat) → SMOK E (fun v => ValOfV v (.sc .bool))
      (match c.world.regexMatch pat subj with
        | some mm => (pure (Val.bool mm) : SM Val)
        | none => SM.fail .type_) := by
    intro pat subj hp
    obtain ⟨mm, hmm⟩ := Option.isSome_iff_exists.1 (hpat pat subj hp)
    rw [hmm]
    exact smok_pure ⟨mm, rfl⟩
  rw [annot]
  show SMOK E _ (eval c ctx (.matches _ hasRe _ _))
  rw [Spec.eval_matches]
  refine smok_bind (ihl lt _ hsl (hl lt hsl) ctx hctx) fun a ha => ?_
  obtain ⟨subj, rfl⟩ := ha
  cases hasRe with
  | true =>
    simp only [if_true]
    exact hmatch _ subj fun _ => rfl
  | false =>
    simp only [Bool.false_eq_true, if_false]
    refine smok_bind (ihr rfl rt _ hsr (hr rt hsr) ctx hctx) fun b hb => ?_
    obtain ⟨pat, rfl⟩ := hb
    exact hmatch pat subj fun h => by cases h

theorem spec2_matches (cfg : CheckCfg) (c : SCfg) (hre : RegexTotal c) (cs : List OTy) (m : Meta) (hasRe : Bool) (l r : Node)
    (ihl : Spec2 E cfg c cs l) (ihr : Spec2 E cfg c cs r)
    (hl : ∀ t, synth cfg cs l = some t → vtyOf t = some (.sc .string))
    (hr : ∀ t, synth cfg cs r = some t → vtyOf t = some (.sc .string)) :
    Spec2 E cfg c cs (.matches m hasRe l r) :=
  spec2_iff.2 (spec_matches cfg c cs m hasRe l r (fun pat subj _ => hre pat subj) (spec2_iff.1 ihl) (fun _ => spec2_iff.1 ihr) hl hr)

/-- **the hypothesis on regular expressions, as the fragment needs it**: the patterns admitted by `ok` compile.  (A faithful
world does not compile every pattern — `"("` —; the fragment admits `matches` only with a string literal `ok` accepts, so
the failure "bad pattern", which `Spec.eval` reports in the type class, cannot arise.  A computed pattern stays outside.) -/
def RegexOn (c : SCfg) (ok : String → Bool) : Prop :=
  ∀ pat subj, ok pat = true → (c.world.regexMatch pat subj).isSome = true

theorem spec_matches_lit {P : Ctx → Prop} (cfg : CheckCfg) (c : SCfg) (cs : List OTy) (m mr : Meta) (pat : String) (l : Node)
    (hpat : ∀ subj, (c.world.regexMatch pat subj).isSome = true)
    (ihl : SpecS E P cfg c cs l)
    (hl : strOK (synth cfg cs l) = true) :
    SpecS E P cfg c cs (.matches m true l (.str mr pat)) :=
  spec_matches cfg c cs m true l (.str mr pat) (fun p subj h => h rfl ▸ hpat subj) ihl (fun h => by cases h)
    (fun t => strOK_elim hl) fun t h => by
      cases (show some stringTy = some t from h)
      decide

/-- the types one step below `t` -/
def memberTys (t : Ty) : List Ty :=
  (t.deref.fields.map (·.ty)) ++
    (match t.core with
      | .slice e | .ptr e | .array _ e | .map _ e => [e]
      | _ => [])

def expandTys : Nat → List Ty → List Ty
  | 0, ts => ts
  | n + 1, ts => ts ++ expandTys n (ts.flatMap memberTys)

/-- the types a receiver can have: those of the environment's members, and what is reachable from them in three
steps of `memberTys` (a bound that makes the list finite; `typed2` asks `recvOK` of every receiver, so a type further
down is outside the fragment) -/
def recvTys (cfg : CheckCfg) : List OTy :=
  (expandTys 3 ((cfg.types.getD []).filterMap (·.2.ty))).map some

/-- **the hypothesis on methods**: for every receiver type of the environment (`recvTys cfg`) and every
method or function-typed member the checker resolves on it, the function labelled `methKey t name`, called
with arguments of its parameter types, returns a value of its declared result type or fails with a
tolerated class.  (It speaks of the finitely many members of the environment's own types, each under its own
label; so it constrains the world on those labels only.) -/
def MethodsConform (E : ErrClass → Prop) (cfg : CheckCfg) (c : SCfg) : Prop :=
  ∀ (t : OTy), t ∈ recvTys cfg → ∀ (name : String) (fn : Ty) (isMethod : Bool)
    (ins : List Ty) (variadic : Bool) (numIn offset : Nat) (out : Ty) (vs : List Val) (V : VTy),
    vtyOf t = some (.obj t) →
    methodTarget cfg.dn t name = some (fn, isMethod) →
    funcPlan fn isMethod vs.length = .inr (ins, variadic, numIn, offset, out) →
    ArgsConform ins variadic numIn offset 0 vs → vtyOf (some out) = some V →
    ROK E (fun v => ValOfV v V) (c.world.call (methKey t name) vs)

def recvOK (cfg : CheckCfg) (t : Option OTy) : Bool :=
  match t with
  | some τ => (recvTys cfg).contains τ
  | none => false

theorem recvOK_elim {cfg : CheckCfg} {o : Option OTy} (h : recvOK cfg o = true) {t : OTy} (ht : o = some t) :
    t ∈ recvTys cfg := by
  rw [ht] at h
  exact List.contains_iff_mem.1 h

theorem spec_method (hd : E .divzero) (cfg : CheckCfg) (c : SCfg) (hdn : cfg.dn = NDefects.asIs)
    (hm : MethodsConform E cfg c) (cs : List OTy)
    (m : Meta) (x : Node) (name : String) (args : List Node) (nilsafe : Bool)
    (ihx : SpecS E (CtxFor cs) cfg c cs x)
    (hx : objOK (synth cfg cs x) = true)
    (hrecv : recvOK cfg (synth cfg cs x) = true)
    (hplan : ∀ t fn isMethod, synth cfg cs x = some t → methodTarget cfg.dn t name = some (fn, isMethod) →
      ∃ ins variadic numIn offset out, funcPlan fn isMethod args.length = .inr (ins, variadic, numIn, offset, out) ∧
        ArgsOK E cfg c cs ins variadic numIn offset 0 args) :
    SpecS E (CtxFor cs) cfg c cs (.method m x name args nilsafe) := by
  intro τ V hs hV
  obtain ⟨t, hsx⟩ := synth_method_some hs
  have hVt := objOK_elim hx hsx
  cases hmt : methodTarget cfg.dn t name with
  | none =>
    -- no such member: an error, or with `?.` the nil type, which has no value type
    simp only [synth, hsx, hmt] at hs
    split at hs
    · cases hs
    · cases hs
      cases hV
  | some p =>
    obtain ⟨fn, isMethod⟩ := p
    obtain ⟨ins, variadic, numIn, offset, out, hfp, hargs⟩ := hplan t fn isMethod hsx hmt
    obtain ⟨hsa, rfl⟩ := synth_method_args hs hsx hmt hfp
    intro ctx hctx
    simp only [annot, planArgs, tyOf_some hsx, hmt, hfp]
    show SMOK E _ (eval c ctx (.method _ _ name _ nilsafe))
    rw [Spec.eval_method]
    refine smok_bind (ihx t _ hsx hVt ctx hctx) fun obj hobj =>
      smok_bind (args_sound hd cfg c cs ins variadic numIn offset args 0 hargs hsa ctx hctx) fun vs ⟨hlen, hconf⟩ => ?_
    -- the receiver is a struct value: not nil
    obtain ⟨nm, p, fs, rfl, _, hmeths⟩ := (valOfV_obj_iff hVt obj).1 hobj
    have hid := hmeths name fn isMethod (by rw [← hdn]; exact hmt)
    have hcall : ROK E (fun v => ValOfV v V) (callMember c.world (.struct nm p fs) name vs) := by
      have := hm t (recvOK_elim hrecv hsx) name fn isMethod ins variadic numIn offset out vs V hVt hmt
        (by rw [hlen]; exact hfp) hconf hV
      simp only [callMember, hid]
      exact this
    simp only [Val.isNilLike, Bool.and_false, Bool.false_eq_true, if_false]
    exact smok_callTail name vs hcall

end ExprModel
