import ExprModel.Proofs.Walk
/-
The traversal theorems for the walker that visits every child (`walkU` = `walk refSlots`): bracketing of the Enter/Exit
stream (`walkU_bracket`, the step from which a logged walk is seen only to append to its log: `walkU_logAppends`),
once-each, an Exit-only visitor is the bottom-up rewrite `bottomUp` (`walkU_onExit`), and where a bottom-up rewrite
leaves the sub-tree at a position (`bottomUp_at*`, under `spineInert` or the weaker `spineKeepsChildren`).
-/
namespace ExprModel
open Node

section
variable {σ : Type}

/-- `α` is `Node` for the walk of a node and `List Node` for the walk of a list of children, both with a logged visitor -/
def LogAppends {α : Type} (r : α → σ × List Event → Option (α × (σ × List Event))) : Prop :=
  ∀ a s log a' s' log', r a (s, log) = some (a', (s', log')) → ∃ evs, log' = log ++ evs

theorem walkList_logAppends {rec : Node → σ × List Event → Option (Node × (σ × List Event))} (hrec : LogAppends rec) :
    LogAppends (walkList rec) := by
  intro cs
  induction cs with
  | nil => intro s log ks s' log' h; simp [walkList] at h; exact ⟨[], by simp [h.2.2]⟩
  | cons c cs ihc =>
    intro s log ks s' log' h
    rw [walkList_cons] at h
    obtain ⟨c', ⟨s1, l1⟩, cs', ⟨s2, l2⟩, h1, h2, h3⟩ := h
    cases h3
    obtain ⟨e1, rfl⟩ := hrec _ _ _ _ _ _ h1
    obtain ⟨e2, rfl⟩ := ihc _ _ _ _ _ h2
    exact ⟨e1 ++ e2, by simp⟩

/-- One node of a logged walk whose child walks only append (`walkU_logAppends`: they do).  The `enter` event carries the
    node as given, before `v.enter` may replace it; the `exit` event the node with its walked children, before `v.exit`
    may replace it. -/
theorem walkU_bracket (v : Visitor σ) (f : Nat) (hf : LogAppends (walkU v.logged f)) (n : Node) (s : σ) (log : List Event)
    (n' : Node) (s' : σ) (log' : List Event)
    (h : walkU v.logged (f + 1) n (s, log) = some (n', (s', log'))) :
    ∃ ks s2 mid,
      walkList (walkU v.logged f) (v.enter n s).1.children ((v.enter n s).2, log ++ [.enter n])
        = some (ks, (s2, log ++ [.enter n] ++ mid)) ∧
      v.exit ((v.enter n s).1.withChildren ks) s2 = (n', s') ∧
      log' = log ++ [.enter n] ++ mid ++ [.exit ((v.enter n s).1.withChildren ks)] := by
  rw [walkU_succ] at h
  simp only [logged_enter] at h
  split at h
  · cases h
  · next ks st2 heq =>
    rcases st2 with ⟨s2, l2⟩
    obtain ⟨mid, rfl⟩ := walkList_logAppends hf _ _ _ _ _ _ heq
    simp only [Option.some.injEq, logged_exit, Prod.mk.injEq] at h
    refine ⟨ks, s2, mid, heq, ?_, ?_⟩
    · exact Prod.ext h.1 h.2.1
    · exact h.2.2.symm

theorem walkU_logAppends (v : Visitor σ) : ∀ f, LogAppends (walkU v.logged f)
  | 0 => fun _ _ _ _ _ _ h => nomatch h
  | f + 1 => fun n s log n' s' log' h => by
    obtain ⟨ks, s2, mid, _, _, rfl⟩ := walkU_bracket v f (walkU_logAppends v f) n s log n' s' log' h
    exact ⟨[.enter n] ++ mid ++ [.exit ((v.enter n s).1.withChildren ks)], by simp⟩

theorem walkList_logged_cons (v : Visitor σ) (f : Nat) (c : Node) (cs : List Node) (s : σ) (log : List Event)
    (ks : List Node) (s' : σ) (log' : List Event)
    (h : walkList (walkU v.logged f) (c :: cs) (s, log) = some (ks, (s', log'))) :
    ∃ c' s1 e1 cs' e2,
      walkU v.logged f c (s, log) = some (c', (s1, log ++ e1)) ∧
      walkList (walkU v.logged f) cs (s1, log ++ e1) = some (cs', (s', log ++ e1 ++ e2)) ∧
      ks = c' :: cs' ∧ log' = log ++ e1 ++ e2 := by
  rw [walkList_cons] at h
  obtain ⟨c', ⟨s1, l1⟩, cs', ⟨s2, l2⟩, h1, h2, h3⟩ := h
  cases h3
  obtain ⟨e1, rfl⟩ := walkU_logAppends v f _ _ _ _ _ _ h1
  obtain ⟨e2, rfl⟩ := walkList_logAppends (walkU_logAppends v f) _ _ _ _ _ _ h2
  exact ⟨c', s1, e1, cs', e2, h1, h2, rfl, rfl⟩

theorem walkList_observing (rec : Node → σ × List Event → Option (Node × (σ × List Event))) (cs : List Node)
    (hrec : ∀ c ∈ cs, ∀ s log, ∃ s', rec c (s, log) = some (c, (s', log ++ c.trace))) :
    ∀ s log, ∃ s', walkList rec cs (s, log) = some (cs, (s', log ++ (cs.map trace).flatten)) := by
  induction cs with
  | nil => intro s log; exact ⟨s, by simp [walkList]⟩
  | cons c cs ih =>
    intro s log
    obtain ⟨s1, h1⟩ := hrec c (List.mem_cons_self) s log
    obtain ⟨s2, h2⟩ := ih (fun d hd => hrec d (List.mem_cons_of_mem _ hd)) s1 (log ++ c.trace)
    refine ⟨s2, ?_⟩
    rw [walkList_cons]
    exact ⟨c, _, cs, _, h1, h2, by simp⟩

theorem walkU_observing (v : Visitor σ) (hv : v.Observing) :
    ∀ (f : Nat) (n : Node) (s : σ) (log : List Event), n.height ≤ f →
      ∃ s', walkU v.logged f n (s, log) = some (n, (s', log ++ n.trace)) := by
  intro f n s log h
  revert s log
  refine Node.induction_fuel
    (P := fun f n => ∀ s log, ∃ s', walkU v.logged f n (s, log) = some (n, (s', log ++ n.trace)))
    (fun f n hkids s log => ?_) f n h
  rw [walkU_succ]
  simp only [logged_enter, hv.1]
  obtain ⟨s2, h2⟩ := walkList_observing (walkU v.logged f) n.children hkids (v.enter n s).2 (log ++ [.enter n])
  rw [h2]
  simp only [logged_exit, hv.2, withChildren_children]
  refine ⟨(v.exit n s2).2, ?_⟩
  rw [trace_eq n]
  simp

theorem trace_entered (n : Node) : n.trace.filterMap Event.entered = n.preorder :=
  foldN_fusion (List.filterMap Event.entered) (fun n rs => by
    simp only [List.filterMap_cons, Event.entered, List.filterMap_append, List.filterMap_nil, List.append_nil,
      List.filterMap_flatten]) n

theorem trace_exited (n : Node) : n.trace.filterMap Event.exited = n.postorder :=
  foldN_fusion (List.filterMap Event.exited) (fun n rs => by
    simp only [List.filterMap_cons, Event.exited, List.filterMap_append, List.filterMap_nil,
      List.filterMap_flatten]) n

theorem preorder_length (n : Node) : n.preorder.length = n.size :=
  foldN_fusion List.length (fun n rs => by rw [List.length_cons, List.length_flatten]) n

theorem postorder_length (n : Node) : n.postorder.length = n.size :=
  foldN_fusion List.length (fun n rs => by rw [List.length_append, List.length_flatten]; rfl) n

theorem bottomUpS_eq (ex : Node → σ → Node × σ) (n : Node) (s : σ) :
    bottomUpS ex n s =
      ex (n.withChildren (seqS (n.children.map (bottomUpS ex)) s).1) (seqS (n.children.map (bottomUpS ex)) s).2 := by
  unfold bottomUpS
  rw [foldN_eq]

theorem walkList_seqS (rec : Node → σ → Option (Node × σ)) (B : Node → σ → Node × σ) (cs : List Node)
    (h : ∀ c ∈ cs, ∀ s, rec c s = some (B c s)) :
    ∀ s, walkList rec cs s = some (seqS (cs.map B) s) := by
  induction cs with
  | nil => intro s; rfl
  | cons c cs ih =>
    intro s
    rw [walkList_cons]
    exact ⟨_, _, _, _, h c List.mem_cons_self s, ih (fun d hd => h d (List.mem_cons_of_mem _ hd)) _, rfl⟩

theorem walkU_onExitS (ex : Node → σ → Node × σ) :
    ∀ (f : Nat) (n : Node) (s : σ), n.height ≤ f → walkU (Visitor.onExitS ex) f n s = some (bottomUpS ex n s) := by
  intro f n s h
  revert s
  refine Node.induction_fuel (P := fun f n => ∀ s, walkU (Visitor.onExitS ex) f n s = some (bottomUpS ex n s))
    (fun f n hk s => ?_) f n h
  rw [walkU_succ]
  show (match walkList (walkU (Visitor.onExitS ex) f) n.children s with
    | none => none
    | some (ks, s2) => some (ex (n.withChildren ks) s2)) = _
  rw [walkList_seqS _ _ _ hk, bottomUpS_eq]

theorem seqS_stateless (g : Node → Node) (cs : List Node) (u : σ) :
    seqS (cs.map fun c s => (g c, s)) u = (cs.map g, u) := by
  induction cs with
  | nil => rfl
  | cons c cs ih => simp [seqS, ih]

theorem bottomUpS_stateless (g : Node → Node) (n : Node) (u : σ) :
    bottomUpS (fun n s => (g n, s)) n u = (bottomUp g n, u) :=
  congrFun (Node.fun_unique (G := fun n u => (bottomUp g n, u))
    (fun n rs s => (g (n.withChildren (seqS rs s).1), (seqS rs s).2))
    (fun n => funext (bottomUpS_eq _ n))
    (fun n => funext fun s => by rw [seqS_stateless (bottomUp g), bottomUp_eq]) n) u

theorem walkU_onExit (g : Node → Node) (f : Nat) (n : Node) (h : n.height ≤ f) :
    walkU (Visitor.onExit g) f n () = some (bottomUp g n, ()) := by
  have := walkU_onExitS (fun n (s : Unit) => (g n, s)) f n () h
  rw [bottomUpS_stateless] at this
  exact this

/-- the visitor leaves the nodes strictly above position `p` as they are (after their children were rewritten) -/
def spineInert (g : Node → Node) : List Nat → Node → Prop
  | [], _ => True
  | i :: p, n =>
    g (n.mapChildren (bottomUp g)) = n.mapChildren (bottomUp g) ∧
    ∀ c, n.children[i]? = some c → spineInert g p c

theorem nodeAt_cons_bottomUp (g : Node → Node) (i : Nat) (p : List Nat) (n : Node)
    (hg : (g (n.mapChildren (bottomUp g))).children = (n.mapChildren (bottomUp g)).children) :
    nodeAt (i :: p) (bottomUp g n) = (n.children[i]?).bind fun c => nodeAt p (bottomUp g c) := by
  unfold mapChildren at hg
  rw [bottomUp_eq]
  simp only [nodeAt]
  rw [hg, children_withChildren _ _ (by simp), List.getElem?_map]
  cases n.children[i]? <;> rfl

/-- all that `nodeAt p` needs of the ancestors; weaker than `spineInert` -/
def spineKeepsChildren (g : Node → Node) : List Nat → Node → Prop
  | [], _ => True
  | i :: p, n =>
    (g (n.mapChildren (bottomUp g))).children = (n.mapChildren (bottomUp g)).children ∧
    ∀ c, n.children[i]? = some c → spineKeepsChildren g p c

theorem bottomUp_at_of_spine (g : Node → Node) : ∀ (p : List Nat) (n : Node), spineKeepsChildren g p n →
    nodeAt p (bottomUp g n) = (nodeAt p n).map (bottomUp g) := by
  intro p
  induction p with
  | nil => intro n _; rfl
  | cons i p ih =>
    intro n h
    obtain ⟨hg, hc⟩ := h
    rw [nodeAt_cons_bottomUp g i p n hg]
    simp only [nodeAt]
    cases hi : n.children[i]? with
    | none => rfl
    | some c => exact ih c (hc c hi)

theorem spineInert.keepsChildren {g : Node → Node} : ∀ {p : List Nat} {n : Node},
    spineInert g p n → spineKeepsChildren g p n
  | [], _, _ => trivial
  | _ :: _, _, ⟨hg, hc⟩ => ⟨congrArg children hg, fun c hi => (hc c hi).keepsChildren⟩

theorem spineKeepsChildren.of_forall {g : Node → Node} (hg : ∀ n, (g n).children = n.children) :
    ∀ (p : List Nat) (n : Node), spineKeepsChildren g p n
  | [], _ => trivial
  | _ :: p, _ => ⟨hg _, fun c _ => spineKeepsChildren.of_forall hg p c⟩

theorem bottomUp_at (g : Node → Node) (p : List Nat) (n : Node) (h : spineInert g p n) :
    nodeAt p (bottomUp g n) = (nodeAt p n).map (bottomUp g) :=
  bottomUp_at_of_spine g p n h.keepsChildren

theorem bottomUp_at_of_children (g : Node → Node) (hg : ∀ n, (g n).children = n.children)
    (p : List Nat) (n : Node) : nodeAt p (bottomUp g n) = (nodeAt p n).map (bottomUp g) :=
  bottomUp_at_of_spine g p n (.of_forall hg p n)

end
end ExprModel
