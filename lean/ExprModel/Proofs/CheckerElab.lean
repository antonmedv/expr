import ExprModel.Proofs.CheckerBase
/-
On the success path the visitor is a pair of pure functions: `synth` (Types/HasType.lean) gives the type, `annot cfg cs n`
the tree `visit` returns for a well-typed `n` inside closures over `cs` (every node annotated with the kind of its `synth`
type, call arguments retyped, `fast` set).  `visit_of_synth`: where `synth` gives a type, `visit` returns `annot`, that
type and the state it was given, whatever that state is.  So a fact about an accepted tree has no state in it.
-/
namespace ExprModel

/-- the type `annot` writes on `n`.  It is read for well-typed `n` only, through `tyOf_some`: on an ill-typed node it answers the
nil type, which a well-typed node can have as well. -/
def tyOf (cfg : CheckCfg) (cs : List OTy) (n : Node) : OTy := (synth cfg cs n).getD none

/-- the argument list of a call as `checkFunc` leaves it -/
def planArgs (f : List Ty → Bool → Nat → Nat → List Node) (tgt : Option (Ty × Bool)) (args : List Node) : List Node :=
  match tgt with
  | some (fn, isMethod) =>
    match funcPlan fn isMethod args.length with
    | .inl _ => args
    | .inr (ins, variadic, numIn, offset, _) => f ins variadic numIn offset
  | none => args

mutual

def annot (cfg : CheckCfg) : List OTy → Node → Node
  | cs, .unary m op x => setKd (.unary m op (annot cfg cs x)) (tyOf cfg cs (.unary m op x))
  | cs, .binary m op l r => setKd (.binary m op (annot cfg cs l) (annot cfg cs r)) (tyOf cfg cs (.binary m op l r))
  | cs, .matches m h l r => setKd (.matches m h (annot cfg cs l) (annot cfg cs r)) (tyOf cfg cs (.matches m h l r))
  | cs, .prop m x name ns => setKd (.prop m (annot cfg cs x) name ns) (tyOf cfg cs (.prop m x name ns))
  | cs, .index m x i => setKd (.index m (annot cfg cs x) (annot cfg cs i)) (tyOf cfg cs (.index m x i))
  | cs, .slice m x f t =>
    setKd (.slice m (annot cfg cs x) (annotOpt cfg cs f) (annotOpt cfg cs t)) (tyOf cfg cs (.slice m x f t))
  | cs, .method m x name args ns =>
    setKd (.method m (annot cfg cs x)
        name (planArgs (fun ins v numIn off => annotArgs cfg cs ins v numIn off 0 args)
          (methodTarget cfg.dn (tyOf cfg cs x) name) args) ns)
      (tyOf cfg cs (.method m x name args ns))
  | cs, .func m name args fast =>
    setKd (.func m name (planArgs (fun ins v numIn off => annotArgs cfg cs ins v numIn off 0 args) (funcTargetC cfg name) args)
        (match funcTargetC cfg name with | some (fn, isMethod) => fastCall cfg.dt fn isMethod | none => fast))
      (tyOf cfg cs (.func m name args fast))
  | cs, .builtin m name [a] => setKd (.builtin m name [annot cfg cs a]) (tyOf cfg cs (.builtin m name [a]))
  | cs, .builtin m name [a, c] =>
    setKd (.builtin m name [annot cfg cs a, annot cfg (tyOf cfg cs a :: cs) c]) (tyOf cfg cs (.builtin m name [a, c]))
  | cs, .closure m x => setKd (.closure m (annot cfg cs x)) (tyOf cfg cs (.closure m x))
  | cs, .cond m c a b =>
    setKd (.cond m (annot cfg cs c) (annot cfg cs a) (annot cfg cs b)) (tyOf cfg cs (.cond m c a b))
  | cs, .array m xs => setKd (.array m (annotList cfg cs xs)) (tyOf cfg cs (.array m xs))
  | cs, .map m ps => setKd (.map m (annotList cfg cs ps)) (tyOf cfg cs (.map m ps))
  | cs, .pair m k v => setKd (.pair m (annot cfg cs k) (annot cfg cs v)) (tyOf cfg cs (.pair m k v))
  | cs, n => setKd n (tyOf cfg cs n)

def annotOpt (cfg : CheckCfg) : List OTy → Option Node → Option Node
  | _, none => none
  | cs, some n => some (annot cfg cs n)

def annotList (cfg : CheckCfg) : List OTy → List Node → List Node
  | _, [] => []
  | cs, n :: ns => annot cfg cs n :: annotList cfg cs ns

def annotArgs (cfg : CheckCfg) (cs : List OTy) (ins : List Ty) (variadic : Bool) (numIn offset : Nat) :
    Nat → List Node → List Node
  | _, [] => []
  | i, a :: rest =>
    (if retypes cfg.dt a (paramFor ins variadic numIn offset i)
      then setTypeForIntegers (paramFor ins variadic numIn offset i).kind (annot cfg cs a) else annot cfg cs a) ::
      annotArgs cfg cs ins variadic numIn offset (i + 1) rest

end

theorem tyOf_some {cfg : CheckCfg} {cs : List OTy} {n : Node} {τ : OTy} (h : synth cfg cs n = some τ) :
    tyOf cfg cs n = τ := by
  rw [tyOf, h]
  rfl

variable {cfg : CheckCfg} {cs : List OTy} {m : Meta} {τ : OTy}

theorem annot_kd {n : Node} (h : synth cfg cs n = some τ) : (annot cfg cs n).kd = τ.kind := by
  rw [← tyOf_some h]
  clear h
  -- `.builtin` is split into the four list shapes of `annot`'s own clauses: its equations exist for these patterns only
  match n with
  | .builtin m name [] | .builtin m name [_] | .builtin m name [_, _] | .builtin m name (_ :: _ :: _ :: _) =>
    simp only [annot, setKd_kd]
  | .nil _ | .ident .. | .int .. | .float .. | .bool .. | .str .. | .const .. | .unary .. | .binary .. | .matches ..
  | .prop .. | .index .. | .slice .. | .method .. | .func .. | .closure .. | .pointer _ | .cond .. | .array ..
  | .map .. | .pair .. => simp only [annot, setKd_kd]

theorem ite_some {β : Type} {c : Bool} {x b : β} (h : (if c then some x else none) = some b) : c = true ∧ x = b := by
  cases c with
  | false => cases h
  | true => cases h; exact ⟨rfl, rfl⟩

theorem synth_unary_some {op : String} {x : Node} (h : synth cfg cs (.unary m op x) = some τ) :
    ∃ t, synth cfg cs x = some t ∧ unaryRule op t = .ok τ := by
  simp only [synth] at h
  split at h
  · next t hx => exact ⟨t, hx, toOption'_some h⟩
  · cases h

theorem synth_prop_some {x : Node} {name : String} {ns : Bool} (h : synth cfg cs (.prop m x name ns) = some τ) :
    ∃ t, synth cfg cs x = some t ∧ propRule cfg.dn t name ns = .ok τ := by
  simp only [synth] at h
  split at h
  · next t hx => exact ⟨t, hx, toOption'_some h⟩
  · cases h

theorem synth_binary_some {op : String} {l r : Node} (h : synth cfg cs (.binary m op l r) = some τ) :
    ∃ lt rt, synth cfg cs l = some lt ∧ synth cfg cs r = some rt ∧ binaryRule cfg.dt op lt rt = .ok τ := by
  simp only [synth] at h
  split at h
  · next lt rt hl hr => exact ⟨lt, rt, hl, hr, toOption'_some h⟩
  · cases h

theorem synth_matches_some {hasRe : Bool} {l r : Node} (h : synth cfg cs (.matches m hasRe l r) = some τ) :
    ∃ lt rt, synth cfg cs l = some lt ∧ synth cfg cs r = some rt ∧ matchesRule lt rt = .ok τ := by
  simp only [synth] at h
  split at h
  · next lt rt hl hr => exact ⟨lt, rt, hl, hr, toOption'_some h⟩
  · cases h

theorem synth_index_some {x i : Node} (h : synth cfg cs (.index m x i) = some τ) :
    ∃ t it, synth cfg cs x = some t ∧ synth cfg cs i = some it ∧ indexRule cfg.dt t it = .ok τ := by
  simp only [synth] at h
  split at h
  · next t it hx hi => exact ⟨t, it, hx, hi, toOption'_some h⟩
  · cases h

theorem synth_pair_some {k v : Node} (h : synth cfg cs (.pair m k v) = some τ) :
    ∃ kt vt, synth cfg cs k = some kt ∧ synth cfg cs v = some vt ∧ pairKeyRule cfg.dt kt = .ok none ∧ τ = none := by
  simp only [synth] at h
  split at h
  · next kt vt hk hv =>
    refine ⟨kt, vt, hk, hv, ?_⟩
    cases hr : pairKeyRule cfg.dt kt with
    | error c => rw [hr] at h; cases h
    | ok t =>
      rw [hr] at h
      cases h
      unfold pairKeyRule at hr
      split at hr
      · cases hr; exact ⟨rfl, rfl⟩
      · cases hr
  · cases h

theorem synth_cond_some {c a b : Node} (h : synth cfg cs (.cond m c a b) = some τ) :
    ∃ ct t1 t2, synth cfg cs c = some ct ∧ isBoolT ct = true ∧ synth cfg cs a = some t1 ∧ synth cfg cs b = some t2 ∧
      τ = condType cfg.dt t1 t2 := by
  simp only [synth] at h
  split at h
  · next ct hc =>
    cases hb : isBoolT ct with
    | false => simp only [hb, Bool.not_false, if_true] at h; cases h
    | true =>
      simp only [hb, Bool.not_true, Bool.false_eq_true, if_false] at h
      split at h
      · next t1 t2 ha hb' => exact ⟨ct, t1, t2, hc, hb, ha, hb', (Option.some.inj h).symm⟩
      · cases h
  · cases h

theorem synth_closure_some {x : Node} (h : synth cfg cs (.closure m x) = some τ) :
    ∃ t, synth cfg cs x = some t ∧
      ((∃ bt, t = some bt ∧ τ = closureType bt) ∨
        (t = none ∧ cfg.dt.closureNilPanic = false ∧ τ = closureType interfaceType)) := by
  simp only [synth] at h
  split at h
  · next bt hx => exact ⟨_, hx, .inl ⟨bt, rfl, (Option.some.inj h).symm⟩⟩
  · next hx =>
    cases hp : cfg.dt.closureNilPanic with
    | true => rw [hp] at h; cases h
    | false =>
      rw [hp] at h
      exact ⟨_, hx, .inr ⟨rfl, rfl, (Option.some.inj h).symm⟩⟩
  · cases h

theorem synthBound_some {n : Node} (h : synthBound cfg cs (some n) = true) :
    ∃ t, synth cfg cs n = some t ∧ isIntegerT t = true := by
  simp only [synthBound] at h
  split at h
  · next t hn => exact ⟨t, hn, h⟩
  · cases h

theorem synthList_cons {n : Node} {ns : List Node} (h : synthList cfg cs (n :: ns) = true) :
    (∃ t, synth cfg cs n = some t) ∧ synthList cfg cs ns = true := by
  simp only [synthList, Bool.and_eq_true, Option.isSome_iff_exists] at h
  exact h

theorem synthArgs_cons {ins : List Ty} {variadic : Bool} {numIn offset i : Nat} {a : Node} {rest : List Node}
    (h : synthArgs cfg cs ins variadic numIn offset i (a :: rest) = true) :
    ∃ t0, synth cfg cs a = some t0 ∧
      argFits (argType cfg.dt a t0 (paramFor ins variadic numIn offset i)) (paramFor ins variadic numIn offset i) = true ∧
      synthArgs cfg cs ins variadic numIn offset (i + 1) rest = true := by
  simp only [synthArgs] at h
  split at h
  · next t0 ha =>
    rw [Bool.and_eq_true] at h
    exact ⟨t0, ha, h.1, h.2⟩
  · cases h

theorem synth_slice_some {x : Node} {f t : Option Node} (h : synth cfg cs (.slice m x f t) = some τ) :
    ∃ tx, synth cfg cs x = some tx ∧ sliceable cfg.dt tx = true ∧ synthBound cfg cs f = true ∧
      synthBound cfg cs t = true ∧ τ = sliceResult cfg.dt tx := by
  simp only [synth] at h
  split at h
  · next tx hx =>
    obtain ⟨hc, e⟩ := ite_some h
    simp only [Bool.and_eq_true] at hc
    exact ⟨tx, hx, hc.1.1, hc.1.2, hc.2, e.symm⟩
  · cases h

theorem synth_array_some {xs : List Node} (h : synth cfg cs (.array m xs) = some τ) :
    synthList cfg cs xs = true ∧ τ = arrayTy := by
  simp only [synth] at h
  exact ⟨(ite_some h).1, (ite_some h).2.symm⟩

theorem synth_map_some {xs : List Node} (h : synth cfg cs (.map m xs) = some τ) :
    synthList cfg cs xs = true ∧ τ = mapTy := by
  simp only [synth] at h
  exact ⟨(ite_some h).1, (ite_some h).2.symm⟩

theorem synth_builtin1_some {name : String} {a : Node} (h : synth cfg cs (.builtin m name [a]) = some τ) :
    (name == "len") = true ∧ ∃ pt, synth cfg cs a = some pt ∧ lenRule pt = .ok τ := by
  simp only [synth] at h
  cases hn : name == "len" with
  | false => rw [hn] at h; cases h
  | true =>
    simp only [hn, if_true] at h
    split at h
    · next pt ha => exact ⟨rfl, pt, ha, toOption'_some h⟩
    · cases h

theorem synth_builtin2_some {name : String} {a c : Node} (h : synth cfg cs (.builtin m name [a, c]) = some τ) :
    isCollBuiltin name = true ∧ ∃ coll cl, synth cfg cs a = some coll ∧ isArrayT coll = true ∧
      synth cfg (coll :: cs) c = some cl ∧ collBuiltinRule cfg.dt name coll cl = .ok τ := by
  simp only [synth] at h
  cases hn : isCollBuiltin name with
  | false => rw [hn] at h; cases h
  | true =>
    simp only [hn, if_true] at h
    split at h
    · next coll ha =>
      cases harr : isArrayT coll with
      | false => simp only [harr, Bool.not_false, if_true] at h; cases h
      | true =>
        simp only [harr, Bool.not_true, Bool.false_eq_true, if_false] at h
        split at h
        · next cl hc => exact ⟨rfl, coll, cl, ha, harr, hc, toOption'_some h⟩
        · cases h
    · cases h

theorem synth_func_args {name : String} {args : List Node} {fast : Bool} {fn out : Ty} {isM variadic : Bool}
    {ins : List Ty} {numIn offset : Nat} (h : synth cfg cs (.func m name args fast) = some τ)
    (ht : funcTargetC cfg name = some (fn, isM))
    (hp : funcPlan fn isM args.length = .inr (ins, variadic, numIn, offset, out)) :
    synthArgs cfg cs ins variadic numIn offset 0 args = true ∧ τ = some out := by
  simp only [synth, ht, hp] at h
  exact ⟨(ite_some h).1, (ite_some h).2.symm⟩

theorem synth_method_args {x : Node} {name : String} {args : List Node} {ns : Bool} {fn out : Ty} {isM variadic : Bool}
    {ins : List Ty} {numIn offset : Nat} {t : OTy} (h : synth cfg cs (.method m x name args ns) = some τ)
    (hx : synth cfg cs x = some t) (ht : methodTarget cfg.dn t name = some (fn, isM))
    (hp : funcPlan fn isM args.length = .inr (ins, variadic, numIn, offset, out)) :
    synthArgs cfg cs ins variadic numIn offset 0 args = true ∧ τ = some out := by
  simp only [synth, hx, ht, hp] at h
  exact ⟨(ite_some h).1, (ite_some h).2.symm⟩

theorem synth_method_some {x : Node} {name : String} {args : List Node} {ns : Bool}
    (h : synth cfg cs (.method m x name args ns) = some τ) : ∃ t, synth cfg cs x = some t := by
  simp only [synth] at h
  cases hx : synth cfg cs x with
  | none => rw [hx] at h; cases h
  | some t => exact ⟨t, rfl⟩

mutual

theorem visit_of_synth (cfg : CheckCfg) : ∀ (n : Node) (st : CState) (τ : OTy), synth cfg st.colls n = some τ →
    visit cfg n st = (annot cfg st.colls n, τ, st)
  | .nil m, st, τ, h | .int m _, st, τ, h | .float m _, st, τ, h | .bool m _, st, τ, h | .str m _, st, τ, h => by
    have e := tyOf_some h
    simp only [synth, Option.some.injEq] at h
    simp only [visit, annot, e, h]
  | .ident m name ns, st, τ, h => by
    have e := tyOf_some h
    simp only [synth] at h
    simp only [visit, annot, e, toOption'_some h, orFail_ok]
  | .pointer m, st, τ, h => by
    have e := tyOf_some h
    simp only [synth] at h
    simp only [visit, annot, e, toOption'_some h, orFail_ok]
  | .const m v, st, τ, h => by
    have e := tyOf_some h
    simp only [synth] at h
    cases hp : cfg.dt.constNodePanic with
    | true => rw [hp] at h; cases h
    | false =>
      rw [hp] at h; cases h
      simp only [visit, annot, e, hp, Bool.false_eq_true, if_false]
  | .unary m op x, st, τ, h => by
    obtain ⟨t, hx, hr⟩ := synth_unary_some h
    simp only [visit, annot, tyOf_some h, visit_of_synth cfg x st t hx, hr, orFail_ok]
  | .prop m x name ns, st, τ, h => by
    obtain ⟨t, hx, hr⟩ := synth_prop_some h
    simp only [visit, annot, tyOf_some h, visit_of_synth cfg x st t hx, hr, orFail_ok]
  | .binary m op l r, st, τ, h => by
    obtain ⟨lt, rt, hl, hr, hrule⟩ := synth_binary_some h
    simp only [visit, annot, tyOf_some h, visit_of_synth cfg l st lt hl, visit_of_synth cfg r st rt hr, hrule, orFail_ok]
  | .matches m hre l r, st, τ, h => by
    obtain ⟨lt, rt, hl, hr, hrule⟩ := synth_matches_some h
    simp only [visit, annot, tyOf_some h, visit_of_synth cfg l st lt hl, visit_of_synth cfg r st rt hr, hrule, orFail_ok]
  | .index m l r, st, τ, h => by
    obtain ⟨lt, rt, hl, hr, hrule⟩ := synth_index_some h
    simp only [visit, annot, tyOf_some h, visit_of_synth cfg l st lt hl, visit_of_synth cfg r st rt hr, hrule, orFail_ok]
  | .pair m k v, st, τ, h => by
    obtain ⟨kt, vt, hk, hv, hrule, rfl⟩ := synth_pair_some h
    simp only [visit, annot, tyOf_some h, visit_of_synth cfg k st kt hk, visit_of_synth cfg v st vt hv, hrule, orFail_ok]
  | .cond m c a b, st, τ, h => by
    obtain ⟨ct, t1, t2, hc, hb, ha, hb', rfl⟩ := synth_cond_some h
    simp only [visit, annot, tyOf_some h, visit_of_synth cfg c st ct hc, visit_of_synth cfg a st t1 ha,
      visit_of_synth cfg b st t2 hb', hb, Bool.not_true, Bool.false_eq_true, if_false]
  | .closure m x, st, τ, h => by
    obtain ⟨t, hx, ⟨bt, rfl, rfl⟩ | ⟨rfl, hp, rfl⟩⟩ := synth_closure_some h
    · simp only [visit, annot, tyOf_some h, visit_of_synth cfg x st _ hx]
    · simp only [visit, annot, tyOf_some h, visit_of_synth cfg x st _ hx, hp, Bool.false_eq_true, if_false]
  | .array m xs, st, τ, h => by
    obtain ⟨hl, rfl⟩ := synth_array_some h
    simp only [visit, annot, tyOf_some h, visitList_of_synth cfg xs st hl]
  | .map m xs, st, τ, h => by
    obtain ⟨hl, rfl⟩ := synth_map_some h
    simp only [visit, annot, tyOf_some h, visitList_of_synth cfg xs st hl]
  | .slice m x f t, st, τ, h => by
    obtain ⟨tx, hx, hsl, hf, ht, rfl⟩ := synth_slice_some h
    simp only [visit, annot, tyOf_some h, visit_of_synth cfg x st tx hx, hsl, if_true, visitBound_of_synth cfg f st hf,
      visitBound_of_synth cfg t st ht, Bool.not_true, Bool.false_eq_true, if_false]
  | .builtin m name [], st, τ, h | .builtin m name (_ :: _ :: _ :: _), st, τ, h => by
    simp only [synth] at h; cases h
  | .builtin m name [a], st, τ, h => by
    obtain ⟨hn, pt, ha, hr⟩ := synth_builtin1_some h
    simp only [visit, annot, tyOf_some h, hn, if_true, visit_of_synth cfg a st pt ha, hr, orFail_ok]
  | .builtin m name [a, c], st, τ, h => by
    obtain ⟨hn, coll, cl, ha, harr, hc, hr⟩ := synth_builtin2_some h
    have hv := visit_of_synth cfg c { st with colls := coll :: st.colls } cl hc
    simp only [visit, annot, tyOf_some h, hn, if_true, visit_of_synth cfg a st coll ha, harr, Bool.not_true,
      Bool.false_eq_true, if_false, hv, hr, orFail_ok, tyOf_some ha]
    -- the collection's type is pushed for the closure and popped again
    rfl
  | .func m name args fast, st, τ, h => by
    simp only [visit, annot, tyOf_some h, planArgs]
    cases hft : funcTargetC cfg name with
    | none =>
      simp only [synth, hft] at h
      cases hs : cfg.strict with
      | true => simp only [hs, Bool.not_true, Bool.false_eq_true, if_false] at h; cases h
      | false =>
        simp only [hs, Bool.not_false, if_true, Option.some.injEq] at h ⊢
        rw [orFail_ok, h]
    | some fm =>
      obtain ⟨fn, isM⟩ := fm
      cases hfp : funcPlan fn isM args.length with
      | inl rule =>
        simp only [synth, hft, hfp] at h
        simp only [hfp, toOption'_some h, orFail_ok]
      | inr q =>
        obtain ⟨ins, variadic, numIn, offset, out⟩ := q
        obtain ⟨ha, rfl⟩ := synth_func_args h hft hfp
        simp only [hfp, checkArgs_of_synth cfg ins variadic numIn offset args 0 st ha, if_true]
  | .method m x name args ns, st, τ, h => by
    obtain ⟨t, hx⟩ := synth_method_some h
    simp only [visit, annot, tyOf_some h, planArgs, visit_of_synth cfg x st t hx, tyOf_some hx]
    cases hmt : methodTarget cfg.dn t name with
    | none =>
      simp only [synth, hx, hmt] at h
      cases ns with
      | false => simp only [Bool.not_false, if_true] at h; cases h
      | true =>
        simp only [Bool.not_true, Bool.false_eq_true, if_false, Option.some.injEq] at h ⊢
        rw [orFail_ok, h]
    | some fm =>
      obtain ⟨fn, isM⟩ := fm
      cases hfp : funcPlan fn isM args.length with
      | inl rule =>
        simp only [synth, hx, hmt, hfp] at h
        simp only [hfp, toOption'_some h, orFail_ok]
      | inr q =>
        obtain ⟨ins, variadic, numIn, offset, out⟩ := q
        obtain ⟨ha, rfl⟩ := synth_method_args h hx hmt hfp
        simp only [hfp, checkArgs_of_synth cfg ins variadic numIn offset args 0 st ha, if_true]

theorem visitBound_of_synth (cfg : CheckCfg) : ∀ (b : Option Node) (st : CState), synthBound cfg st.colls b = true →
    visitBound cfg b st = (annotOpt cfg st.colls b, true, st)
  | none, st, _ => by simp only [visitBound, annotOpt]
  | some n, st, h => by
    obtain ⟨t, hn, hi⟩ := synthBound_some h
    simp only [visitBound, annotOpt, visit_of_synth cfg n st t hn, hi, Bool.not_true, Bool.false_eq_true, if_false]

theorem visitList_of_synth (cfg : CheckCfg) : ∀ (ns : List Node) (st : CState), synthList cfg st.colls ns = true →
    visitList cfg ns st = (annotList cfg st.colls ns, st)
  | [], st, _ => by simp only [visitList, annotList]
  | n :: ns, st, h => by
    obtain ⟨⟨t, hn⟩, hs⟩ := synthList_cons h
    simp only [visitList, annotList, visit_of_synth cfg n st t hn, visitList_of_synth cfg ns st hs]

theorem checkArgs_of_synth (cfg : CheckCfg) (ins : List Ty) (variadic : Bool) (numIn offset : Nat) :
    ∀ (args : List Node) (i : Nat) (st : CState), synthArgs cfg st.colls ins variadic numIn offset i args = true →
      checkArgs cfg ins variadic numIn offset i args st = (annotArgs cfg st.colls ins variadic numIn offset i args, true, st)
  | [], i, st, _ => by simp only [checkArgs, annotArgs]
  | a :: rest, i, st, h => by
    obtain ⟨t0, ha, hfit, hs⟩ := synthArgs_cons h
    simp only [checkArgs, annotArgs, visit_of_synth cfg a st t0 ha, hfit, Bool.not_true, Bool.false_eq_true, if_false,
      checkArgs_of_synth cfg ins variadic numIn offset rest (i + 1) st hs]

end

end ExprModel
