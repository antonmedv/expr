import ExprModel.Proofs.SpecEqs
/-
`Spec.eval` on the operators C18's identities mention (the unary and the binary clause read at one operator), and
run-time library facts that do not mention `Spec.eval`: `wrap` and `toIntR` on a value in range, what `equalV` and the
ordering helpers compute on an integer of any kind against an `int` (`normInt`, `normBound`: the promotion rule
`refSem` of vm/runtime's generated helpers, C14, read at these operand kinds) and membership in `rangeElems`.
`eval_two_sided` puts the two together.
-/
namespace ExprModel
namespace Spec

def isNotOp (op : String) : Prop := op = "not" ∨ op = "!"

theorem eval_not (c : SCfg) (ctx : Ctx) (m : Meta) (op : String) (h : isNotOp op) (x : Node) :
    eval c ctx (.unary m op x) = (do
      let v ← eval c ctx x
      SM.lift (notV v)) := by
  rcases h with rfl | rfl <;> rfl

theorem eval_eqOp (c : SCfg) (ctx : Ctx) (m : Meta) (l r : Node) :
    eval c ctx (.binary m "==" l r) = (do
      let a ← eval c ctx l
      let b ← eval c ctx r
      eqTail l.kd r.kd a b) := by
  rw [eval_strict c ctx m (op := "==") rfl]
  simp only [Refine.binTail_eqTail]

theorem eval_arith (c : SCfg) (ctx : Ctx) (m : Meta) (op : String) (h : Helper) (hop : binArith op = some h) (l r : Node) :
    eval c ctx (.binary m op l r) = (do
      let a ← eval c ctx l
      let b ← eval c ctx r
      SM.lift (binHelper h a b)) := by
  rw [eval_strict c ctx m (binArith_strict hop)]
  simp only [Refine.binTail_arith c _ _ _ _ hop]

theorem eval_in (c : SCfg) (ctx : Ctx) (m : Meta) (l r : Node) :
    eval c ctx (.binary m "in" l r) = (do
      let a ← eval c ctx l
      let b ← eval c ctx r
      pure (.bool (← SM.lift (inV a b)))) :=
  eval_strict c ctx m rfl l r

theorem eval_range (c : SCfg) (ctx : Ctx) (m : Meta) (l r : Node) :
    eval c ctx (.binary m ".." l r) = (do
      let a ← eval c ctx l
      let b ← eval c ctx r
      let lo ← SM.lift (toIntR a)
      let hi ← SM.lift (toIntR b)
      SM.allocBefore c.budget (rangeCharge c lo hi) (rangeElems lo hi).length
      pure (.arr (.num .int) (rangeElems lo hi))) :=
  eval_strict c ctx m rfl l r

theorem wrap_of_inRange (k : Kind) (n : Int) (h : inRange k n) : wrap k n = n := by
  have hb : (2 : Int) ^ k.bits = 2 * 2 ^ (k.bits - 1) := by
    have : k.bits = (k.bits - 1) + 1 := by cases k <;> rfl
    rw [this, Int.pow_succ, Int.mul_comm]
    rfl
  unfold inRange at h
  unfold wrap
  by_cases hs : k.isSigned = true
  · simp only [hs, if_true] at h ⊢
    rw [hb, Int.emod_eq_of_lt (by omega) (by omega)]
    omega
  · simp only [hs] at h ⊢
    exact Int.emod_eq_of_lt h.1 h.2

theorem toIntR_int' (j : Int) (h : inRange .int j) : toIntR (.int .int j) = .ok j := by
  have : wrap .int j = j := wrap_of_inRange .int j h
  simp [toIntR, toIntVal, conv, kindOfVal, this]

theorem equalV_int_int (x y : Int) : equalV (.int .int x) (.int .int y) = (x == y) := by
  simp [equalV, refSem, armTypeOf, Helper.noFloat, Kind.maxRank, applyOp, Helper.op]

theorem equalV_str_str (x y : String) : equalV (.str x) (.str y) = (x == y) := by
  simp [equalV, refSem, armTypeOf, Helper.hasString, applyOp, Helper.op]

theorem eqTail_int_int {lk rk : RKind} (h : ¬ (lk = .string ∧ rk = .string)) (x y : Int) :
    eqTail lk rk (.int .int x) (.int .int y) = pure (.bool (x == y)) := by
  unfold eqTail
  split
  · rfl
  · split
    · rename_i h2
      simp only [Bool.and_eq_true, beq_iff_eq] at h2
      exact absurd ⟨h2.2, h2.1 ▸ h2.2⟩ h
    · rw [equalV_int_int]

/-- the left operand `Val.int k v` as the comparison sees it (unsigned kinds are converted to `int`) -/
def normInt : Kind → Int → Int
  | .uint, v | .uint8, v | .uint16, v | .uint32, v | .uint64, v => wrap .int v
  | _, v => v

/-- an `int` bound as the comparison sees it (`int8 … int64` rank above `int` in the promotion order) -/
def normBound : Kind → Int → Int
  | .int8, e => wrap .int8 e
  | .int16, e => wrap .int16 e
  | .int32, e => wrap .int32 e
  | .int64, e => wrap .int64 e
  | _, e => e

theorem refSem_kind_int (h : Helper) (k : Kind) (hk : k.isInt = true) (v e : Int) :
    refSem h (.int k v) (.int .int e) =
      applyOp h.op (.int (Kind.maxRank k .int) (normInt k v)) (.int (Kind.maxRank k .int) (normBound k e)) := by
  cases k <;> simp [Kind.isInt, Kind.isFloat] at hk <;>
    simp [refSem, armTypeOf, Kind.maxRank, Kind.rank, Kind.isFloat, conv, normInt, normBound]

theorem refSem_int_kind (h : Helper) (k : Kind) (hk : k.isInt = true) (v e : Int) :
    refSem h (.int .int e) (.int k v) =
      applyOp h.op (.int (Kind.maxRank .int k) (normBound k e)) (.int (Kind.maxRank .int k) (normInt k v)) := by
  cases k <;> simp [Kind.isInt, Kind.isFloat] at hk <;>
    simp [refSem, armTypeOf, Kind.maxRank, Kind.rank, Kind.isFloat, conv, normInt, normBound]

theorem equalV_int_kind (k : Kind) (hk : k.isInt = true) (e v : Int) :
    equalV (.int .int e) (.int k v) = (normBound k e == normInt k v) := by
  unfold equalV
  rw [refSem_int_kind _ k hk]
  simp [applyOp, Helper.op]

theorem ge_int_kind (k : Kind) (hk : k.isInt = true) (e v : Int) :
    binHelper .moreOrEqual (.int k v) (.int .int e) = .ok (.bool (decide (normInt k v ≥ normBound k e))) := by
  unfold binHelper
  rw [refSem_kind_int _ k hk]
  simp [applyOp, Helper.op]

theorem le_int_kind (k : Kind) (hk : k.isInt = true) (e v : Int) :
    binHelper .lessOrEqual (.int k v) (.int .int e) = .ok (.bool (decide (normInt k v ≤ normBound k e))) := by
  unfold binHelper
  rw [refSem_kind_int _ k hk]
  simp [applyOp, Helper.op]

theorem any_rangeElems (lo hi : Int) (P : Val → Bool) :
    (rangeElems lo hi).any P = true ↔ ∃ e, lo ≤ e ∧ e ≤ hi ∧ P (.int .int e) = true := by
  unfold rangeElems
  split
  · simp only [List.any_nil, Bool.false_eq_true, false_iff]
    rintro ⟨e, h1, h2, _⟩; omega
  · simp only [List.any_map, List.any_eq_true, List.mem_range, Function.comp]
    constructor
    · rintro ⟨i, hi', hp⟩
      exact ⟨lo + i, by omega, by omega, hp⟩
    · rintro ⟨e, h1, h2, hp⟩
      refine ⟨(e - lo).toNat, by omega, ?_⟩
      have : lo + ((e - lo).toNat : Int) = e := by omega
      rw [this]; exact hp

theorem inRange_between (k : Kind) (lo hi e : Int) (h1 : inRange k lo) (h2 : inRange k hi)
    (hl : lo ≤ e) (hh : e ≤ hi) : inRange k e := by
  unfold inRange at *
  split at h1 <;> simp_all <;> omega

def BoundsFit (k : Kind) (lo hi : Int) : Prop := k.rank > Kind.int.rank → inRange k lo ∧ inRange k hi

theorem normBound_fit (k : Kind) (hk : k.isInt = true) (e : Int) (h : k.rank > Kind.int.rank → inRange k e) :
    normBound k e = e := by
  cases k <;> simp [Kind.isInt, Kind.isFloat] at hk <;> simp [normBound] <;>
    exact wrap_of_inRange _ e (h (by decide))

theorem eval_two_sided (c : SCfg) (ctx : Ctx) (ma mg ml : Meta) (x lo hi : Node) (s : SState)
    (k : Kind) (v lo' hi' : Int)
    (hx : eval c ctx x s = (.ok (.int k v), s))
    (hlo : eval c ctx lo s = (.ok (.int .int lo'), s))
    (hhi : eval c ctx hi s = (.ok (.int .int hi'), s))
    (hk : k.isInt = true) (hb : BoundsFit k lo' hi') :
    eval c ctx (.binary ma "and" (.binary mg ">=" x lo) (.binary ml "<=" x hi)) s =
      (.ok (.bool (decide (lo' ≤ normInt k v ∧ normInt k v ≤ hi'))), s) := by
  have h1 : normBound k lo' = lo' := normBound_fit k hk lo' (fun hr => (hb hr).1)
  have h2 : normBound k hi' = hi' := normBound_fit k hk hi' (fun hr => (hb hr).2)
  rw [eval_andOp c ctx ma rfl, SM.bind_apply, eval_arith c ctx mg ">=" .moreOrEqual rfl, SM.bind_apply, hx]
  simp only [SM.bind_apply, hlo, ge_int_kind k hk, h1, SM.lift_ok, SM.pure_apply, asBool]
  by_cases hge : normInt k v ≥ lo'
  · simp only [hge, decide_true, if_true]
    rw [eval_arith c ctx ml "<=" .lessOrEqual rfl, SM.bind_apply, hx]
    simp only [SM.bind_apply, hhi, le_int_kind k hk, h2, SM.lift_ok, SM.pure_apply]
    have : lo' ≤ normInt k v := hge
    simp
  · have : ¬ lo' ≤ normInt k v := hge
    simp [hge]

theorem range_any_eq (k : Kind) (hk : k.isInt = true) (lo hi v : Int) (hb : BoundsFit k lo hi) :
    (rangeElems lo hi).any (fun x => equalV x (.int k v)) = decide (lo ≤ normInt k v ∧ normInt k v ≤ hi) := by
  rw [Bool.eq_iff_iff, any_rangeElems]
  simp only [decide_eq_true_eq]
  constructor
  · rintro ⟨e, h1, h2, he⟩
    rw [equalV_int_kind k hk] at he
    have : normBound k e = e := normBound_fit k hk e (fun hr => inRange_between k lo hi e (hb hr).1 (hb hr).2 h1 h2)
    rw [this] at he
    have : e = normInt k v := by simpa using he
    omega
  · rintro ⟨h1, h2⟩
    refine ⟨normInt k v, h1, h2, ?_⟩
    rw [equalV_int_kind k hk]
    have : normBound k (normInt k v) = normInt k v :=
      normBound_fit k hk _ (fun hr => inRange_between k lo hi _ (hb hr).1 (hb hr).2 h1 h2)
    simp [this]

end Spec
end ExprModel
