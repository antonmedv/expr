import ExprModel.VM.Step
/-
What definitions of VM/Step.lean compute on one form of input: a successful `pop`, `pop2`, `popN`, `liftR`; a `step` taken
outside the code (no opcode there: `badop`); the dispatch loop `loop`, one equation per way an iteration ends (everything
else about `loop` rewrites with these); the prologue of `Run` on a VM value whose counter is reset or zero (C07).
-/
namespace ExprModel

theorem rangeElems_length (lo hi : Int) :
    ((rangeElems lo hi).length : Int) = if hi - lo + 1 < 0 then 0 else hi - lo + 1 := by
  unfold rangeElems
  split
  · split
    · simp
    · simp; omega
  · simp [List.length_map, List.length_range]; split <;> omega

theorem pop_stack {s s1 : VM} {v : Val} (h : s.pop = .ok (v, s1)) : s.stack = v :: s1.stack := by
  unfold VM.pop at h
  split at h
  · rename_i hs; injection h with h; injection h with hv hs1; subst hv; subst hs1; exact hs
  · cases h

theorem pop2_stack {s s1 : VM} {a b : Val} (h : s.pop2 = .ok (a, b, s1)) : s.stack = b :: a :: s1.stack := by
  unfold VM.pop2 at h
  cases h1 : s.pop with
  | error e => rw [h1] at h; cases h
  | ok x =>
    obtain ⟨b', s'⟩ := x
    rw [h1] at h
    simp only [bind, Except.bind] at h
    cases h2 : s'.pop with
    | error e => rw [h2] at h; cases h
    | ok y =>
      obtain ⟨a', s''⟩ := y
      rw [h2] at h
      simp only [pure, Except.pure] at h
      injection h with h; injection h with ha h; injection h with hb hs
      subst ha; subst hb; subst hs
      rw [pop_stack h1, pop_stack h2]

theorem popN_ok : ∀ {n : Nat} {s : VM} {acc l : List Val} {s' : VM},
    VM.popN n s acc = .ok (l, s') → l.length = n + acc.length ∧ s.stack.length = n + s'.stack.length
  | 0, s, acc, l, s', h => by
    unfold VM.popN at h; injection h with h; injection h with hl hs; subst hl; subst hs; omega
  | n + 1, s, acc, l, s', h => by
    unfold VM.popN at h
    cases h1 : s.pop with
    | error e => rw [h1] at h; cases h
    | ok x =>
      rw [h1] at h
      have := popN_ok (n := n) (s := x.2) (acc := x.1 :: acc) h
      rw [pop_stack h1, List.length_cons] at *
      omega

theorem popN_length : ∀ (n : Nat) (s : VM) (acc : List Val) (l : List Val) (s' : VM),
    VM.popN n s acc = .ok (l, s') → l.length = n + acc.length :=
  fun _ _ _ _ _ h => (popN_ok h).1

theorem liftR_ok {α} {s : VM} {r : R α} {a : α} (h : liftR s r = .ok a) : r = .ok a := by
  cases r with
  | ok b => injection h with h; rw [h]
  | error e => cases h

theorem opcode_oob {p : Prog} {ip : Nat} (h : p.code.size ≤ ip) : Op.ofCode? (p.code[ip]?.getD 255) = none := by
  rw [Array.getElem?_eq_none h]
  decide

theorem step_oob (c : Cfg) (p : Prog) (s : VM) (h : p.code.size ≤ s.ip) :
    step c p s = .error (.badop, { s with pp := s.ip, ip := s.ip + 1 }) := by
  simp [step, opcode_oob h, failV]

theorem step_ip_lt (c : Cfg) (p : Prog) (s : VM) (h : ∀ s', step c p s ≠ .error (.badop, s')) : s.ip < p.code.size :=
  Nat.lt_of_not_ge fun h' => h _ (step_oob c p s h')

theorem loop_zero (c : Cfg) (p : Prog) (s : VM) : loop c p 0 s = (.error .fuel, s) := rfl

theorem loop_step {c : Cfg} {p : Prog} {s s' : VM} (fuel : Nat) (hlt : s.ip < p.code.size) (hst : step c p s = .ok s') :
    loop c p (fuel + 1) s = loop c p fuel s' := by
  rw [loop, if_pos hlt, hst]

theorem loop_fail {c : Cfg} {p : Prog} {s s' : VM} {e : ErrClass} (fuel : Nat) (hlt : s.ip < p.code.size)
    (hst : step c p s = .error (e, s')) : loop c p (fuel + 1) s = (.error e, s') := by
  rw [loop, if_pos hlt, hst]

theorem loop_halt_cons {c : Cfg} {p : Prog} {s : VM} {v : Val} {rest : List Val} (fuel : Nat) (hge : p.code.size ≤ s.ip)
    (hs : s.stack = v :: rest) : loop c p (fuel + 1) s = (.ok v, { s with stack := rest }) := by
  rw [loop, if_neg (Nat.not_lt.2 hge), hs]

theorem loop_halt_nil {c : Cfg} {p : Prog} {s : VM} (fuel : Nat) (hge : p.code.size ≤ s.ip) (hs : s.stack = []) :
    loop c p (fuel + 1) s = (.ok .nil, s) := by
  rw [loop, if_neg (Nat.not_lt.2 hge), hs]

theorem prologue_eq_fresh (c : Cfg) (s : VM) (h : c.defects.memoryNotReset = false ∨ s.memory = 0) :
    prologue c s = prologue c {} := by
  unfold prologue
  rcases h with h | h
  · rw [h]; rfl
  · rw [h]

theorem runOn_fresh (c : Cfg) (p : Prog) (fuel : Nat) (s : VM) (h : c.defects.memoryNotReset = false ∨ s.memory = 0) :
    runOn c p fuel s = run c p fuel := by
  unfold run runOn
  rw [prologue_eq_fresh c s h]

end ExprModel
