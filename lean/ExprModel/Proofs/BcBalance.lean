import ExprModel.Proofs.VMHelpers
import ExprModel.Proofs.BcCompile
import ExprModel.Proofs.RuntimeFails
import ExprModel.Proofs.RefineExec
/-
C05, run-time half (partial): for the straight-line sub-language (literals, unary operators, arithmetic and
ordering operators) running the compiled fragment on the byte-level VM model from ANY stack `st` either fails with
a class other than `underflow` (a pop of an empty stack), `badop` (a malformed program) and `fuel`, or ends exactly
at the end of the fragment with `v :: st` and the scope stack it found.  (`Bc.Ordinary`, the classes of the language
definition, is wider: `badop` is one of them.)  The general statement is the shape of C01's refinement.
-/
namespace ExprModel.Bc

def progOfCode (is : List Instr) (consts : Array Val) : Prog := { code := (encodeAll is).toArray, consts := consts }

theorem bc_bytes {whole pre post : List Instr} {i : Instr} (hw : whole = pre ++ i :: post) (consts : Array Val)
    (hfit : i.arg < 65536) : Refine.BytesAt (progOfCode whole consts) (codeSize pre) i :=
  .of_encoding (by rw [hw]; rfl) hfit

/-- `n` iterations of the dispatch loop's body.  A function, where C01 has the relation `Refine.Steps` of successful
    iterations: straight-line code takes exactly one step per instruction, and `StackBal` judges the outcome of these,
    the failure included. -/
def stepN (c : Cfg) (p : Prog) : Nat → VM → RV VM
  | 0, s => .ok s
  | n + 1, s =>
    match step c p s with
    | .ok s' => stepN c p n s'
    | .error e => .error e

theorem stepN_add (c : Cfg) (p : Prog) : ∀ (a b : Nat) (s : VM),
    stepN c p (a + b) s = (match stepN c p a s with
      | .ok s' => stepN c p b s'
      | .error e => .error e)
  | 0, b, s => by simp [stepN]
  | a + 1, b, s => by
    have : a + 1 + b = (a + b) + 1 := by omega
    rw [this, stepN, stepN]
    cases step c p s with
    | ok s' => exact stepN_add c p a b s'
    | error e => rfl

theorem stepN_one (c : Cfg) (p : Prog) (s : VM) : stepN c p 1 s = step c p s := by
  unfold stepN stepN
  cases step c p s <;> rfl

def StackBal (st : List Val) (sc : List Scope) (target : Nat) : RV VM → Prop
  | .ok s' => s'.ip = target ∧ (∃ v, s'.stack = v :: st) ∧ s'.scopes = sc
  | .error (e, _) => e ≠ .underflow ∧ e ≠ .badop ∧ e ≠ .fuel

theorem StackBal.bind {vc : Cfg} {P : Prog} {a b : Nat} {s : VM} {st st' : List Val} {sc : List Scope} {t t' : Nat}
    (h1 : StackBal st sc t (stepN vc P a s))
    (h2 : ∀ s1 v, s1.ip = t → s1.stack = v :: st → s1.scopes = sc → StackBal st' sc t' (stepN vc P b s1)) :
    StackBal st' sc t' (stepN vc P (a + b) s) := by
  rw [stepN_add]
  cases hr : stepN vc P a s with
  | error e => rw [hr] at h1; exact h1
  | ok s1 =>
    rw [hr] at h1
    obtain ⟨hip, ⟨v, hst⟩, hsc⟩ := h1
    exact h2 s1 v hip hst hsc

theorem StackBal.of_liftR (s' : VM) (r : R Val) (hr : ∀ e, r = .error e → e ≠ .underflow ∧ e ≠ .badop ∧ e ≠ .fuel) :
    StackBal s'.stack s'.scopes s'.ip (do pure (s'.push (← liftR s' r))) := by
  cases r with
  | ok v => exact ⟨rfl, ⟨v, rfl⟩, rfl⟩
  | error e => exact hr e rfl

theorem not_internal_of_lib {e : ErrClass} (h : LibErr e) : e ≠ .underflow ∧ e ≠ .badop ∧ e ≠ .fuel := by
  rcases h with rfl | rfl | rfl <;> decide

/-! One step of an instruction encoded in place is `Refine.execI` on it (`Refine.step_at`), which computes on the
    concrete opcode. -/

theorem step_push_bal (c : Cfg) (p : Prog) (s : VM) (k : Nat) (v : Val) (hb : Refine.BytesAt p s.ip ⟨.push, k⟩)
    (hc : p.consts[k]? = some v) : StackBal s.stack s.scopes (s.ip + 3) (step c p s) := by
  have : Refine.execI c p.consts ⟨.push, k⟩ { s with pp := s.ip, ip := s.ip + 1 } = .ok _ :=
    Refine.constI_bind (i := ⟨.push, k⟩) hc rfl
  rw [Refine.step_at hb s rfl, this]
  exact ⟨rfl, ⟨v, rfl⟩, rfl⟩

theorem step_lit_bal (c : Cfg) (p : Prog) (s : VM) (op : Op) (hop : op = .nil_ ∨ op = .true_ ∨ op = .false_)
    (hb : Refine.BytesAt p s.ip ⟨op, 0⟩) : StackBal s.stack s.scopes (s.ip + 1) (step c p s) := by
  rw [Refine.step_at hb s rfl]
  rcases hop with rfl | rfl | rfl <;> exact ⟨rfl, ⟨_, rfl⟩, rfl⟩

theorem step_unop_bal (c : Cfg) (p : Prog) (s : VM) (op : Op) (hop : op = .not_ ∨ op = .negate)
    (hb : Refine.BytesAt p s.ip ⟨op, 0⟩) (v : Val) (st : List Val) (hs : s.stack = v :: st) :
    StackBal st s.scopes (s.ip + 1) (step c p s) := by
  rw [Refine.step_at hb s rfl]
  obtain ⟨stack, scopes, ip, pp, memory, limit, created, log⟩ := s
  subst hs
  rcases hop with rfl | rfl
  · exact StackBal.of_liftR ⟨st, scopes, ip + 1, ip, memory, limit, created, log⟩ (notV v) fun e h => not_internal_of_lib (lib_notV v e h)
  · exact StackBal.of_liftR ⟨st, scopes, ip + 1, ip, memory, limit, created, log⟩ (negV v) fun e h => not_internal_of_lib (lib_negV v e h)

theorem step_binop_bal (c : Cfg) (p : Prog) (s : VM) (op : Op) (h : Helper) (hop : binOpOf op = some h)
    (hb : Refine.BytesAt p s.ip ⟨op, 0⟩) (a b : Val) (st : List Val) (hs : s.stack = b :: a :: st) :
    StackBal st s.scopes (s.ip + 1) (step c p s) := by
  rw [Refine.step_at hb s rfl]
  obtain ⟨stack, scopes, ip, pp, memory, limit, created, log⟩ := s
  subst hs
  rw [Refine.execI_binop hop]
  exact StackBal.of_liftR ⟨st, scopes, ip + 1, ip, memory, limit, created, log⟩ _ fun e he =>
    not_internal_of_lib (lib_binHelper _ a b e he)

inductive StraightLine : Node → Prop
  | nil (m : Meta) : StraightLine (.nil m)
  | bool (m : Meta) (b : Bool) : StraightLine (.bool m b)
  | int (m : Meta) (v : Int) : StraightLine (.int m v)
  | float (m : Meta) (v : UInt64) : StraightLine (.float m v)
  | str (m : Meta) (s : String) : StraightLine (.str m s)
  | const (m : Meta) (v : Val) : StraightLine (.const m v)
  | unary (m : Meta) (op : String) (x : Node) : StraightLine x → StraightLine (.unary m op x)
  | binary (m : Meta) (op : String) (l r : Node) (o : Op) (h : Helper) :
      binSimpleOp op = some [o] → binOpOf o = some h → StraightLine l → StraightLine r → StraightLine (.binary m op l r)

/-- placed anywhere (`pre`, `post`) in a program with the constants `consts` and entered at its first byte with any stack
    and scopes; `balanced_sl` has it for every `consts` that extends the pool the fragment was compiled into -/
def StackBalanced (code : List LInstr) (consts : Array Val) : Prop :=
  ∀ (pre post : List Instr) (vc : Cfg) (s : VM), s.ip = codeSize pre →
    StackBal s.stack s.scopes (codeSize pre + lsize code)
      (stepN vc (progOfCode (pre ++ instrs code ++ post) consts) (instrs code).length s)

theorem StackBalanced.at {code : List LInstr} {consts : Array Val} (h : StackBalanced code consts)
    {whole pre post : List Instr} (hw : whole = pre ++ instrs code ++ post) (vc : Cfg) (s : VM) (hip : s.ip = codeSize pre) :
    StackBal s.stack s.scopes (codeSize pre + lsize code) (stepN vc (progOfCode whole consts) (instrs code).length s) :=
  hw ▸ h pre post vc s hip

theorem bal_last {whole pre post : List Instr} {op : Op} (hna : op.hasArg = false)
    (hw : whole = pre ++ ⟨op, 0⟩ :: post) (consts : Array Val) {vc : Cfg} {s : VM} {st : List Val} (hip : s.ip = codeSize pre)
    (hstep : Refine.BytesAt (progOfCode whole consts) s.ip ⟨op, 0⟩ →
      StackBal st s.scopes (s.ip + 1) (step vc (progOfCode whole consts) s)) :
    StackBal st s.scopes (codeSize (pre ++ [⟨op, 0⟩])) (stepN vc (progOfCode whole consts) 1 s) := by
  have hsz : codeSize (pre ++ [⟨op, 0⟩]) = s.ip + 1 := by simp [hip, Instr.size, hna]
  rw [stepN_one, hsz]
  exact hstep (hip ▸ bc_bytes hw consts (Nat.zero_lt_succ _))

theorem balanced_push {consts : Array Val} {k : Nat} (l : Loc) (hk : AnyAt consts k) (h16 : k < 65536) :
    StackBalanced [li l .push k] consts := by
  intro pre post vc s hip
  obtain ⟨v, hv⟩ := hk
  have hw : pre ++ instrs [li l .push k] ++ post = pre ++ ⟨.push, k⟩ :: post := List.append_assoc ..
  have hb := step_push_bal vc (progOfCode _ consts) s k v (hip ▸ bc_bytes hw consts h16) hv
  rw [hip] at hb
  exact stepN_one .. ▸ hb

theorem balanced_lit {consts : Array Val} (l : Loc) (op : Op) (hop : op = .nil_ ∨ op = .true_ ∨ op = .false_) :
    StackBalanced [li l op] consts := by
  intro pre post vc s hip
  have hna : op.hasArg = false := by rcases hop with rfl | rfl | rfl <;> rfl
  have := bal_last hna (List.append_assoc pre [⟨op, 0⟩] post) consts hip fun hc => step_lit_bal vc _ s op hop hc
  rwa [codeSize_append] at this

theorem balanced_unop {consts : Array Val} {cx : List LInstr} (l : Loc) (op : Op) (hop : op = .not_ ∨ op = .negate)
    (hx : StackBalanced cx consts) : StackBalanced (cx ++ [li l op]) consts := by
  intro pre post vc s hip
  have hna : op.hasArg = false := by rcases hop with rfl | rfl <;> rfl
  generalize hw : pre ++ instrs (cx ++ [li l op]) ++ post = whole
  have hw1 : whole = pre ++ instrs cx ++ ⟨op, 0⟩ :: post := by rw [← hw]; simp
  rw [instrs_append, List.length_append]
  refine StackBal.bind (hx.at hw1 vc s hip) fun s1 v hip1 hst1 hsc1 => ?_
  have := bal_last hna hw1 consts (hip1.trans (codeSize_append ..).symm) fun hc => step_unop_bal vc _ s1 op hop hc v s.stack hst1
  rw [hsc1] at this
  simpa [lsize_eq, Nat.add_assoc] using this

theorem balanced_binop {consts : Array Val} {cl cr : List LInstr} (l : Loc) (op : Op) (h : Helper)
    (hop : binOpOf op = some h) (hl : StackBalanced cl consts) (hr : StackBalanced cr consts) :
    StackBalanced (cl ++ cr ++ [li l op]) consts := by
  intro pre post vc s hip
  have hna : op.hasArg = false := by cases op <;> first | rfl | cases hop
  generalize hw : pre ++ instrs (cl ++ cr ++ [li l op]) ++ post = whole
  have hw1 : whole = pre ++ instrs cl ++ (instrs cr ++ ⟨op, 0⟩ :: post) := by rw [← hw]; simp
  have hw2 : whole = pre ++ instrs cl ++ instrs cr ++ ⟨op, 0⟩ :: post := by rw [hw1]; simp
  rw [instrs_append, instrs_append, List.length_append, List.length_append, Nat.add_assoc]
  refine StackBal.bind (hl.at hw1 vc s hip) fun s1 a hip1 hst1 hsc1 => ?_
  have hip1' : s1.ip = codeSize (pre ++ instrs cl) := hip1.trans (codeSize_append ..).symm
  refine StackBal.bind (hsc1 ▸ hst1 ▸ hr.at hw2 vc s1 hip1') fun s2 b hip2 hst2 hsc2 => ?_
  have := bal_last hna hw2 consts (hip2.trans (codeSize_append ..).symm) fun hc =>
    step_binop_bal vc _ s2 op h hop hc a b s.stack hst2
  rw [hsc2] at this
  simpa [lsize_eq, Nat.add_assoc] using this

theorem StackBalanced.mono {code : List LInstr} {c c' : Array Val} (h : ∀ c'', PoolExt c c'' → StackBalanced code c'') (e : PoolExt c c') :
    ∀ c'', PoolExt c' c'' → StackBalanced code c'' := fun c'' e' => h c'' (e.trans e')

theorem binSimple_not_special {op : String} {o : Op} (h : binSimpleOp op = some [o]) :
    (op == "==") = false ∧ (op == "or" || op == "||") = false ∧ (op == "and" || op == "&&") = false := by
  have key : ∀ s, binSimpleOp s = none → (op == s) = false := fun s hs => by
    cases hb : op == s
    · rfl
    · rw [beq_iff_eq.1 hb, hs] at h; cases h
  simp only [Bool.or_eq_false_iff]
  exact ⟨key _ rfl, ⟨key _ rfl, key _ rfl⟩, key _ rfl, key _ rfl⟩

theorem _root_.ExprModel.Refine.Emits.balanced {K : Array Val} {cfg : CompCfg} {n : Node} (hsl : StraightLine n) :
    ∀ {code}, Refine.Emits (Holds K) cfg n code → StackBalanced code K := by
  induction hsl with
  | nil m =>
    intro code h
    cases h
    exact balanced_lit _ _ (.inl rfl)
  | bool m b =>
    intro code h
    cases h
    cases b
    · exact balanced_lit _ _ (.inr (.inr rfl))
    · exact balanced_lit _ _ (.inr (.inl rfl))
  | int m v =>
    intro code h
    cases h with
    | int _ _ k hk => exact balanced_push _ hk.any hk.fits
  | float m v =>
    intro code h
    cases h with
    | float _ _ k hk => exact balanced_push _ hk.any hk.fits
  | str m s =>
    intro code h
    cases h with
    | str _ _ k hk => exact balanced_push _ hk.any hk.fits
  | const m v =>
    intro code h
    cases h with
    | constNil => exact balanced_lit _ _ (.inl rfl)
    | const _ _ k _ hk => exact balanced_push _ hk.any hk.fits
  | unary m op x _ ih =>
    intro code h
    cases h with
    | not _ _ _ cx _ hx => exact balanced_unop _ _ (.inl rfl) (ih hx)
    | plus _ _ cx hx => exact ih hx
    | neg _ _ cx hx => exact balanced_unop _ _ (.inr rfl) (ih hx)
  | binary m op l r o hh hbs hbo _ _ ihl ihr =>
    intro code h
    obtain ⟨e1, e2, e3⟩ := binSimple_not_special hbs
    cases h with
    | eq => exact absurd e1 (by decide)
    | or _ _ _ _ cl cr h2 =>
      rw [e2] at h2
      cases h2
    | and _ _ _ _ cl cr h3 =>
      rw [e3] at h3
      cases h3
    | simple _ _ _ _ cl cr ops _ _ _ hops hl hr =>
      rw [hbs] at hops
      cases hops
      exact balanced_binop m.loc o hh hbo (ihl hl) (ihr hr)

theorem balanced_sl (cfg : CompCfg) {n : Node} (hsl : StraightLine n) :
    ∀ (p0 : Pool) (code : List LInstr) (p1 : Pool), PoolOk p0 → compileNode cfg n p0 = .ok (code, p1) →
      ∀ consts, PoolExt p1.consts consts → StackBalanced code consts :=
  fun p0 code p1 hp h consts he =>
    ((compile_holds cfg n p0 code p1 h hp).2.2 consts he).balanced hsl

/-- `stepN` takes its steps without the dispatch loop's test `ip < size`; outside the code `step` reports `badop`
    (`step_oob`), so a step that succeeds or fails otherwise was taken inside (`step_ip_lt`): hence `e ≠ .badop`. -/
theorem loop_of_stepN (c : Cfg) (p : Prog) : ∀ (n : Nat) (s : VM) (fuel : Nat), n ≤ fuel →
    match stepN c p n s with
    | .ok s' => loop c p fuel s = loop c p (fuel - n) s'
    | .error (e, s') => e ≠ .badop → loop c p fuel s = (.error e, s')
  | 0, s, fuel, _ => rfl
  | n + 1, s, fuel, hf => by
    obtain ⟨f, rfl⟩ : ∃ f, fuel = f + 1 := ⟨fuel - 1, by omega⟩
    rw [stepN]
    cases hst : step c p s with
    | ok s1 =>
      have hlt : s.ip < p.code.size := step_ip_lt c p s fun s' h => by rw [hst] at h; cases h
      rw [loop_step f hlt hst, Nat.add_sub_add_right]
      exact loop_of_stepN c p n s1 f (by omega)
    | error es =>
      intro he
      have hlt : s.ip < p.code.size := step_ip_lt c p s fun s' h => by
        rw [hst] at h
        cases h
        exact he rfl
      exact loop_fail f hlt hst

theorem run_of_balanced {code : List LInstr} {consts : Array Val} (hb : StackBalanced code consts) (vc : Cfg)
    (fuel : Nat) (hf : (instrs code).length < fuel) :
    match (run vc (progOfCode (instrs code) consts) fuel).1 with
    | .ok _ => (run vc (progOfCode (instrs code) consts) fuel).2.stack = [] ∧
               (run vc (progOfCode (instrs code) consts) fuel).2.scopes = []
    | .error e => e ≠ .underflow ∧ e ≠ .badop ∧ e ≠ .fuel := by
  have h0 := hb [] [] vc (prologue vc {}) rfl
  simp only [List.nil_append, List.append_nil, codeSize_nil, Nat.zero_add] at h0
  have hl := loop_of_stepN vc (progOfCode (instrs code) consts) (instrs code).length (prologue vc {}) fuel (by omega)
  unfold run runOn
  cases hr : stepN vc (progOfCode (instrs code) consts) (instrs code).length (prologue vc {}) with
  | ok s' =>
    rw [hr] at h0 hl
    obtain ⟨hip, ⟨v, hst⟩, hsc⟩ := h0
    simp only at hl
    rw [hl]
    obtain ⟨k, hk⟩ : ∃ k, fuel - (instrs code).length = k + 1 := ⟨fuel - (instrs code).length - 1, by omega⟩
    have hsize : (progOfCode (instrs code) consts).code.size = lsize code := by
      simp [progOfCode, codeSize_eq_length, lsize_eq]
    have hge : (progOfCode (instrs code) consts).code.size ≤ s'.ip := by rw [hsize, hip]; omega
    rw [hk]
    rw [loop_halt_cons k hge hst]
    exact ⟨rfl, by simpa [prologue] using hsc⟩
  | error es =>
    obtain ⟨e, s'⟩ := es
    rw [hr] at h0 hl
    simp only at hl
    rw [hl h0.2.1]
    exact h0

end ExprModel.Bc
