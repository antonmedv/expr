import ExprModel.Proofs.BcBoundary
/-
`wfStatic` tests jump targets with the recursive test `instrBoundary`.  `wfStatic_sound` reads its verdict as facts
about the decoded instruction list alone (a jump target is the size of a prefix of the list), so that a user of an
accepted program needs neither the checker nor `instrBoundary`.
-/
namespace ExprModel.Bc

/-- An accepted program decodes, to exactly its end, into instructions `is` such that every operand is acceptable
    (`argOk`: constant index in range and of the class the opcode expects, 0/1 for Cast), every jump target
    `ip_after ± arg` is the size of a prefix `p` (an instruction boundary, or the end when `q = []`), and Begin/End nest. -/
theorem wfStatic_sound (bytes : List Nat) (consts : Array Val) (h : wfStatic bytes consts = true) :
    ∃ is : List Instr, encodeAll is = bytes ∧ (∀ i ∈ is, argOk consts i = true) ∧
      (∀ pre i post, is = pre ++ i :: post →
        (i.op.argClass = .jumpFwd → ∃ p q, is = p ++ q ∧ codeSize p = codeSize pre + i.size + i.arg) ∧
        (i.op.argClass = .jumpBack → i.arg ≤ codeSize pre + i.size ∧
            ∃ p q, is = p ++ q ∧ codeSize p = codeSize pre + i.size - i.arg)) ∧
      nestOk 0 is = some 0 := by
  unfold wfStatic at h
  split at h
  · rename_i is hd
    obtain ⟨henc, _, _⟩ := decodeAll_sound _ _ _ hd
    unfold wfInstrs at h
    simp only [Bool.and_eq_true, List.all_eq_true, beq_iff_eq] at h
    obtain ⟨⟨ha, hj⟩, hn⟩ := h
    refine ⟨is, henc, ha, ?_, hn⟩
    intro pre i post hsplit
    have hji : jumpOk (instrBoundary is) (0 + codeSize pre) i = true := by
      have := hj; rw [hsplit] at this ⊢
      exact jumpsOk_at (by simpa using this)
    simp only [Nat.zero_add] at hji
    unfold jumpOk at hji
    constructor
    · intro hc
      simp only [hc] at hji
      exact (boundary_iff_prefix _ _).1 hji
    · intro hc
      simp only [hc, Bool.and_eq_true, decide_eq_true_eq] at hji
      exact ⟨hji.1, (boundary_iff_prefix _ _).1 hji.2⟩
  · cases h

end ExprModel.Bc
