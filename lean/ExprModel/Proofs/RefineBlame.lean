import ExprModel.Proofs.RefineFails
import ExprModel.Proofs.RefineSteps
import ExprModel.Proofs.EvalLocErase
import ExprModel.Proofs.Walk
/-
C13 on top of C01: blame relations for the failing step of a compiled program (`ExactBlame`: THE location the
instrumented reference evaluator reports for the whole program; `InnerBlame`: the location of some node whose own
evaluation fails with this class).
-/
namespace ExprModel.Refine
open ExprModel
open ExprModel.Spec
open ExprModel.Spec.SML

def InnerBlame (c : Cfg) (root : Node) (e : ErrClass) (l : Loc) : Prop :=
  ∃ m ∈ Node.preorder root, m.loc = l ∧ ∃ ctx σ, (eval (specOf c) ctx m σ).1 = .error e

def ExactBlame (c : Cfg) (root : Node) (e : ErrClass) (l : Loc) : Prop :=
  (evalLoc (specOf c) [] root {}).1 = .error (e, l)

theorem exactBlame_root (c : Cfg) (root : Node) : BAt (ExactBlame c root) (evalLoc (specOf c) [] root) {} := by
  intro e l σ' h
  unfold ExactBlame
  rw [h]

theorem mem_preorder_self (n : Node) : n ∈ Node.preorder n := by
  rw [ExprModel.preorder_eq]; exact List.mem_cons_self

theorem mem_preorder_child {n x m : Node} (hx : x ∈ n.children) (hm : m ∈ Node.preorder x) : m ∈ Node.preorder n := by
  rw [ExprModel.preorder_eq]
  refine List.mem_cons_of_mem _ (List.mem_flatten.2 ⟨Node.preorder x, List.mem_map.2 ⟨x, hx, rfl⟩, hm⟩)

/-- `InnerBlame c = Inner (specOf c)` (`inner_eq`) -/
def Inner (sc : SCfg) (root : Node) (e : ErrClass) (l : Loc) : Prop :=
  ∃ m ∈ Node.preorder root, m.loc = l ∧ ∃ ctx σ, (eval sc ctx m σ).1 = .error e

theorem Inner.child {sc : SCfg} {n x : Node} {e : ErrClass} {l : Loc} (hx : x ∈ n.children) (h : Inner sc x e l) :
    Inner sc n e l := by
  obtain ⟨m, hm, hl, hc⟩ := h
  exact ⟨m, mem_preorder_child hx hm, hl, hc⟩

/-- The invariant of the traversal `evalLoc_own`.  A rule raised at `n.loc` is `Own` whatever it computes (`FL.own`); that
    `n`'s evaluation fails with this class, which `Inner` asks for, is known only of the whole of `evalLoc … n`
    (`eval_of_evalLoc_error`), so `Inner` is concluded once per node (`Own.inner`). -/
def Own (sc : SCfg) (n : Node) (e : ErrClass) (l : Loc) : Prop := l = n.loc ∨ ∃ x ∈ n.children, Inner sc x e l

theorem Own.inner {sc : SCfg} {ctx : Ctx} {n : Node} (h : FL (Own sc n) (evalLoc sc ctx n)) : FL (Inner sc n) (evalLoc sc ctx n) := by
  refine ⟨fun σ e l σ' hev => ?_⟩
  rcases h.out σ e l σ' hev with rfl | ⟨x, hx, hi⟩
  · exact ⟨n, mem_preorder_self n, rfl, ctx, σ, by rw [eval_of_evalLoc_error hev]⟩
  · exact hi.child hx

theorem FL.ofChild {sc : SCfg} {ctx : Ctx} {n x : Node} (hx : x ∈ n.children) (h : FL (Own sc x) (evalLoc sc ctx x)) :
    FL (Own sc n) (evalLoc sc ctx x) := (Own.inner h).mono (fun _ _ hi => .inr ⟨x, hx, hi⟩)

theorem FL.own {sc : SCfg} {n : Node} {α : Type} (t : SM α) : FL (Own sc n) (raisedAt n.loc t) :=
  FL.raised t fun _ => .inl rfl

def InnerL (sc : SCfg) (ns : List Node) (e : ErrClass) (l : Loc) : Prop := ∃ x ∈ ns, Inner sc x e l

theorem FL.ofArgs {sc : SCfg} {n : Node} {ns : List Node} {α : Type} {m : SML α} (hsub : ∀ y ∈ ns, y ∈ n.children)
    (h : FL (InnerL sc ns) m) : FL (Own sc n) m :=
  h.mono fun _ _ ⟨y, hy, hi⟩ => .inr ⟨y, hsub y hy, hi⟩

mutual
theorem evalLoc_own (sc : SCfg) : (n : Node) → ∀ ctx, FL (Own sc n) (evalLoc sc ctx n)
  | .nil m, ctx => FL.pure _
  | .int m v, ctx => FL.pure _
  | .float m v, ctx => FL.pure _
  | .bool m v, ctx => FL.pure _
  | .str m v, ctx => FL.pure _
  | .const m v, ctx => FL.pure _
  | .ident m name ns, ctx => FL.own _
  | .pointer m, ctx => FL.own _
  | .unary m op x, ctx =>
    (FL.ofChild (.head _) (evalLoc_own sc x ctx)).bind fun v => FL.own _
  | .binary m op l r, ctx => by
    have hl : FL (Own sc (.binary m op l r)) (evalLoc sc ctx l) := FL.ofChild (.head _) (evalLoc_own sc l ctx)
    have hr : FL (Own sc (.binary m op l r)) (evalLoc sc ctx r) := FL.ofChild (.tail _ (.head _)) (evalLoc_own sc r ctx)
    rw [evalLoc_binary]
    exact FL.ite (hl.bind fun a => (FL.own _).bind fun t => FL.ite hr (FL.pure _))
      (FL.ite (hl.bind fun a => (FL.own _).bind fun t => FL.ite (FL.pure _) hr)
        (hl.bind fun a => hr.bind fun b => FL.own _))
  | .matches m hasRe l r, ctx => by
    rw [evalLoc_matches]
    exact (FL.ofChild (.head _) (evalLoc_own sc l ctx)).bind fun a => FL.ite (FL.own _)
      ((FL.ofChild (.tail _ (.head _)) (evalLoc_own sc r ctx)).bind fun b => FL.own _)
  | .prop m x name ns, ctx =>
    (FL.ofChild (.head _) (evalLoc_own sc x ctx)).bind fun v => FL.own _
  | .index m x i, ctx =>
    (FL.ofChild (.head _) (evalLoc_own sc x ctx)).bind fun a =>
      (FL.ofChild (.tail _ (.head _)) (evalLoc_own sc i ctx)).bind fun b => FL.own _
  | .slice m x f t, ctx => by
    have hx := FL.ofChild (n := .slice m x f t) (.head _) (evalLoc_own sc x ctx)
    have hf : FL (Own sc (.slice m x f t)) (match f with
        | some f => evalLoc sc ctx f
        | none => pure (.int .int 0)) := by
      cases f with
      | none => exact FL.pure _
      | some f => exact FL.ofChild (.tail _ (.head _)) (evalLoc_own sc f ctx)
    have ht : ∀ a, FL (Own sc (.slice m x f t)) (match t with
        | some t => evalLoc sc ctx t
        | none => raisedAt m.loc (do pure (.int .int (← SM.lift (lengthV a))))) := by
      intro a
      cases t with
      | none => exact FL.own _
      | some t =>
        exact FL.ofChild (List.mem_cons_of_mem _ (List.mem_append_right _ (.head _))) (evalLoc_own sc t ctx)
    rw [evalLoc_slice]
    exact hx.bind fun a => FL.ite ((ht a).bind fun tv => hf.bind fun fv => FL.own _)
      (hf.bind fun fv => (ht a).bind fun tv => FL.own _)
  | .method m x name args ns, ctx =>
    (FL.ofChild (.head _) (evalLoc_own sc x ctx)).bind fun obj =>
      (FL.ofArgs (n := .method m x name args ns) (fun y hy => .tail _ hy) (evalListLoc_inner sc args ctx)).bind fun vs => FL.own _
  | .func m name args fast, ctx =>
    (FL.ofArgs (n := .func m name args fast) (fun y hy => hy) (evalListLoc_inner sc args ctx)).bind fun vs =>
      FL.own _
  | .builtin m name [], ctx => evalLoc_builtin_bad sc ctx m name [] (by decide) (fun _ => by decide) ▸ FL.own _
  | .builtin m name [a], ctx => by
    by_cases hn : name = "len"
    · subst hn
      exact (FL.ofChild (.head _) (evalLoc_own sc a ctx)).bind fun v => FL.own _
    · rw [evalLoc_builtin_bad sc ctx m name [a] (by simp) (fun h => absurd h hn)]
      exact FL.own _
  | .builtin m name [a, b], ctx => by
    have loop : ∀ {α : Type} {post : Val → Nat → α → Val → SML (α ⊕ Val)} {acc0 : α} {fin : Int → α ⊕ Val → SM Val},
        (∀ coll i acc x, FL (Own sc (.builtin m name [a, b])) (post coll i acc x)) →
        FL (Own sc (.builtin m name [a, b])) (loopL sc ctx a b m.loc post acc0 fin) := fun hp =>
      FL.loopL (FL.ofChild (.head _) (evalLoc_own sc a ctx))
        (fun ctx' => FL.ofChild (.tail _ (.head _)) (evalLoc_own sc b ctx')) (fun _ => FL.own _) hp fun _ _ => FL.own _
    cases h : builtinNames.contains name with
    | false =>
      rw [evalLoc_builtin_unknown sc ctx m name a b h]
      exact FL.own _
    | true =>
      rcases Spec.builtinNames_cases h with rfl | rfl | rfl | rfl | rfl | rfl | rfl
      · rw [evalLoc_all]; exact loop fun _ _ _ _ => FL.own _
      · rw [evalLoc_none]; exact loop fun _ _ _ _ => FL.own _
      · rw [evalLoc_any]; exact loop fun _ _ _ _ => FL.own _
      · rw [evalLoc_one]; exact loop fun _ _ _ _ => FL.own _
      · rw [evalLoc_filter]; exact loop fun _ _ _ _ => FL.own _
      · rw [evalLoc_bmap]; exact loop fun _ _ _ _ => FL.pure _
      · rw [evalLoc_count]; exact loop fun _ _ _ _ => FL.own _
  | .builtin m name (a :: b :: d :: rest), ctx =>
    evalLoc_builtin_bad sc ctx m name (a :: b :: d :: rest) (by simp) (fun _ => by simp) ▸ FL.own _
  | .closure m x, ctx =>
    FL.ofChild (n := .closure m x) (x := x) (.head _) (evalLoc_own sc x ctx)
  | .cond m cn a b, ctx =>
    (FL.ofChild (.head _) (evalLoc_own sc cn ctx)).bind fun v => (FL.own _).bind fun t =>
      FL.ite (FL.ofChild (.tail _ (.head _)) (evalLoc_own sc a ctx))
        (FL.ofChild (.tail _ (.tail _ (.head _))) (evalLoc_own sc b ctx))
  | .array m xs, ctx =>
    (FL.ofArgs (n := .array m xs) (fun y hy => hy) (evalListLoc_inner sc xs ctx)).bind fun vs => FL.own _
  | .map m ps, ctx =>
    (FL.ofArgs (n := .map m ps) (fun y hy => hy) (evalListLoc_inner sc ps ctx)).bind fun vs => FL.own _
  | .pair m k v, ctx => FL.own _
theorem evalListLoc_inner (sc : SCfg) : (ns : List Node) → ∀ ctx, FL (InnerL sc ns) (evalListLoc sc ctx ns)
  | [], ctx => FL.pure _
  | n :: rest, ctx => by
    have hn : FL (InnerL sc (n :: rest)) (evalLoc sc ctx n) := (Own.inner (evalLoc_own sc n ctx)).mono fun e l hi => ⟨n, .head _, hi⟩
    have hr : FL (InnerL sc (n :: rest)) (evalListLoc sc ctx rest) :=
      (evalListLoc_inner sc rest ctx).mono fun e l ⟨y, hy, hi⟩ => ⟨y, .tail _ hy, hi⟩
    by_cases hp : n.isPair = false
    · rw [evalListLoc_cons _ _ _ _ hp]
      exact hn.bind fun v => hr.bind fun vs => FL.pure _
    · cases n <;> simp [Node.isPair] at hp
      rename_i m k v
      rw [evalListLoc_pair]
      exact ((Own.inner (evalLoc_own sc k ctx)).mono fun e l hi => ⟨.pair m k v, .head _, hi.child (.head _)⟩).bind fun kv =>
        ((Own.inner (evalLoc_own sc v ctx)).mono fun e l hi => ⟨.pair m k v, .head _, hi.child (.tail _ (.head _))⟩).bind fun vv =>
        hr.bind fun vs => FL.pure _
end

theorem evalLoc_inner (sc : SCfg) : (n : Node) → ∀ ctx, FL (Inner sc n) (evalLoc sc ctx n) :=
  fun n ctx => Own.inner (evalLoc_own sc n ctx)

theorem inner_eq (c : Cfg) (root : Node) : InnerBlame c root = Inner (specOf c) root := rfl

theorem innerBlame_root (c : Cfg) (root : Node) : BAt (InnerBlame c root) (evalLoc (specOf c) [] root) {} :=
  (evalLoc_inner (specOf c) root []).toBAt {}

end ExprModel.Refine
