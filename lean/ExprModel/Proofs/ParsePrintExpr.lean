import ExprModel.Proofs.ParsePrintCore
import ExprModel.Proofs.ParserMono
/-
Round trip: literals, unary and binary operators (all precedences, both associativities, `matches`),
the conditional.  One turn of the operator loop is `conv_cont_op`, the one place that needs the parser's monotonicity
in its fuel (`cont_shift`).
-/
namespace ExprModel.Parser

variable {cfg : Cfg} {sh : NumShow} {pc : ParenChoice}

theorem Eb_of_atom {t : Node} {T : Token} (h1 : T.kind ≠ .operator) (h2 : T.is .bracket "(" = false)
    (hbody : ∀ π m fw, body cfg sh pc π m fw t = [T])
    (hprim : ∀ d, canon cfg d t = true → ∀ f fw tl,
      parsePrimaryExpression cfg (f+1) d (T :: fw :: tl) = .ok t (fw :: tl)) :
    EbStmt cfg sh pc t := by
  intro π m p fw tl d res hc _ _ _ _ hcont
  rw [hbody]
  refine conv_parseExpression cfg (Conv.of_succ (Conv.of_eq fun f => ?_)) hcont
  exact (parsePrimary_other cfg h1 h2 _ d _).trans (hprim d hc f fw tl)

theorem Eb_nil (m : Meta) : EbStmt cfg sh pc (.nil m) := by
  refine Eb_of_atom (by simp [tok]) rfl (fun π m' fw => body_nil π m' fw m) ?_
  intro d hc f fw tl
  simp only [canon] at hc
  rw [parsePrimaryExpression]
  simp [tok, next, mk_of_inv hc]

theorem Eb_bool (m : Meta) (b : Bool) : EbStmt cfg sh pc (.bool m b) := by
  refine Eb_of_atom (by simp [tok]) rfl (fun π m' fw => body_bool π m' fw m b) ?_
  intro d hc f fw tl
  simp only [canon] at hc
  rw [parsePrimaryExpression]
  cases b <;> simp [tok, next, mk_of_inv hc]

theorem Eb_str (m : Meta) (s : String) : EbStmt cfg sh pc (.str m s) := by
  refine Eb_of_atom (by simp [tok]) rfl (fun π m' fw => body_str π m' fw m s) ?_
  intro d hc f fw tl
  simp only [canon] at hc
  rw [parsePrimaryExpression]
  simp [tok, next, mk_of_inv hc]

theorem Eb_int (hy : Hyp cfg sh) (m : Meta) (v : Int) : EbStmt cfg sh pc (.int m v) := by
  refine Eb_of_atom (by simp [tok]) rfl (fun π m' fw => body_int π m' fw m v) ?_
  intro d hc f fw tl
  simp only [canon, Bool.and_eq_true, decide_eq_true_eq] at hc
  rw [parsePrimaryExpression]
  simp [tok, next, hy.int_rt _ (by omega : v.toNat < 2 ^ 63), mk_of_inv hc.1, Int.toNat_of_nonneg hc.2.1]

theorem Eb_float (hy : Hyp cfg sh) (m : Meta) (b : UInt64) : EbStmt cfg sh pc (.float m b) := by
  refine Eb_of_atom (by simp [tok]) rfl (fun π m' fw => body_float π m' fw m b) ?_
  intro d hc f fw tl
  simp only [canon, Bool.and_eq_true] at hc
  rw [parsePrimaryExpression]
  simp [tok, next, hy.float_rt b hc.2, mk_of_inv hc.1]

/-- `exprLoop (f+1)` goes on with `exprLoop f`, while the conditional behind the loop in `cont (f+1)` stays at
    `f+1`: one turn of the loop inside `cont (f+1)` leaves this term, which is neither `cont f` nor `cont (f+1)`.
    If the loop fails at `f` it is `cont f` (`h1`); if it succeeds, `f+1` gives the same (`monoAt`) and it is
    `cont (f+1)` (`h2`). -/
theorem cont_shift {f d p : Nat} {n : Node} {ts : List Token} {res : Res Node}
    (h1 : cont cfg f d p n ts = res) (h2 : cont cfg (f+1) d p n ts = res) :
    (exprLoop cfg f d p n ts).bind (fun e ts2 =>
      if p = 0 then parseConditional cfg (f+1) d e ts2 else .ok e ts2) = res := by
  unfold cont at h1 h2
  cases h : exprLoop cfg f d p n ts with
  | ok e ts' =>
    have hm := ((monoAt cfg f).loop d p n ts).eq_of_ne (by rw [h]; intro hc; cases hc)
    rw [hm, h] at h2
    exact h2
  | err e => rw [h] at h1; exact h1
  | fuel => rw [h] at h1; exact h1

theorem exprLoop_op {o : Token} {p q : Nat} {a : Assoc} (hop : binOp cfg o = some (q, a)) (hpq : p ≤ q)
    {rest : List Token} (hne : rest ≠ []) (f d : Nat) (l : Node) :
    exprLoop cfg (f+1) d p l (o :: rest) =
      (parseExpression cfg f d (rprec q a) rest).bind fun r ts2 =>
        if o.value == "matches" then
          match strLit? r with
          | some s =>
            if cfg.badRegex s then .err ((cur ts2).loc, "error parsing regexp")
            else exprLoop cfg f d p (.matches (mk o.loc) true l r) ts2
          | none => exprLoop cfg f d p (.matches (mk o.loc) false l r) ts2
        else exprLoop cfg f d p (.binary (mk o.loc) o.value l r) ts2 := by
  -- rewriting step by step: `simp` would also work through the continuation under its binder, which is slow
  have hop' : binOp cfg (cur (o :: rest)) = some (q, a) := hop
  rw [exprLoop, hop']
  dsimp only
  rw [if_pos hpq, next_cons_of_ne _ _ hne, Res.bind_ok]
  rfl

theorem conv_cont_op {d p q : Nat} {a : Assoc} {o : Token} {l r : Node} {rest ts2 : List Token} {res : Res Node}
    (hop : binOp cfg o = some (q, a)) (hpq : p ≤ q) (hne : rest ≠ [])
    (hbad : ∀ s, (o.value == "matches") = true → strLit? r = some s → cfg.badRegex s = false)
    (hr : Conv (fun f => parseExpression cfg f d (rprec q a) rest) (.ok r ts2))
    (hc : Conv (fun f => cont cfg f d p (if o.value == "matches" then .matches (mk o.loc) (strLit? r).isSome l r
      else .binary (mk o.loc) o.value l r) ts2) res) :
    Conv (fun f => cont cfg f d p l (o :: rest)) res := by
  obtain ⟨f1, h1⟩ := hr
  obtain ⟨f2, h2⟩ := hc
  refine ⟨max f1 f2 + 1, fun f hf => ?_⟩
  obtain ⟨f', rfl⟩ : ∃ f', f = f' + 1 := ⟨f - 1, by omega⟩
  have h1' : parseExpression cfg f' d (rprec q a) rest = .ok r ts2 := h1 f' (by omega)
  have h2a := h2 f' (by omega)
  have h2b := h2 (f'+1) (by omega)
  show cont cfg (f'+1) d p l (o :: rest) = res
  unfold cont
  rw [exprLoop_op hop hpq hne, h1', Res.bind_ok]
  cases hm : o.value == "matches"
  · simp only [hm, Bool.false_eq_true, if_false] at h2a h2b ⊢
    exact cont_shift h2a h2b
  · simp only [hm, if_true] at h2a h2b ⊢
    cases hs : strLit? r with
    | none =>
      simp only [hs, Option.isSome_none] at h2a h2b
      exact cont_shift h2a h2b
    | some s =>
      simp only [hs, Option.isSome_some] at h2a h2b
      simp only [hbad s hm hs, Bool.false_eq_true, if_false]
      exact cont_shift h2a h2b

theorem binOp_tok_operator (op : String) (l : Loc) :
    binOp cfg (tok .operator op l) = cfg.tb.binary.lookup op := by
  simp [binOp, tok]

theorem followTok_binop (hy : TbOK cfg.tb) {op : String} {qa : Nat × Assoc} (l : Loc)
    (h : cfg.tb.binary.lookup op = some qa) : FollowTok (tok .operator op l) := by
  obtain ⟨h1, h2, h3, h4, _⟩ := hy.bin_follow op qa h
  exact ⟨h1, h2, h3, h4⟩

/-- the follow operator is not swallowed by a bare binary at level `m` -/
theorem stops_rprec (hy : TbOK cfg.tb) {m q : Nat} {a : Assoc} {op : String} {fw : Token}
    (hop : cfg.tb.binary.lookup op = some (q, a)) (hmq : m ≤ q) (hinv : Inv cfg m fw) :
    Stops cfg (rprec q a) fw := by
  have hpos := hy.bin_pos op q a hop
  refine ⟨fun q' a' hb => ?_, fun h0 => by unfold rprec at h0; split at h0 <;> omega⟩
  have h1 := hinv q' a' hb
  have ho' := (binOp_lookup hb).2
  unfold lprec at h1
  unfold rprec
  by_cases hqq : q' = q
  · subst hqq
    have := hy.coherent _ op q' a' a ho' hop
    subst this
    cases a' <;> simp_all <;> omega
  · cases a' <;> cases a <;> simp_all <;> omega

theorem inv_rprec {m q : Nat} {a : Assoc} {fw : Token} (hmq : m ≤ q) (hinv : Inv cfg m fw) :
    Inv cfg (rprec q a) fw := by
  intro q' a' hb
  have := hinv q' a' hb
  unfold rprec
  split <;> omega

/-- `l op r` for both infix forms.  The left operand is printed for `lprec q a` and read by the enclosing call at
    `p` (hence `p ≤ m` in `EStmt`); `op` follows it, at which the loop at `p` goes on (`conv_cont_op`); the right
    operand is printed and read at `rprec q a`, where the follow token `fw` stops it (`stops_rprec`). -/
theorem conv_infix (hy : TbOK cfg.tb) {l r : Node} {op : String} {q : Nat} {a : Assoc} (loc : Loc)
    (hop : cfg.tb.binary.lookup op = some (q, a)) (ihl : EStmt cfg sh pc l) (ihr : EStmt cfg sh pc r)
    {d : Nat} (hcl : canon cfg d l = true) (hcr : canon cfg d r = true)
    (hbad : ∀ s, (op == "matches") = true → strLit? r = some s → cfg.badRegex s = false)
    {π : List Nat} {m p : Nat} {fw : Token} {tl : List Token} {res : Res Node}
    (hpm : p ≤ m) (hmq : m ≤ q) (hfw : FollowTok fw) (hinv : Inv cfg m fw)
    (hcont : Conv (fun f => cont cfg f d p (if op == "matches" then .matches (mk loc) (strLit? r).isSome l r
      else .binary (mk loc) op l r) (fw :: tl)) res) :
    Conv (fun f => parseExpression cfg f d p (pr cfg sh pc (0 :: π) (lprec q a) (tok .operator op loc) l ++
      tok .operator op loc :: (pr cfg sh pc (1 :: π) (rprec q a) fw r ++ fw :: tl))) res := by
  have hopt : binOp cfg (tok .operator op loc) = some (q, a) := by rw [binOp_tok_operator]; exact hop
  refine ihl (0 :: π) (lprec q a) p (tok .operator op loc) _ d res hcl
    (by unfold lprec; split <;> omega) (followTok_binop hy loc hop)
    (by intro q' a' hb; rw [hopt] at hb; cases hb; exact Nat.le_refl _) ?_
  refine conv_cont_op (r := r) (ts2 := fw :: tl) hopt (by omega) (by simp) hbad ?_ hcont
  exact ihr (1 :: π) (rprec q a) (rprec q a) fw tl d _ hcr (Nat.le_refl _) hfw (inv_rprec hmq hinv)
    (conv_cont_stop cfg (stops_rprec hy hop hmq hinv) d r tl)

theorem Eb_binary (hy : TbOK cfg.tb) (mt : Meta) (op : String) (l r : Node)
    (ihl : EStmt cfg sh pc l) (ihr : EStmt cfg sh pc r) : EbStmt cfg sh pc (.binary mt op l r) := by
  intro π m p fw tl d res hc hpm hneed hfw hinv hcont
  simp only [canon, Bool.and_eq_true, bne_iff_ne, ne_eq] at hc
  obtain ⟨⟨⟨⟨hmeta, hlook⟩, hnm⟩, hcl⟩, hcr⟩ := hc
  obtain ⟨⟨q, a⟩, hop⟩ := Option.isSome_iff_exists.mp hlook
  have hm : (op == "matches") = false := by simpa using hnm
  rw [body_binary (hop := hop)]
  refine conv_infix hy mt.loc hop ihl ihr hcl hcr (fun s h => by rw [hm] at h; cases h) hpm
    (by simpa [needParens, hop] using hneed) hfw hinv ?_
  rw [hm]
  simpa [mk_of_inv hmeta] using hcont

theorem Eb_matches (hy : TbOK cfg.tb) (mt : Meta) (h : Bool) (l r : Node)
    (ihl : EStmt cfg sh pc l) (ihr : EStmt cfg sh pc r) : EbStmt cfg sh pc (.matches mt h l r) := by
  intro π m p fw tl d res hc hpm hneed hfw hinv hcont
  simp only [canon, Bool.and_eq_true, beq_iff_eq] at hc
  obtain ⟨⟨⟨⟨⟨hmeta, hlook⟩, hh⟩, hbad⟩, hcl⟩, hcr⟩ := hc
  obtain ⟨⟨q, a⟩, hop⟩ := Option.isSome_iff_exists.mp hlook
  rw [body_matches (hop := hop)]
  refine conv_infix hy mt.loc hop ihl ihr hcl hcr (fun s _ hs => by rw [hs] at hbad; simpa using hbad)
    hpm (by simpa [needParens, hop] using hneed) hfw hinv ?_
  subst hh
  simpa [mk_of_inv hmeta] using hcont

theorem unOp_tok_operator (op : String) (l : Loc) :
    unOp cfg (tok .operator op l) = (cfg.tb.unary.lookup op).map (·.1) := by
  simp [unOp, tok]

theorem parsePrimary_unary {u : Token} {pu : Nat} (h : unOp cfg u = some pu) (f d : Nat) (rest : List Token)
    (hne : rest ≠ []) :
    parsePrimary cfg (f+1) d (u :: rest) =
      (parseExpression cfg f d pu rest).bind fun e ts2 =>
        parsePostfix cfg f d (.unary (mk u.loc) u.value e) false ts2 := by
  rw [parsePrimary]
  simp only [cur_cons, h, next_cons_of_ne _ _ hne, Res.bind_ok]

theorem Eb_unary (hy : TbOK cfg.tb) (mt : Meta) (op : String) (x : Node)
    (ihx : EStmt cfg sh pc x) : EbStmt cfg sh pc (.unary mt op x) := by
  intro π m p fw tl d res hc hpm hneed hfw hinv hcont
  simp only [canon, Bool.and_eq_true] at hc
  obtain ⟨⟨hmeta, hlook⟩, hcx⟩ := hc
  obtain ⟨⟨pu, au⟩, hop⟩ := Option.isSome_iff_exists.mp hlook
  have hpos := hy.un_pos op pu au hop
  have hlt : ∀ q' a', binOp cfg fw = some (q', a') → q' < pu := by
    intro q' a' hb
    simp only [needParens, hop, hb, ge_iff_le, decide_eq_false_iff_not, Nat.not_le] at hneed
    exact hneed
  rw [body_unary (hop := hop)]
  have hx : Conv (fun f => parseExpression cfg f d pu (pr cfg sh pc (0 :: π) pu fw x ++ fw :: tl)) (.ok x (fw :: tl)) := by
    refine ihx (0 :: π) pu pu fw tl d _ hcx (Nat.le_refl _) hfw ?_ (conv_cont_stop cfg ⟨hlt, fun h0 => by omega⟩ d x tl)
    intro q' a' hb
    have := hlt q' a' hb
    unfold lprec; split <;> omega
  refine conv_parseExpression cfg ?_ hcont
  have hu : unOp cfg (tok .operator op mt.loc) = some pu := by rw [unOp_tok_operator, hop]; rfl
  refine Conv.step (fun f => parsePrimary_unary hu f d _ (by simp)) ?_
  refine Conv.bind hx ?_
  have := conv_postfix_stop cfg hfw d (.unary mt op x) false tl
  simpa [tok, mk_of_inv hmeta] using this

theorem cont_quest (hy : TbOK cfg.tb) {R : List Token} (hR : HeadOK R) (l : Loc) (f d : Nat) (c : Node) :
    cont cfg (f+1) d 0 c (questAt l :: R) =
      (parseExpression cfg f d 0 R).bind fun e1 ts2 =>
      (expect .operator ":" ts2).bind fun _ ts3 =>
      (parseExpression cfg f d 0 ts3).bind fun e2 ts4 =>
      parseConditional cfg f d (.cond (mk l) c e1 e2) ts4 := by
  obtain ⟨t0, rest, rfl, h0⟩ := hR
  unfold cont
  rw [exprLoop_stop cfg (by intro q a hb; rw [binOp_quest hy l] at hb; cases hb)]
  simp only [Res.bind_ok, if_true]
  rw [parseConditional]
  have hq : (questAt l).is .operator "?" = true := by simp [questAt, tok, Token.is]
  have hl : (questAt l).loc = l := rfl
  simp only [cur_cons, hq, hl, if_true, next_cons_cons, Res.bind_ok, h0.1, Bool.false_eq_true, if_false]

theorem Eb_cond (hy : TbOK cfg.tb) (mt : Meta) (c a b : Node)
    (ihc : EStmt cfg sh pc c) (iha : EStmt cfg sh pc a) (ihb : EStmt cfg sh pc b) :
    EbStmt cfg sh pc (.cond mt c a b) := by
  intro π m p fw tl d res hc hpm hneed hfw hinv hcont
  simp only [canon, Bool.and_eq_true] at hc
  obtain ⟨⟨⟨hmeta, hcc⟩, hca⟩, hcb⟩ := hc
  simp only [needParens, Bool.not_eq_eq_eq_not, Bool.not_false, Bool.and_eq_true, beq_iff_eq,
    Option.isNone_iff_eq_none, Bool.not_true] at hneed
  obtain ⟨⟨hm0, hbfw⟩, hqfw⟩ := hneed
  subst hm0
  have hp0 : p = 0 := by omega
  subst hp0
  have hclose : Closer cfg fw := ⟨hfw, hbfw, hqfw⟩
  -- a bare conditional stands only before a closer (`hneed`), where `cont` stops: that fixes `res`
  have hres : res = .ok (.cond mt c a b) (fw :: tl) :=
    Conv.unique hcont (conv_cont_stop cfg (hclose.stops 0) d _ tl)
  subst hres
  rw [body_cond]
  refine ihc (0 :: π) 0 0 (questAt mt.loc) _ d _ hcc (Nat.le_refl _) (followTok_quest _)
    (inv_of_none (binOp_quest hy _) 0) ?_
  -- the loop stops at `?`, then the conditional production
  have hR := headOK_of_conv hy (E_closed iha hca (1 :: π) (closer_colon hy)
    (pr cfg sh pc (2 :: π) 0 fw b ++ fw :: tl))
  refine Conv.step (fun f => cont_quest hy hR mt.loc f d c) ?_
  refine Conv.bind (E_closed iha hca (1 :: π) (closer_colon hy) _) ?_
  simp only [expect_colon _ (by simp : pr cfg sh pc (2 :: π) 0 fw b ++ fw :: tl ≠ []), Res.bind_ok]
  refine Conv.bind (E_closed ihb hcb (2 :: π) hclose tl) ?_
  rw [mk_of_inv hmeta]
  exact Conv.of_eq (fun f => parseConditional_stop cfg hqfw f d _ tl)

end ExprModel.Parser
