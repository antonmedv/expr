import ExprModel.Proofs.CheckerElab
import ExprModel.Proofs.Select
import ExprModel.Proofs.Outcome
/-
What a value of a static type is.  Scalar types (bool, string, the twelve numeric kinds: `ValOfK`, `NumOf`) and what the
run-time library's `notV`, `negV`, `binHelper` deliver on their values; the value types of the extended fragment (`VTy`,
`vtyOf`: what the checker's type says of the value; `ValOfV`, `Conf`); the side conditions of `typed2` (SoundAsm) on an
operand's type, each with the lemma that opens it (`<name>_elim`); `EvalOKV`, the form in which C03 states soundness.
-/
namespace ExprModel
open Spec

def RKind.isScalar : RKind → Bool
  | .bool | .string | .num _ => true
  | _ => false

def NumOf (v : Val) (k : Kind) : Prop :=
  match k with
  | .float64 => ∃ x, v = .f64 x
  | .float32 => ∃ x, v = .f32 x
  | k => ∃ n, v = .int k n

def ValOfK (v : Val) (k : RKind) : Prop :=
  match k with
  | .bool => ∃ b, v = .bool b
  | .string => ∃ s, v = .str s
  | .num kk => NumOf v kk
  | _ => False

def ScalarT (t : OTy) : Prop := t.kind.isScalar = true

theorem scalar_some {t : OTy} (h : ScalarT t) : ∃ ty, t = some ty := by
  cases t with
  | none => simp [ScalarT, OTy.kind, RKind.isScalar] at h
  | some ty => exact ⟨ty, rfl⟩

theorem scalar_not_ptr {ty : Ty} (h : ScalarT (some ty)) : ty.isPtr = false := by
  unfold ScalarT OTy.kind Ty.kind at h
  unfold Ty.isPtr
  cases hc : ty.core <;> simp [hc, RKind.isScalar] at h ⊢

theorem scalar_deref_kind {t : OTy} (h : ScalarT t) : t.deref.kind = t.kind := by
  obtain ⟨ty, rfl⟩ := scalar_some h
  simp only [OTy.deref, OTy.kind, Ty.deref_of_not_isPtr (scalar_not_ptr h)]

theorem isBoolT_scalar {t : OTy} (h : ScalarT t) : isBoolT t = true ↔ t.kind = .bool := by
  unfold isBoolT
  rw [scalar_deref_kind h]
  unfold ScalarT at h
  cases hk : t.kind <;> simp [hk, RKind.isScalar] at h ⊢

theorem isStringT_scalar {t : OTy} (h : ScalarT t) : isStringT t = true ↔ t.kind = .string := by
  unfold isStringT
  rw [scalar_deref_kind h]
  unfold ScalarT at h
  cases hk : t.kind <;> simp [hk, RKind.isScalar] at h ⊢

theorem isNumberT_scalar {t : OTy} (h : ScalarT t) : isNumberT t = true ↔ ∃ k, t.kind = .num k := by
  unfold isNumberT isIntegerT isFloatT
  rw [scalar_deref_kind h]
  unfold ScalarT at h
  cases hk : t.kind <;> simp [hk, RKind.isScalar, RKind.isIntKind, RKind.isFloatKind, Kind.isInt] at h ⊢

theorem isIntegerT_scalar {t : OTy} (h : ScalarT t) : isIntegerT t = true ↔ ∃ k, t.kind = .num k ∧ k.isFloat = false := by
  unfold isIntegerT
  rw [scalar_deref_kind h]
  unfold ScalarT at h
  cases hk : t.kind <;> simp [hk, RKind.isScalar, RKind.isIntKind, Kind.isInt] at h ⊢

theorem notV_bool (b : Bool) : notV (.bool b) = .ok (.bool !b) := rfl

/-- Go's operators (`applyOp`, `conv`) distinguish no more than these three shapes -/
theorem NumOf.shape {v : Val} {K : Kind} (h : NumOf v K) :
    (K.isFloat = false ∧ ∃ n, v = .int K n) ∨ (K = .float64 ∧ ∃ x, v = .f64 x) ∨ (K = .float32 ∧ ∃ x, v = .f32 x) := by
  cases K
  case float64 => exact .inr (.inl ⟨rfl, h⟩)
  case float32 => exact .inr (.inr ⟨rfl, h⟩)
  all_goals exact .inl ⟨rfl, h⟩

theorem NumOf.int {K : Kind} (hK : K.isFloat = false) (n : Int) : NumOf (.int K n) K := by
  cases K
  case float64 => cases hK
  case float32 => cases hK
  all_goals exact ⟨n, rfl⟩

theorem NumOf.int_eq {v : Val} {K : Kind} (h : NumOf v K) (hK : K.isFloat = false) : ∃ n, v = .int K n := by
  rcases h.shape with ⟨_, hn⟩ | ⟨rfl, _⟩ | ⟨rfl, _⟩
  · exact hn
  · cases hK
  · cases hK

theorem numOf_kind {v : Val} {k : Kind} (h : NumOf v k) : kindOfVal v = some k := by
  cases k <;> obtain ⟨x, rfl⟩ := h <;> rfl

theorem negV_num {v : Val} {k : Kind} (h : NumOf v k) : ∃ w, negV v = .ok w ∧ NumOf w k := by
  cases k <;> obtain ⟨x, rfl⟩ := h <;> exact ⟨_, rfl, _, rfl⟩

theorem armType_of_num {v : Val} {k : Kind} (h : NumOf v k) : armTypeOf v = some (some k) := by
  cases k <;> obtain ⟨x, rfl⟩ := h <;> rfl

theorem conv_num (K : Kind) {v : Val} {k : Kind} (h : NumOf v k) : NumOf (conv K v) K := by
  rcases h.shape with ⟨_, n, rfl⟩ | ⟨_, x, rfl⟩ | ⟨_, x, rfl⟩
  · cases K <;> exact ⟨_, rfl⟩
  · cases K <;> exact ⟨_, rfl⟩
  · cases K <;> exact ⟨_, rfl⟩

theorem same_kind_operands {a b : Val} {ka kb : Kind} (ha : NumOf a ka) (hb : NumOf b kb) :
    NumOf (if ka = Kind.maxRank ka kb then a else conv (Kind.maxRank ka kb) a) (Kind.maxRank ka kb) ∧
    NumOf (if kb = Kind.maxRank ka kb then b else conv (Kind.maxRank ka kb) b) (Kind.maxRank ka kb) := by
  constructor
  · split
    · next e => rw [← e]; exact ha
    · exact conv_num _ ha
  · split
    · next e => rw [← e]; exact hb
    · exact conv_num _ hb

theorem applyOp_arith {x y : Val} {K : Kind} (hx : NumOf x K) (hy : NumOf y K)
    (op : BinOp) (hop : op = .add ∨ op = .sub ∨ op = .mul ∨ op = .div ∨ (op = .mod ∧ K.isFloat = false)) :
    (∃ v, applyOp op x y = .ok v ∧ NumOf v K) ∨ applyOp op x y = .error .divZero := by
  rcases hx.shape with ⟨hK, a, rfl⟩ | ⟨rfl, a, rfl⟩ | ⟨rfl, a, rfl⟩
  · -- an integer kind: `applyOp`'s integer arm is the same for every `K`
    obtain ⟨b, rfl⟩ := hy.int_eq hK
    simp only [applyOp, ne_eq, not_true_eq_false, if_false]
    rcases hop with rfl | rfl | rfl | rfl | ⟨rfl, _⟩
    · exact .inl ⟨_, rfl, NumOf.int hK _⟩
    · exact .inl ⟨_, rfl, NumOf.int hK _⟩
    · exact .inl ⟨_, rfl, NumOf.int hK _⟩
    · by_cases hb : b = 0
      · exact .inr (if_pos hb)
      · exact .inl ⟨_, if_neg hb, NumOf.int hK _⟩
    · by_cases hb : b = 0
      · exact .inr (if_pos hb)
      · exact .inl ⟨_, if_neg hb, NumOf.int hK _⟩
  · obtain ⟨b, rfl⟩ := hy
    rcases hop with rfl | rfl | rfl | rfl | ⟨rfl, hf⟩
    · exact .inl ⟨_, rfl, _, rfl⟩
    · exact .inl ⟨_, rfl, _, rfl⟩
    · exact .inl ⟨_, rfl, _, rfl⟩
    · exact .inl ⟨_, rfl, _, rfl⟩
    · cases hf
  · obtain ⟨b, rfl⟩ := hy
    rcases hop with rfl | rfl | rfl | rfl | ⟨rfl, hf⟩
    · exact .inl ⟨_, rfl, _, rfl⟩
    · exact .inl ⟨_, rfl, _, rfl⟩
    · exact .inl ⟨_, rfl, _, rfl⟩
    · exact .inl ⟨_, rfl, _, rfl⟩
    · cases hf

theorem applyOp_cmp {x y : Val} {K : Kind} (hx : NumOf x K) (hy : NumOf y K)
    (op : BinOp) (hop : op = .eq ∨ op = .lt ∨ op = .gt ∨ op = .le ∨ op = .ge) :
    ∃ b, applyOp op x y = .ok (.bool b) := by
  rcases hx.shape with ⟨hK, a, rfl⟩ | ⟨rfl, a, rfl⟩ | ⟨rfl, a, rfl⟩
  · obtain ⟨b, rfl⟩ := hy.int_eq hK
    simp only [applyOp, ne_eq, not_true_eq_false, if_false]
    rcases hop with rfl | rfl | rfl | rfl | rfl <;> exact ⟨_, rfl⟩
  · obtain ⟨b, rfl⟩ := hy
    rcases hop with rfl | rfl | rfl | rfl | rfl <;> exact ⟨_, rfl⟩
  · obtain ⟨b, rfl⟩ := hy
    rcases hop with rfl | rfl | rfl | rfl | rfl <;> exact ⟨_, rfl⟩

theorem refSem_num {a b : Val} {ka kb : Kind} (ha : NumOf a ka) (hb : NumOf b kb) (h : Helper)
    (hnf : (h.noFloat && (ka.isFloat || kb.isFloat)) = false) :
    refSem h a b = applyOp h.op (if ka = Kind.maxRank ka kb then a else conv (Kind.maxRank ka kb) a)
      (if kb = Kind.maxRank ka kb then b else conv (Kind.maxRank ka kb) b) := by
  unfold refSem
  rw [armType_of_num ha, armType_of_num hb]
  simp only []
  rw [hnf]
  simp only [Bool.false_eq_true, if_false]

theorem binHelper_arith {E : ErrClass → Prop} (hE : E .divzero) {a b : Val} {ka kb : Kind} (ha : NumOf a ka)
    (hb : NumOf b kb) (h : Helper) (hop : h = .add ∨ h = .subtract ∨ h = .multiply ∨ h = .divide ∨
      (h = .modulo ∧ ka.isFloat = false ∧ kb.isFloat = false)) :
    ROK E (fun v => NumOf v (Kind.maxRank ka kb)) (binHelper h a b) := by
  have hnf : (h.noFloat && (ka.isFloat || kb.isFloat)) = false := by
    rcases hop with e | e | e | e | ⟨e, f1, f2⟩ <;> subst e <;> simp [Helper.noFloat, *]
  unfold binHelper
  rw [refSem_num ha hb h hnf]
  obtain ⟨h1, h2⟩ := same_kind_operands ha hb
  have hK : h = .modulo → (Kind.maxRank ka kb).isFloat = false := by
    intro e
    rcases hop with e' | e' | e' | e' | ⟨_, f1, f2⟩ <;> try (rw [e] at e'; cases e')
    unfold Kind.maxRank; split <;> assumption
  have := applyOp_arith h1 h2 h.op (by
    rcases hop with e | e | e | e | ⟨e, _, _⟩
    · subst e; exact Or.inl rfl
    · subst e; exact Or.inr (Or.inl rfl)
    · subst e; exact Or.inr (Or.inr (Or.inl rfl))
    · subst e; exact Or.inr (Or.inr (Or.inr (Or.inl rfl)))
    · exact Or.inr (Or.inr (Or.inr (Or.inr ⟨by subst e; rfl, hK e⟩))))
  rcases this with ⟨v, hv, hk⟩ | he
  · rw [hv]; exact hk
  · rw [he]; exact hE

theorem binHelper_cmp_num {E : ErrClass → Prop} {a b : Val} {ka kb : Kind} (ha : NumOf a ka) (hb : NumOf b kb)
    (h : Helper) (hop : h = .less ∨ h = .more ∨ h = .lessOrEqual ∨ h = .moreOrEqual) :
    ROK E (fun v => ValOfK v .bool) (binHelper h a b) := by
  have hnf : (h.noFloat && (ka.isFloat || kb.isFloat)) = false := by
    rcases hop with e | e | e | e <;> subst e <;> simp [Helper.noFloat]
  unfold binHelper
  rw [refSem_num ha hb h hnf]
  obtain ⟨h1, h2⟩ := same_kind_operands ha hb
  obtain ⟨r, hr⟩ := applyOp_cmp h1 h2 h.op (by
    rcases hop with e | e | e | e <;> subst e <;> simp [Helper.op])
  rw [hr]
  exact ⟨r, rfl⟩

theorem binHelper_str {E : ErrClass → Prop} {a b : Val} (ha : ValOfK a .string) (hb : ValOfK b .string) (h : Helper)
    (hop : h = .less ∨ h = .more ∨ h = .lessOrEqual ∨ h = .moreOrEqual) :
    ROK E (fun v => ValOfK v .bool) (binHelper h a b) := by
  obtain ⟨x, rfl⟩ := ha
  obtain ⟨y, rfl⟩ := hb
  rcases hop with e | e | e | e <;> subst e <;> exact ⟨_, rfl⟩

theorem binHelper_concat (x y : String) : binHelper .add (.str x) (.str y) = .ok (.str (x ++ y)) := rfl

/-- the value-dependent failures (property text: "index out of range, division by zero, …, budget") -/
def ValueDep (e : ErrClass) : Prop := e = .divzero ∨ e = .index ∨ e = .budget

/-- the element tag a Go slice of scalars of kind `k` carries (`[]int`, `[]string`, `[]bool`) -/
def tagOf : RKind → Option ElemT
  | .bool => some .bool
  | .string => some .str
  | .num k => some (.num k)
  | _ => none

/-- the dynamic element type is the static one: the `[]interface{}` that `filter` / `map` build does *not* count as a
`[]int` -/
def ArrOf (v : Val) (k : RKind) : Prop :=
  ∃ et xs, v = .arr et xs ∧ tagOf k = some et ∧ ∀ x ∈ xs, ValOfK x k

inductive VTy where
  | sc (k : RKind)
  | sl (k : RKind)
  | anys               -- `[]interface{}` as an array literal builds it: nothing is claimed about the elements
  | obj (t : OTy)      -- a struct or pointer-to-struct type: its members, as the checker types them
  | slo (t : OTy)      -- a slice of structs (or of pointers to structs) with element type `t`
  | mapAny             -- a map with string keys and `interface{}` elements (also what a map literal builds)
  | any                -- an interface type: no claim about the value
  deriving DecidableEq

def VTy.isSlice : VTy → Bool
  | .sl _ | .anys | .slo _ => true
  | .sc _ | .obj _ | .mapAny | .any => false

/-- a collection whose elements are typed: what the builtins iterate and `#` reads -/
def VTy.isColl : VTy → Bool
  | .sl _ | .slo _ => true
  | _ => false

theorem VTy.isColl_cases {V : VTy} (h : V.isColl = true) : (∃ k, V = .sl k) ∨ ∃ et, V = .slo et := by
  cases V with
  | sl k => exact .inl ⟨k, rfl⟩
  | slo et => exact .inr ⟨et, rfl⟩
  | _ => cases h

theorem VTy.isSlice_of_isColl {V : VTy} (h : V.isColl = true) : V.isSlice = true := by
  rcases VTy.isColl_cases h with ⟨k, rfl⟩ | ⟨et, rfl⟩ <;> rfl

def sliceElemKind (t : OTy) : Option RKind :=
  match t with
  | some ty =>
    match ty.core with
    | .slice e => if e.kind.isScalar then some e.kind else none
    | _ => none
  | none => none

/-- `[]interface{}` -/
def isAnySlice (t : OTy) : Bool :=
  match t with
  | some ty =>
    match ty.core with
    | .slice e => e.kind == .iface
    | _ => false
  | none => false

/-- a struct, or a pointer (of any depth) to a struct -/
def isObjT (t : OTy) : Bool := t.deref.kind == .struct

def sloElem (t : OTy) : Option OTy :=
  match t with
  | some ty =>
    match ty.core with
    | .slice e => if isObjT (some e) then some (some e) else none
    | _ => none
  | none => none

/-- `map[string]interface{}` -/
def isMapAnyT (t : OTy) : Bool :=
  match t with
  | some ty =>
    match ty.core with
    | .map k e => k.kind == .string && e.kind == .iface
    | _ => false
  | none => false

def vtyOf (t : OTy) : Option VTy :=
  if t.kind.isScalar then some (.sc t.kind)
  else match sliceElemKind t with
    | some k => some (.sl k)
    | none =>
      if isAnySlice t then some .anys
      else match sloElem t with
        | some et => some (.slo et)
        | none =>
          if isObjT t then some (.obj t)
          else if isMapAnyT t then some .mapAny
          else if t.kind == .iface then some .any
          else none

/-- the label under which a struct value of (static) type `t` holds its callable member `name` (`main.ZM.Add`).  Function
values are opaque labels (`Val.fn id`); fixing the label makes the entry determine the member it is — two members never
share a function value by accident. -/
def methKey (t : OTy) (name : String) : String :=
  (match t.deref with
    | some (.named n _ _) => n
    | _ => "") ++ "." ++ name

/-- a value conforms to a type, to depth `n`: the depth makes the definition structural (a struct type can reach itself
through a pointer or a slice); `ValOfV` asks for every depth.  At a struct (or pointer to struct) type every member the checker
resolves can be fetched, with or without `?.`, and conforms to its type (so a pointer member typed as a struct is not nil), and
every method or function-typed member is an entry labelled `methKey t name`.  Types `vtyOf` does not classify (typed maps,
functions) and interfaces carry no claim.  Members are resolved as the current code does (`.asIs`): hence
`cfg.dn = NDefects.asIs` in every theorem about member access. -/
def Conf : Nat → Val → OTy → Prop
  | 0, _, _ => True
  | n + 1, v, t =>
    match vtyOf t with
    | some (.sc k) => ValOfK v k
    | some (.sl k) => ArrOf v k
    | some .anys => ∃ xs, v = .arr .iface xs
    | some (.obj _) =>
      ∃ nm p fs, v = .struct nm p fs ∧
        (∀ name τ, fieldTypeT .asIs t name = some τ →
          ∃ w, (∀ ns, fetchV v (.str name) ns = .ok w) ∧ Conf n w (some τ)) ∧
        (∀ name fn im, methodTarget .asIs t name = some (fn, im) → lookupKv name fs = some (.fn (methKey t name)))
    | some (.slo et) => ∃ tag xs, v = .arr tag xs ∧ ∀ x ∈ xs, Conf n x et
    | some .mapAny => ∃ kvs, v = .map kvs
    | some .any => True
    | none => True

def ValOfV (v : Val) : VTy → Prop
  | .sc k => ValOfK v k
  | .sl k => ArrOf v k
  | .anys => ∃ xs, v = .arr .iface xs
  | .obj t => ∀ n, Conf n v t
  | .slo et => ∃ tag xs, v = .arr tag xs ∧ ∀ x ∈ xs, ∀ n, Conf n x et
  | .mapAny => ∃ kvs, v = .map kvs
  | .any => True

theorem vtyOf_scalar {t : OTy} (h : ScalarT t) : vtyOf t = some (.sc t.kind) := by
  unfold vtyOf
  have h' : t.kind.isScalar = true := h
  rw [if_pos h']

theorem vtyOf_inv {t : OTy} {V : VTy} (h : vtyOf t = some V) :
    match V with
    | .sc k => ScalarT t ∧ t.kind = k
    | .sl k => sliceElemKind t = some k
    | .anys => isAnySlice t = true
    | .slo et => sloElem t = some et
    | .obj t' => t' = t ∧ isObjT t = true
    | .mapAny => isMapAnyT t = true
    | .any => t.kind = .iface := by
  unfold vtyOf at h
  by_cases h1 : t.kind.isScalar = true
  · rw [if_pos h1] at h
    cases h
    exact ⟨h1, rfl⟩
  rw [if_neg h1] at h
  cases h2 : sliceElemKind t with
  | some k =>
    rw [h2] at h
    cases h
    rfl
  | none =>
    rw [h2] at h
    dsimp only at h
    by_cases h3 : isAnySlice t = true
    · rw [if_pos h3] at h
      cases h
      exact h3
    rw [if_neg h3] at h
    cases h4 : sloElem t with
    | some et =>
      rw [h4] at h
      cases h
      rfl
    | none =>
      rw [h4] at h
      dsimp only at h
      by_cases h5 : isObjT t = true
      · rw [if_pos h5] at h
        cases h
        exact ⟨rfl, h5⟩
      rw [if_neg h5] at h
      by_cases h6 : isMapAnyT t = true
      · rw [if_pos h6] at h
        cases h
        exact h6
      rw [if_neg h6] at h
      by_cases h7 : (t.kind == .iface) = true
      · rw [if_pos h7] at h
        cases h
        exact eq_of_beq h7
      · rw [if_neg h7] at h
        cases h

/-! The side conditions of `typed2` (SoundAsm) on the type the rules give an operand; the node lemmas take them as
they stand there and open them at the operand's type. -/

def sliceOK (t : Option OTy) : Bool :=
  match t with
  | some τ => (sliceElemKind τ).isSome
  | none => false

/-- an integer of scalar type (excludes the loose index rule: a string index on a slice) -/
def intOK (t : Option OTy) : Bool :=
  match t with
  | some τ => τ.kind.isScalar && isIntegerT τ
  | none => false

def lenOK (t : Option OTy) : Bool :=
  match t with
  | some τ =>
    (match vtyOf τ with
      | some V => V == .sc .string || V.isSlice || V == .mapAny
      | none => false)
  | none => false

def sliceVOK (t : Option OTy) : Bool :=
  match t with
  | some τ =>
    (match vtyOf τ with
      | some V => V.isSlice
      | none => false)
  | none => false

def inOK (l r : Option OTy) : Bool :=
  match l, r with
  | some lt, some rt =>
    (match vtyOf lt, vtyOf rt with
      | some Vl, some Vr => Vr.isSlice || (Vl == .sc .string && (Vr == .mapAny || Vr == .obj rt))
      | _, _ => false)
  | _, _ => false

def strOK (t : Option OTy) : Bool :=
  match t with
  | some τ => vtyOf τ == some (.sc .string)
  | none => false

def collOK (t : Option OTy) : Bool :=
  match t with
  | some τ =>
    (match vtyOf τ with
      | some V => V.isColl
      | none => false)
  | none => false

def objOK (t : Option OTy) : Bool :=
  match t with
  | some τ => vtyOf τ == some (.obj τ)
  | none => false

def vtyOK (t : Option OTy) : Bool :=
  match t with
  | some τ => (vtyOf τ).isSome
  | none => false

/-- indexing beyond a slice of scalars, by the value types of operand, index and result: `Anys[i]` on a `[]interface{}`,
`MA["k"]` on a `map[string]interface{}` (both give an interface value), `Sts[i]` on a slice of structs -/
def idxAnyV : VTy → VTy → VTy → Bool
  | .anys, .sc (.num _), .any => true
  | .mapAny, .sc .string, .any => true
  | .slo et, .sc (.num _), .obj et' => et == et'
  | _, _, _ => false

theorem idxAnyV_cases {Vx Vi Vr : VTy} (h : idxAnyV Vx Vi Vr = true) :
    (Vx = .anys ∧ (∃ k, Vi = .sc (.num k)) ∧ Vr = .any) ∨ (Vx = .mapAny ∧ Vi = .sc .string ∧ Vr = .any) ∨
    (∃ et, Vx = .slo et ∧ (∃ k, Vi = .sc (.num k)) ∧ Vr = .obj et) := by
  unfold idxAnyV at h
  split at h
  · exact Or.inl ⟨rfl, ⟨_, rfl⟩, rfl⟩
  · exact Or.inr (Or.inl ⟨rfl, rfl, rfl⟩)
  · have := eq_of_beq h
    subst this
    exact Or.inr (Or.inr ⟨_, rfl, ⟨_, rfl⟩, rfl⟩)
  · cases h

def idxAnyOK (x i r : Option OTy) : Bool :=
  match x, i, r with
  | some tx, some ti, some τ =>
    (match vtyOf tx, vtyOf ti, vtyOf τ with
      | some Vx, some Vi, some Vr => idxAnyV Vx Vi Vr
      | _, _, _ => false)
  | _, _, _ => false

/-- member access on a `map[string]interface{}` (`MA.k`), of interface type -/
def propMapOK (x r : Option OTy) : Bool :=
  match x, r with
  | some tx, some τ => vtyOf tx == some .mapAny && vtyOf τ == some .any
  | _, _ => false

def condOK (dt : TDefects) (a b : Option OTy) : Bool :=
  match a, b with
  | some t1, some t2 => (vtyOf t1).isSome && vtyOf t2 == vtyOf t1 && vtyOf (condType dt t1 t2) == vtyOf t1
  | _, _ => false

theorem vtyB_elim {ψ : VTy → Bool} {o : Option OTy}
    (h : (match o with
      | some τ => (match vtyOf τ with
        | some V => ψ V
        | none => false)
      | none => false) = true) {t : OTy} (ht : o = some t) : ∃ V, vtyOf t = some V ∧ ψ V = true := by
  subst ht
  dsimp only at h
  cases hv : vtyOf t with
  | none => rw [hv] at h; cases h
  | some V => rw [hv] at h; exact ⟨V, rfl, h⟩

theorem sliceOK_elim {o : Option OTy} (h : sliceOK o = true) {t : OTy} (ht : o = some t) :
    ∃ k, sliceElemKind t = some k := by
  rw [ht] at h
  exact Option.isSome_iff_exists.1 h

theorem intOK_elim {o : Option OTy} (h : intOK o = true) {t : OTy} (ht : o = some t) :
    ScalarT t ∧ isIntegerT t = true := by
  rw [ht] at h
  simp only [intOK, Bool.and_eq_true] at h
  exact ⟨h.1, h.2⟩

theorem strOK_elim {o : Option OTy} (h : strOK o = true) {t : OTy} (ht : o = some t) :
    vtyOf t = some (.sc .string) := by
  rw [ht] at h
  exact eq_of_beq h

theorem objOK_elim {o : Option OTy} (h : objOK o = true) {t : OTy} (ht : o = some t) :
    vtyOf t = some (.obj t) := by
  rw [ht] at h
  exact eq_of_beq h

theorem idxAnyOK_elim {x i r : Option OTy} (h : idxAnyOK x i r = true) {t it : OTy} (hx : x = some t) (hi : i = some it) :
    ∃ τ Vx Vi Vr, r = some τ ∧ vtyOf t = some Vx ∧ vtyOf it = some Vi ∧ vtyOf τ = some Vr ∧ idxAnyV Vx Vi Vr = true := by
  subst hx hi
  cases r with
  | none => cases h
  | some τ =>
    simp only [idxAnyOK] at h
    split at h
    · next Vx Vi Vr hvx hvi hvr => exact ⟨τ, Vx, Vi, Vr, rfl, hvx, hvi, hvr, h⟩
    · cases h

theorem propMapOK_elim {x r : Option OTy} (h : propMapOK x r = true) {t : OTy} (hx : x = some t) :
    ∃ τ, r = some τ ∧ vtyOf t = some .mapAny ∧ vtyOf τ = some .any := by
  subst hx
  cases r with
  | none => cases h
  | some τ =>
    simp only [propMapOK, Bool.and_eq_true, beq_iff_eq] at h
    exact ⟨τ, rfl, h.1, h.2⟩

theorem condOK_elim {dt : TDefects} {a b : Option OTy} (h : condOK dt a b = true) {t1 t2 : OTy} (ha : a = some t1)
    (hb : b = some t2) : ∃ V, vtyOf t1 = some V ∧ vtyOf t2 = some V ∧ vtyOf (condType dt t1 t2) = some V := by
  subst ha hb
  simp only [condOK, Bool.and_eq_true, beq_iff_eq] at h
  obtain ⟨V, hV⟩ := Option.isSome_iff_exists.1 h.1.1
  exact ⟨V, hV, by rw [h.1.2, hV], by rw [h.2, hV]⟩

/-- the statement form of C03 (`check_sound_*_partial`), with a `match` of its own; the Sound modules say the same as `SMOK` of
`eval` at one context (`evalOKV_iff`) -/
def EvalOKV (E : ErrClass → Prop) (P : Ctx → Prop) (c : SCfg) (n' : Node) (V : VTy) : Prop :=
  ∀ ctx, P ctx → ∀ s, match (eval c ctx n' s).1 with
    | .ok v => ValOfV v V
    | .error e => E e

variable {E : ErrClass → Prop}

theorem evalOKV_iff {P : Ctx → Prop} {c : SCfg} {n : Node} {V : VTy} :
    EvalOKV E P c n V ↔ ∀ ctx, P ctx → SMOK E (fun v => ValOfV v V) (eval c ctx n) := by
  refine forall_congr' fun ctx => forall_congr' fun _ => forall_congr' fun s => ?_
  cases (eval c ctx n s).1 <;> exact Iff.rfl

theorem arr_of_sliceV {v : Val} {V : VTy} (hV : V.isSlice = true) (hv : ValOfV v V) : ∃ et xs, v = .arr et xs := by
  cases V with
  | sc k => cases hV
  | obj t => cases hV
  | mapAny => cases hV
  | any => cases hV
  | slo t => obtain ⟨et, xs, rfl, _⟩ := hv; exact ⟨_, _, rfl⟩
  | sl k => obtain ⟨et, xs, rfl, _, _⟩ := hv; exact ⟨_, _, rfl⟩
  | anys => obtain ⟨xs, rfl⟩ := hv; exact ⟨_, _, rfl⟩

theorem conf_valOfV {w : Val} {τ : OTy} {V : VTy} (hV : vtyOf τ = some V) (h : ∀ n, Conf n w τ) : ValOfV w V := by
  cases V with
  | obj t' =>
    have := (vtyOf_inv hV).1
    subst this
    exact h
  | sc k => have := h 1; simp only [Conf, hV] at this; exact this
  | sl k => have := h 1; simp only [Conf, hV] at this; exact this
  | anys => have := h 1; simp only [Conf, hV] at this; exact this
  | mapAny => have := h 1; simp only [Conf, hV] at this; exact this
  | any => trivial
  | slo et =>
    have h1 := h 1
    simp only [Conf, hV] at h1
    obtain ⟨tag, xs, rfl, _⟩ := h1
    refine ⟨tag, xs, rfl, ?_⟩
    intro x hx n
    have hn := h (n + 1)
    simp only [Conf, hV] at hn
    obtain ⟨tag', xs', he, hall⟩ := hn
    cases he
    exact hall x hx

theorem valOfV_conf {w : Val} {τ : OTy} {V : VTy} (hV : vtyOf τ = some V) (h : ValOfV w V) : ∀ n, Conf n w τ := by
  intro n
  cases n with
  | zero => trivial
  | succ n =>
    cases V with
    | obj t' =>
      have := (vtyOf_inv hV).1
      subst this
      exact h (n + 1)
    | sc k => simp only [Conf, hV]; exact h
    | sl k => simp only [Conf, hV]; exact h
    | anys => simp only [Conf, hV]; exact h
    | mapAny => simp only [Conf, hV]; exact h
    | any => simp only [Conf, hV]
    | slo et =>
      simp only [Conf, hV]
      obtain ⟨tag, xs, rfl, hall⟩ := h
      exact ⟨tag, xs, rfl, fun x hx => hall x hx n⟩

theorem vtyOf_sc {t : OTy} {k : RKind} (h : vtyOf t = some (.sc k)) : ScalarT t ∧ t.kind = k :=
  vtyOf_inv h

theorem slice_core {ty e : Ty} (hc : ty.core = .slice e) :
    ty.isPtr = false ∧ ty.kind = .slice ∧ isArrayT (some ty) = true ∧ indexTypeT (some ty) = some (some e) := by
  have hp : ty.isPtr = false := by simp [Ty.isPtr, hc]
  have hkind : ty.kind = .slice := by simp [Ty.kind, hc]
  have hd : OTy.deref (some ty) = some ty := by
    simp only [OTy.deref, Ty.deref_of_not_isPtr hp]
  refine ⟨hp, hkind, ?_, ?_⟩
  · unfold isArrayT; rw [hd]; simp [OTy.kind, hkind]
  · unfold indexTypeT; rw [hd]; simp only [hkind, Ty.elem?, hc]

/-- the shape `sliceElemKind` and `sloElem` share: a slice type whose element type passes a test -/
theorem sliceTest_inv {α : Type} {φ : Ty → Bool} {g : Ty → α} {t : OTy} {a : α}
    (h : (match t with
      | some ty =>
        (match ty.core with
          | .slice e => if φ e then some (g e) else none
          | _ => none)
      | none => none) = some a) : ∃ ty e, t = some ty ∧ ty.core = .slice e ∧ φ e = true ∧ g e = a := by
  cases t with
  | none => cases h
  | some ty =>
    dsimp only at h
    cases hc : ty.core <;> rw [hc] at h <;> dsimp only at h <;> try (cases h)
    rename_i e
    by_cases hs : φ e = true
    · rw [if_pos hs] at h
      cases h
      exact ⟨ty, e, rfl, hc, hs, rfl⟩
    · rw [if_neg hs] at h; cases h

theorem sliceElemKind_facts {t : OTy} {k : RKind} (h : sliceElemKind t = some k) :
    ∃ ty e, t = some ty ∧ ty.core = .slice e ∧ e.kind.isScalar = true ∧ e.kind = k :=
  sliceTest_inv h

theorem sloElem_facts {t et : OTy} (h : sloElem t = some et) :
    ∃ ty e, t = some ty ∧ ty.core = .slice e ∧ isObjT (some e) = true ∧ some e = et :=
  sliceTest_inv h

theorem slice_type_facts {t : OTy} {k : RKind} (h : sliceElemKind t = some k) :
    isArrayT t = true ∧ ∃ et : OTy, indexTypeT t = some et ∧ et.kind = k ∧ ScalarT et := by
  obtain ⟨ty, e, rfl, hc, hs, rfl⟩ := sliceElemKind_facts h
  obtain ⟨_, _, ha, hi⟩ := slice_core hc
  exact ⟨ha, some e, hi, rfl, hs⟩

theorem vtyOf_slice_of {t : OTy} {k : RKind} (hk : sliceElemKind t = some k) : vtyOf t = some (.sl k) := by
  unfold vtyOf
  obtain ⟨ty, e, rfl, hc, _, _⟩ := sliceElemKind_facts hk
  simp [OTy.kind, (slice_core hc).2.1, RKind.isScalar, hk]

theorem obj_core {ty : Ty} (h : isObjT (some ty) = true) :
    (∃ fs, ty.core = .struct fs) ∨ (∃ u, ty.core = .ptr u) := by
  by_cases hp : ty.isPtr = true
  · unfold Ty.isPtr at hp
    cases hc : ty.core <;> rw [hc] at hp <;> simp only [] at hp <;> first | exact Or.inr ⟨_, rfl⟩ | cases hp
  · have hp' : ty.isPtr = false := by simpa using hp
    have hd := Ty.deref_of_not_isPtr hp'
    simp only [isObjT, OTy.deref, OTy.kind, hd, beq_iff_eq] at h
    exact Or.inl (Ty.kind_struct_iff.1 h)

theorem vtyOf_of_isObj {t : OTy} (h : isObjT t = true) : vtyOf t = some (.obj t) := by
  cases t with
  | none => simp [isObjT, OTy.deref, OTy.kind] at h
  | some ty =>
    rcases obj_core h with ⟨fs, hc⟩ | ⟨u, hc⟩ <;>
      simp [vtyOf, OTy.kind, Ty.kind, hc, RKind.isScalar, sliceElemKind, isAnySlice, sloElem, h]

theorem slo_facts {t et : OTy} (h : vtyOf t = some (.slo et)) :
    isArrayT t = true ∧ indexTypeT t = some et ∧ vtyOf et = some (.obj et) := by
  obtain ⟨ty, e, rfl, hc, ho, rfl⟩ := sloElem_facts (vtyOf_inv h)
  obtain ⟨_, _, ha, hi⟩ := slice_core hc
  exact ⟨ha, hi, vtyOf_of_isObj ho⟩

theorem coll_shape {t : OTy} {V : VTy} (hV : vtyOf t = some V) (hc : V.isColl = true) :
    ∃ ty, t = some ty ∧ ty.isPtr = false ∧ ty.kind = .slice := by
  rcases VTy.isColl_cases hc with ⟨k, rfl⟩ | ⟨et, rfl⟩
  · obtain ⟨ty, e, rfl, hcore, _⟩ := sliceElemKind_facts (vtyOf_inv hV)
    exact ⟨ty, rfl, (slice_core hcore).1, (slice_core hcore).2.1⟩
  · obtain ⟨ty, e, rfl, hcore, _⟩ := sloElem_facts (vtyOf_inv hV)
    exact ⟨ty, rfl, (slice_core hcore).1, (slice_core hcore).2.1⟩

theorem conf_succ_obj {t : OTy} (hV : vtyOf t = some (.obj t)) (v : Val) (n : Nat) :
    Conf (n + 1) v t ↔ ∃ nm p fs, v = .struct nm p fs ∧
      (∀ name τ, fieldTypeT .asIs t name = some τ →
        ∃ w, (∀ ns, fetchV v (.str name) ns = .ok w) ∧ Conf n w (some τ)) ∧
      (∀ name fn im, methodTarget .asIs t name = some (fn, im) → lookupKv name fs = some (.fn (methKey t name))) := by
  simp only [Conf, hV]

/-- `ValOfV` at a struct type without the depth of `Conf`: the member fetched is the same at every depth, since `fetchV` is a
function -/
theorem valOfV_obj_iff {t : OTy} (hV : vtyOf t = some (.obj t)) (v : Val) :
    ValOfV v (.obj t) ↔ ∃ nm p fs, v = .struct nm p fs ∧
      (∀ name τ, fieldTypeT .asIs t name = some τ →
        ∃ w, (∀ ns, fetchV v (.str name) ns = .ok w) ∧ ∀ n, Conf n w (some τ)) ∧
      (∀ name fn im, methodTarget .asIs t name = some (fn, im) → lookupKv name fs = some (.fn (methKey t name))) := by
  constructor
  · intro hv
    obtain ⟨nm, p, fs, rfl, hflds0, hm⟩ := (conf_succ_obj hV v 0).1 (hv 1)
    refine ⟨nm, p, fs, rfl, fun name τ hft => ?_, hm⟩
    obtain ⟨w, hw, _⟩ := hflds0 name τ hft
    refine ⟨w, hw, fun n => ?_⟩
    obtain ⟨_, _, _, _, hfldsn, _⟩ := (conf_succ_obj hV _ n).1 (hv (n + 1))
    obtain ⟨w', hw', hc⟩ := hfldsn name τ hft
    cases (hw false).symm.trans (hw' false)
    exact hc
  · rintro ⟨nm, p, fs, rfl, hf, hm⟩ n
    cases n with
    | zero => trivial
    | succ n =>
      refine (conf_succ_obj hV _ n).2 ⟨nm, p, fs, rfl, fun name τ h => ?_, hm⟩
      obtain ⟨w, hw, hc⟩ := hf name τ h
      exact ⟨w, hw, hc n⟩

theorem toIntR_num {v : Val} {k : Kind} (h : NumOf v k) : ∃ n, toIntR v = .ok n := by
  cases k <;> obtain ⟨x, rfl⟩ := h <;> exact ⟨_, rfl⟩

theorem getD_mem_of_lt {xs : List Val} {n : Nat} (h : n < xs.length) : xs.getD n .nil ∈ xs := by
  rw [List.getD_eq_getElem?_getD, List.getElem?_eq_getElem h]
  exact List.getElem_mem h

theorem fetchV_arr_gen {tag : ElemT} {xs : List Val} {b : Val} {ki : Kind} (Q : Val → Prop) (hi : E .index)
    (hxs : ∀ x ∈ xs, Q x) (hb : NumOf b ki) : ROK E Q (fetchV (.arr tag xs) b false) := by
  obtain ⟨n, hn⟩ := toIntR_num hb
  simp only [fetchV, hn]
  refine rok_ite (fun hr => ?_) (fun _ => hi)
  apply hxs
  apply getD_mem_of_lt
  omega

theorem fetchV_arr {a b : Val} {k : RKind} {ki : Kind} (hi : E .index) (ha : ArrOf a k) (hb : NumOf b ki) :
    ROK E (fun v => ValOfK v k) (fetchV a b false) := by
  obtain ⟨et, xs, rfl, _, hxs⟩ := ha
  exact fetchV_arr_gen _ hi hxs hb

theorem fetch_anys (hi : E .index) {a b : Val} {ki : Kind} (ha : ValOfV a .anys) (hb : NumOf b ki) :
    ROK E (fun v => ValOfV v .any) (fetchV a b false) := by
  obtain ⟨xs, rfl⟩ := ha
  exact fetchV_arr_gen (fun _ => True) hi (fun _ _ => trivial) hb

theorem fetch_mapAny {a b : Val} (ns : Bool) (ha : ValOfV a .mapAny) (hb : ValOfK b .string) :
    ROK E (fun v => ValOfV v .any) (fetchV a b ns) := by
  obtain ⟨kvs, rfl⟩ := ha
  obtain ⟨k, rfl⟩ := hb
  simp only [fetchV]
  trivial

theorem fetch_slo (hi : E .index) {a b : Val} {et : OTy} {ki : Kind} (ha : ValOfV a (.slo et)) (hb : NumOf b ki) :
    ROK E (fun v => ValOfV v (.obj et)) (fetchV a b false) := by
  obtain ⟨tag, xs, rfl, hall⟩ := ha
  exact fetchV_arr_gen (fun v => ∀ n, Conf n v et) hi hall hb

end ExprModel
