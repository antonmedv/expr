import ExprModel.Proofs.SpecCong
import ExprModel.Proofs.VMHelpers
/-
The allocation accounting of the reference evaluator, for every configuration with `rangeSizeSigned = false` (the
semantics the properties require; `sliceToFirst` is arbitrary).  Both accounting disciplines (`allocAfter`: fail
after adding, `allocBefore`: refuse before building) let an allocation pass iff the counter *after* it is below the
limit, and count what they build.  So one relational triple `Replay B' m m'` between the computation under
`c.budget` and the one under `B'` is closed under `bind` and holds of every counter-neutral computation, and
`eval_cong` carries it through the tree.  On the diagonal `B' = c.budget` it gives the invariants of a single run.
-/
namespace ExprModel
namespace Spec

theorem pure_eq {α} (a : α) : (pure a : SM α) = SM.pure' a := SM.pure_def a

/-- what one run, from `s` to the result `r` in state `t`, says about `m'` started in `s`; `m'` is to be the same
    computation under the budget `B'` -/
structure Replayed (B' : Int) {α} (m' : SM α) (s : SState) (r : R α) (t : SState) : Prop where
  mono : s.created ≤ t.created
  keeps : s.memory = (s.created : Int) → t.memory = (t.created : Int)
  replay : s.memory = (s.created : Int) → r ≠ .error .budget → s.memory < B' →
    (t.memory < B' → m' s = (r, t)) ∧ (B' ≤ t.memory → (m' s).1 = .error .budget)

def Replay (B' : Int) {α} (m m' : SM α) : Prop :=
  ∀ (s : SState) (r : R α) (t : SState), m s = (r, t) → Replayed B' m' s r t

theorem bind'_fst_error {α β} {m : SM α} {f : α → SM β} {s : SState} {e : ErrClass}
    (h : (m s).1 = .error e) : (SM.bind' m f s).1 = .error e := by
  unfold SM.bind'
  split
  · rename_i h'; rw [h'] at h; simp at h
  · rename_i h'; rw [h'] at h; simpa using h

namespace Replay
variable {α β : Type} {B' : Int}

theorem of_noAlloc {m : SM α} (h : NoAlloc m) : Replay B' m m := by
  intro s r t hm
  have h' := h.counters s
  rw [hm] at h'
  simp only at h'
  exact ⟨Nat.le_of_eq h'.2.symm, fun hs => by omega, fun _ _ _ => ⟨fun _ => hm, fun _ => by omega⟩⟩

theorem bind {m m' : SM α} {f f' : α → SM β} (hm : Replay B' m m')
    (hf : ∀ a, Replay B' (f a) (f' a)) : Replay B' (m >>= f) (m' >>= f') := by
  intro s r t h
  rw [SM.bind_def] at h ⊢
  unfold SM.bind' at h
  match hms : m s with
  | (.ok a, s1) =>
    rw [hms] at h
    have h1 := hm s (.ok a) s1 hms
    have h2 := hf a s1 r t h
    refine ⟨Nat.le_trans h1.mono h2.mono, fun hs => h2.keeps (h1.keeps hs), fun hs hnb hl => ?_⟩
    have d1 := h1.replay hs (by simp) hl
    by_cases hs1 : s1.memory < B'
    · unfold SM.bind'
      rw [d1.1 hs1]
      exact h2.replay (h1.keeps hs) hnb hs1
    · have i1 := h1.keeps hs
      have i2 := h2.keeps i1
      have l2 := h2.mono
      exact ⟨fun ht => by omega, fun _ => bind'_fst_error (d1.2 (Int.not_lt.mp hs1))⟩
  | (.error e, s1) =>
    rw [hms] at h
    have hr : r = .error e := (congrArg Prod.fst h).symm
    have ht : s1 = t := congrArg Prod.snd h
    subst ht hr
    have h1 := hm s (.error e) s1 hms
    refine ⟨h1.mono, h1.keeps, fun hs hnb hl => ?_⟩
    have d1 := h1.replay hs (fun h' => hnb (by cases h'; rfl)) hl
    refine ⟨fun ht => ?_, fun hge => bind'_fst_error (d1.2 hge)⟩
    unfold SM.bind'
    rw [d1.1 ht]

theorem allocAfter (B : Int) (k : Nat) : Replay B' (SM.allocAfter B k k) (SM.allocAfter B' k k) := by
  intro s r t hm
  unfold SM.allocAfter at hm ⊢
  simp only at hm ⊢
  have ht : t = { s with memory := s.memory + k, created := s.created + k } := by
    split at hm <;> exact (congrArg Prod.snd hm).symm
  subst ht
  refine ⟨Nat.le_add_right _ _, fun hs => by simp only; omega, fun _ hnb _ => ?_⟩
  split at hm
  · exact absurd (congrArg Prod.fst hm).symm hnb
  · have hr : r = .ok () := (congrArg Prod.fst hm).symm
    subst hr
    exact ⟨fun hlt => by rw [if_neg (by simp only at hlt; omega)],
      fun hge => by rw [if_pos (by simp only at hge; omega)]⟩

theorem allocBefore (B : Int) {k : Int} {b : Nat} (h : k = (b : Int)) :
    Replay B' (SM.allocBefore B k b) (SM.allocBefore B' k b) := by
  intro s r t hm
  unfold SM.allocBefore at hm ⊢
  split at hm
  · have ht : t = s := (congrArg Prod.snd hm).symm
    subst ht
    exact ⟨Nat.le_refl _, id, fun _ hnb _ => absurd (congrArg Prod.fst hm).symm hnb⟩
  · have ht : t = { s with memory := s.memory + k, created := s.created + b } :=
      (congrArg Prod.snd hm).symm
    have hr : r = .ok () := (congrArg Prod.fst hm).symm
    subst ht hr
    refine ⟨Nat.le_add_right _ _, fun hs => by simp only; omega, fun hs _ _ => ⟨fun hlt => ?_, fun hge => ?_⟩⟩
    · rw [if_neg (by simp only at hlt; omega)]
    · rw [if_pos (by simp only at hge; omega)]

end Replay

def replayRel (B' : Int) : EvalRel where
  R := Replay B'
  noAlloc := Replay.of_noAlloc
  bind := Replay.bind

theorem replayRel_allocs (c : SCfg) (hc : c.rangeSizeSigned = false) (B' : Int) :
    (replayRel B').Allocs c B' where
  after := Replay.allocAfter c.budget
  before := fun lo hi => by
    unfold rangeCharge
    rw [hc]
    exact Replay.allocBefore c.budget (ExprModel.rangeElems_length lo hi).symm

theorem eval_replay (c : SCfg) (hc : c.rangeSizeSigned = false) (B' : Int) (ctx : Ctx) (n : Node) :
    Replay B' (eval c ctx n) (eval (withBudget c B') ctx n) :=
  eval_cong (replayRel B') c B' (replayRel_allocs c hc B') n ctx ctx rfl

section Main
variable (c : SCfg) (hc : c.rangeSizeSigned = false) (ctx : Ctx) (n : Node) (s : SState)
include hc

theorem eval_created_mono : s.created ≤ (eval c ctx n s).2.created :=
  (eval_replay c hc c.budget ctx n s _ _ rfl).mono

theorem eval_memory_eq_created (hs : s.memory = (s.created : Int)) :
    (eval c ctx n s).2.memory = ((eval c ctx n s).2.created : Int) :=
  (eval_replay c hc c.budget ctx n s _ _ rfl).keeps hs

theorem eval_lt_budget_of_not_budget_error (hs : s.memory = (s.created : Int))
    (hlt : s.memory < c.budget) (hne : (eval c ctx n s).1 ≠ .error .budget) :
    (eval c ctx n s).2.memory < c.budget :=
  -- replayed under its own budget, a run that reached the budget would have ended in the budget error
  Int.not_le.mp fun hge => hne (((eval_replay c hc c.budget ctx n s _ _ rfl).replay hs hne hlt).2 hge)

theorem eval_budget_error_of_ge_budget (hs : s.memory = (s.created : Int)) (hlt : s.memory < c.budget)
    (hge : c.budget ≤ (eval c ctx n s).2.memory) : (eval c ctx n s).1 = .error .budget :=
  Classical.byContradiction fun hne =>
    Int.not_le.mpr (eval_lt_budget_of_not_budget_error c hc ctx n s hs hlt hne) hge

end Main

/- The converse of `eval_budget_error_of_ge_budget` cannot be phrased on the final state alone: a refused range
leaves no trace of its size in `SState` (an `∃ k ≥ 0, memory + k ≥ budget` would hold trivially).  The budget error
is raised by `allocAfter` / `allocBefore` only; when, is said for each. -/

theorem allocAfter_budget_error_iff (lim k : Int) (b : Nat) (s : SState) :
    (SM.allocAfter lim k b s).1 = .error .budget ↔ lim ≤ (SM.allocAfter lim k b s).2.memory := by
  unfold SM.allocAfter
  simp only
  split <;> simp_all

theorem allocAfter_state (lim k : Int) (b : Nat) (s : SState) :
    (SM.allocAfter lim k b s).2 = { s with memory := s.memory + k, created := s.created + b } := by
  unfold SM.allocAfter
  simp only
  split <;> rfl

theorem allocBefore_budget_error_iff (lim k : Int) (b : Nat) (s : SState) :
    (SM.allocBefore lim k b s).1 = .error .budget ↔ lim ≤ s.memory + k := by
  unfold SM.allocBefore
  split <;> simp_all

theorem allocBefore_error_state (lim k : Int) (b : Nat) (s : SState) (e : ErrClass)
    (h : (SM.allocBefore lim k b s).1 = .error e) : (SM.allocBefore lim k b s).2 = s := by
  unfold SM.allocBefore at h ⊢
  split <;> simp_all

theorem spec_memory_eq_created (c : SCfg) (cast : Option Nat) (n : Node)
    (hc : c.rangeSizeSigned = false) :
    (run c cast n).2.memory = ((run c cast n).2.created : Int) := by
  rw [run_state]
  exact eval_memory_eq_created c hc [] n {} rfl

end Spec
end ExprModel
