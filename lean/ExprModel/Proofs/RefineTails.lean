import ExprModel.Proofs.SpecEqs
import ExprModel.Code.Compile
import ExprModel.VM.Step
/-
The own rule of each strict construct as a function of the operand values.  `eqIntR`, `eqStrR`, `powR`, `matchR`,
`methodR`/`methodLogged`, `rangeR`, `allocd` are result (and observable state) of what `Spec.eval` and `evalLoc` do once
the operands are evaluated, and the opcode lemmas of RefineOps are stated with the same functions.  `BinRow` reads the
compiler's operator table `binSimpleOp` against `binTail`, row by row.
-/
namespace ExprModel.Refine
open ExprModel
open ExprModel.Spec

def eqIntR : Val → Val → R Val
  | .int .int x, .int .int y => .ok (.bool (x == y))
  | _, _ => .error .type_

def eqStrR : Val → Val → R Val
  | .str x, .str y => .ok (.bool (x == y))
  | _, _ => .error .type_

theorem eqIntR_else {x y : Val} (h : ∀ a b, x = .int .int a → y = .int .int b → False) : eqIntR x y = .error .type_ := by
  unfold eqIntR; split
  · exact (h _ _ rfl rfl).elim
  · rfl

theorem eqStrR_else {x y : Val} (h : ∀ a b, x = .str a → y = .str b → False) : eqStrR x y = .error .type_ := by
  unfold eqStrR; split
  · exact (h _ _ rfl rfl).elim
  · rfl

def powR (w : World) (x y : Val) : R Val :=
  match toFloat64Val x, toFloat64Val y with
  | some a, some b => .ok (.f64 (w.pow a b))
  | _, _ => .error .type_

def matchR (w : World) (subj pat : Val) : R Val :=
  match subj, pat with
  | .str s, .str p => match w.regexMatch p s with
    | some m => .ok (.bool m)
    | none => .error .type_
  | _, _ => .error .type_

theorem matchR_else {w : World} {x y : Val} (h : ∀ a b, x = .str a → y = .str b → False) : matchR w x y = .error .type_ := by
  unfold matchR; split
  · exact (h _ _ rfl rfl).elim
  · rfl

def logged (res : R Val) (name : String) (args : List Val) (σ : SState) : SState :=
  if callHappened res then { σ with log := (name, args) :: σ.log } else σ

def methodR (w : World) (nilsafe : Bool) (obj : Val) (name : String) (args : List Val) : R Val :=
  if nilsafe && obj.isNilLike then .ok .nil else callMember w obj name args

def methodLogged (w : World) (nilsafe : Bool) (obj : Val) (name : String) (args : List Val) (σ : SState) : SState :=
  if nilsafe && obj.isNilLike then σ else logged (callMember w obj name args) name args σ

/-- the state after `allocAfter counted built`, whether or not the budget is exceeded -/
def allocd (σ : SState) (counted : Int) (built : Nat) : SState :=
  { σ with memory := σ.memory + counted, created := σ.created + built }

def rangeR (signed : Bool) (lim : Int) (x y : Val) (σ : SState) : R Val × SState :=
  match toIntR x with
  | .error e => (.error e, σ)
  | .ok lo => match toIntR y with
    | .error e => (.error e, σ)
    | .ok hi =>
      let size : Int := hi - lo + 1
      let counted : Int := if signed then size else (if size < 0 then 0 else size)
      if σ.memory + counted ≥ lim then (.error .budget, σ)
      else (.ok (.arr (.num .int) (rangeElems lo hi)), allocd σ counted (rangeElems lo hi).length)

theorem alloc_tail (lim : Int) (n : Nat) (v : Val) (σ : SState) :
    ((do SM.allocAfter lim n n
         pure v) : SM Val) σ =
      (if (allocd σ n n).memory ≥ lim then .error .budget else .ok v, allocd σ n n) := by
  rw [SM.bind_apply]
  unfold SM.allocAfter allocd
  by_cases hb : σ.memory + (n : Int) ≥ lim
  · simp only [hb, ↓reduceIte]
  · simp only [hb, ↓reduceIte]; rfl

theorem map_tail (lim : Int) (n : Nat) (flat : List Val) (σ : SState) :
    ((do let mp ← SM.lift (buildMap flat)
         SM.allocAfter lim n n
         pure (.map mp)) : SM Val) σ =
      match buildMap flat with
      | .error e => (.error e, σ)
      | .ok mp => (if (allocd σ n n).memory ≥ lim then .error .budget else .ok (.map mp), allocd σ n n) := by
  rw [SM.bind_apply, SM.lift_apply]
  cases buildMap flat with
  | error e => rfl
  | ok mp => exact alloc_tail lim n (.map mp) σ

theorem match_eqInt (a b : Val) :
    (match a, b with
      | .int .int x, .int .int y => (pure (.bool (x == y)) : SM Val)
      | _, _ => SM.fail .type_) = SM.lift (eqIntR a b) := by
  split
  · rfl
  · rename_i hne; rw [eqIntR_else hne]; rfl

theorem match_eqStr (a b : Val) :
    (match a, b with
      | .str x, .str y => (pure (.bool (x == y)) : SM Val)
      | _, _ => SM.fail .type_) = SM.lift (eqStrR a b) := by
  split
  · rfl
  · rename_i hne; rw [eqStrR_else hne]; rfl

theorem binTail_eq (sc : SCfg) (l r : Node) (a b : Val) :
    binTail sc "==" l r a b =
      (if l.kd == r.kd && l.kd == .num .int then SM.lift (eqIntR a b)
       else if l.kd == r.kd && l.kd == .string then SM.lift (eqStrR a b)
       else pure (.bool (equalV a b))) := by
  rw [binTail_eqTail, ← match_eqInt, ← match_eqStr]; rfl

theorem binTail_pow (sc : SCfg) (l r : Node) (a b : Val) :
    binTail sc "**" l r a b = SM.lift (powR sc.world a b) := by
  rw [binTail_powMatch]
  unfold powR
  cases toFloat64Val a <;> cases toFloat64Val b <;> rfl

theorem binTail_range (sc : SCfg) (l r : Node) (a b : Val) (σ : SState) :
    binTail sc ".." l r a b σ = rangeR sc.rangeSizeSigned sc.budget a b σ := by
  rw [binTail_rangeCharge]
  unfold rangeR
  rw [SM.bind_apply, SM.lift_apply]
  cases toIntR a with
  | error e => rfl
  | ok lo =>
    simp only []
    rw [SM.bind_apply, SM.lift_apply]
    cases toIntR b with
    | error e => rfl
    | ok hi =>
      simp only []
      rw [SM.bind_apply]
      unfold SM.allocBefore
      unfold rangeCharge
      generalize (if sc.rangeSizeSigned = true then hi - lo + 1 else if hi - lo + 1 < 0 then 0 else hi - lo + 1) = counted
      by_cases hb : σ.memory + counted ≥ sc.budget
      · simp only [hb, ↓reduceIte]
      · simp only [hb, ↓reduceIte]; rfl

/-- `range` alone has no equation: its tail charges the budget, so it is a function of the state (`binTail_range`) -/
inductive BinRow (sc : SCfg) (l r : Node) (op : String) : List Op → Prop
  | ne : (∀ a b, binTail sc op l r a b = pure (.bool (!equalV a b))) → BinRow sc l r op [.equal, .not_]
  | in_ : (∀ a b, binTail sc op l r a b = (do pure (.bool (← SM.lift (inV a b))))) → BinRow sc l r op [.in_]
  | notin : (∀ a b, binTail sc op l r a b = (do pure (.bool (!(← SM.lift (inV a b)))))) → BinRow sc l r op [.in_, .not_]
  | arith {o : Op} {hlp : Helper} : binOpOf o = some hlp →
      (∀ a b, binTail sc op l r a b = SM.lift (binHelper hlp a b)) → BinRow sc l r op [o]
  | pow : (∀ a b, binTail sc op l r a b = SM.lift (powR sc.world a b)) → BinRow sc l r op [.exponent]
  | strop {o : Op} {f : String → String → Bool} :
      ((o = .contains ∧ f = strContains) ∨ (o = .startsWith ∧ f = strHasPrefix) ∨ (o = .endsWith ∧ f = strHasSuffix)) →
      (∀ a b, binTail sc op l r a b = SM.lift (strOp f a b)) → BinRow sc l r op [o]
  | range : op = ".." → BinRow sc l r op [.range]

theorem binSimple_row (sc : SCfg) (l r : Node) {op : String} {ops : List Op} (h : binSimpleOp op = some ops) :
    isLogicOp op = false ∧ BinRow sc l r op ops := by
  unfold binSimpleOp at h
  split at h <;> first | (cases h; done) | skip
  all_goals (cases h; refine ⟨by decide, ?_⟩)
  -- one bullet per row of `binSimpleOp`, in the order of its clauses
  · exact .ne (binTail_ne sc l r)
  · exact .in_ (binTail_in sc l r)
  · exact .notin (binTail_notin sc l r)
  · exact .arith (hlp := .less) rfl fun a b => binTail_arith sc l r a b rfl
  · exact .arith (hlp := .more) rfl fun a b => binTail_arith sc l r a b rfl
  · exact .arith (hlp := .lessOrEqual) rfl fun a b => binTail_arith sc l r a b rfl
  · exact .arith (hlp := .moreOrEqual) rfl fun a b => binTail_arith sc l r a b rfl
  · exact .arith (hlp := .add) rfl fun a b => binTail_arith sc l r a b rfl
  · exact .arith (hlp := .subtract) rfl fun a b => binTail_arith sc l r a b rfl
  · exact .arith (hlp := .multiply) rfl fun a b => binTail_arith sc l r a b rfl
  · exact .arith (hlp := .divide) rfl fun a b => binTail_arith sc l r a b rfl
  · exact .arith (hlp := .modulo) rfl fun a b => binTail_arith sc l r a b rfl
  · exact .pow (binTail_pow sc l r)
  · exact .strop (.inl ⟨rfl, rfl⟩) (binTail_contains sc l r)
  · exact .strop (.inr (.inl ⟨rfl, rfl⟩)) (binTail_startsWith sc l r)
  · exact .strop (.inr (.inr ⟨rfl, rfl⟩)) (binTail_endsWith sc l r)
  · exact .range rfl

/-- the `rfl`s evaluate `binSimpleOp` at the eight other names `binTail` tests for; the nine arithmetic operators are
    `binArith`'s -/
theorem binTail_unknown (sc : SCfg) (l r : Node) {op : String} (heq : op ≠ "==") (h : binSimpleOp op = none) (a b : Val) :
    binTail sc op l r a b = SM.fail .badop := by
  have hne : ∀ s ops, binSimpleOp s = some ops → (op == s) = false := fun s ops hs => by
    rw [beq_eq_false_iff_ne]
    rintro rfl
    rw [h] at hs
    cases hs
  have ha : binArith op = none := by
    unfold binArith
    split
    all_goals first | cases h | rfl
  simp only [binTail, beq_eq_false_iff_ne.2 heq, hne "!=" _ rfl, hne "in" _ rfl, hne "not in" _ rfl, hne "**" _ rfl,
    hne ".." _ rfl, hne "contains" _ rfl, hne "startsWith" _ rfl, hne "endsWith" _ rfl, Bool.false_eq_true, if_false, ha]

theorem matchRe_lift (sc : SCfg) (pat : String) (a : Val) : matchRe sc pat a = SM.lift (matchR sc.world a (.str pat)) := by
  cases a <;> try rfl
  rename_i s
  simp only [matchRe, matchR]
  cases sc.world.regexMatch pat s <;> rfl

theorem matchDyn_lift (sc : SCfg) (a b : Val) : matchDyn sc a b = SM.lift (matchR sc.world a b) := by
  unfold matchDyn
  split
  · rename_i s p
    simp only [matchR]
    cases sc.world.regexMatch p s <;> rfl
  · rename_i hne; rw [matchR_else hne]; rfl

theorem callTail_apply (w : World) (obj : Val) (name : String) (vs : List Val) (σ : SState) :
    callTail w obj name vs σ = (callMember w obj name vs, logged (callMember w obj name vs) name vs σ) := by
  unfold callTail logged
  cases callHappened (callMember w obj name vs) <;> cases callMember w obj name vs <;> rfl

theorem method_tail (w : World) (ns : Bool) (obj : Val) (name : String) (vs : List Val) (σ : SState) :
    ((if (ns && obj.isNilLike) = true then pure .nil else callTail w obj name vs) : SM Val) σ =
      (methodR w ns obj name vs, methodLogged w ns obj name vs σ) := by
  unfold methodR methodLogged
  cases h : (ns && obj.isNilLike)
  · rw [if_neg Bool.false_ne_true]
    exact callTail_apply _ _ _ _ _
  · rfl

end ExprModel.Refine
