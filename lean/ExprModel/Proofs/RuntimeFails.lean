import ExprModel.VM.Step
/-
How the run-time library fails: with `type_`, `index` or `divzero` (`LibErr`), but for two functions stated with sets of
their own: `buildMap` also reports `underflow` (an odd number of values), `callMember` whatever the environment's
function reports.  `ErrsIn Q r` says that `r`, if it is a failure, has its class in `Q`; its rules follow the shape of
the library's definitions, so each function is walked once, here.  That a step reports no `budget` error of its own
(`NB`) and that the language definition fails only with its own classes (`RBenign`) are both read off these facts.
-/
namespace ExprModel

def ErrsIn {α : Type} (Q : ErrClass → Prop) (r : R α) : Prop := ∀ e, r = .error e → Q e

def LibErr (e : ErrClass) : Prop := e = .type_ ∨ e = .index ∨ e = .divzero

theorem LibErr.type_ : LibErr .type_ := .inl rfl
theorem LibErr.index : LibErr .index := .inr (.inl rfl)
theorem LibErr.divzero : LibErr .divzero := .inr (.inr rfl)

namespace ErrsIn
variable {α β : Type} {Q Q' : ErrClass → Prop}

theorem ok (a : α) : ErrsIn Q (.ok a : R α) := fun _ h => by cases h
theorem error {e : ErrClass} (h : Q e) : ErrsIn Q (.error e : R α) := fun _ he => by cases he; exact h
theorem mono {r : R α} (h : ErrsIn Q r) (hq : ∀ e, Q e → Q' e) : ErrsIn Q' r := fun e he => hq e (h e he)
theorem ite {c : Prop} [Decidable c] {x y : R α} (hx : ErrsIn Q x) (hy : ErrsIn Q y) :
    ErrsIn Q (if c then x else y) := by
  split
  · exact hx
  · exact hy
theorem dite {c : Prop} [Decidable c] {x : c → R α} {y : ¬c → R α} (hx : ∀ h, ErrsIn Q (x h))
    (hy : ∀ h, ErrsIn Q (y h)) : ErrsIn Q (if h : c then x h else y h) := by
  split
  · exact hx _
  · exact hy _
theorem cast {x : R α} {e : ErrClass} (hx : ErrsIn Q x) (h : x = .error e) : ErrsIn Q (.error e : R β) :=
  .error (hx e h)
theorem bind {x : R α} {f : α → R β} (hx : ErrsIn Q x) (hf : ∀ a, ErrsIn Q (f a)) :
    ErrsIn Q (x >>= f) := by
  cases x with
  | ok a => exact hf a
  | error e => exact hx.cast rfl
theorem map {x : R α} {g : α → β} (hx : ErrsIn Q x) : ErrsIn Q (x.map g) := by
  cases x with
  | ok a => exact .ok _
  | error e => exact hx.cast rfl
end ErrsIn

theorem lib_toIntR (v : Val) : ErrsIn LibErr (toIntR v) := by
  unfold toIntR
  split
  · exact .ok _
  · exact .error .type_
theorem lib_notV (v : Val) : ErrsIn LibErr (notV v) := by
  unfold notV
  split
  · exact .ok _
  · exact .error .type_
theorem lib_negV (v : Val) : ErrsIn LibErr (negV v) := by
  unfold negV
  split
  · exact .ok _
  · exact .error .type_
theorem lib_binHelper (h a b) : ErrsIn LibErr (binHelper h a b) := by
  unfold binHelper
  split
  · exact .ok _
  · exact .error .divzero
  · exact .error .type_
theorem lib_strOp (f a b) : ErrsIn LibErr (strOp f a b) := by
  unfold strOp
  split
  · exact .ok _
  · exact .error .type_
theorem lib_lengthV (v : Val) : ErrsIn LibErr (lengthV v) := by
  unfold lengthV
  split
  · exact .ok _
  · exact .ok _
  · exact .ok _
  · exact .ok _
  · exact .ok _
  · exact .error .type_
theorem lib_constStr (v : Val) : ErrsIn LibErr (constStr v) := by
  unfold constStr
  split
  · exact .ok _
  · exact .error .type_
theorem lib_inV (a b : Val) : ErrsIn LibErr (inV a b) := by
  unfold inV
  split
  · exact .ok _
  · exact .ok _
  · split
    · exact .ok _
    · exact .error .type_
  · split
    · exact .ok _
    · exact .error .type_
  · exact .ite (.ok _) (.error .type_)
  · split
    · exact .ok _
    · exact .error .type_
  · exact .error .type_
theorem lib_castV (t v) : ErrsIn LibErr (castV t v) := by
  unfold castV
  split
  · split
    · split
      · exact .ok _
      · exact .error .type_
    · exact .error .type_
  · split
    · exact .ok _
    · exact .error .type_
  · exact .ok _
theorem lib_fetchV (a i n) : ErrsIn LibErr (fetchV a i n) := by
  have hfb : ErrsIn LibErr (if n = true then Except.ok Val.nil else Except.error ErrClass.type_ : R Val) :=
    .ite (.ok _) (.error .type_)
  unfold fetchV
  dsimp only
  split
  · split
    · exact (lib_toIntR i).cast ‹_›
    · exact .ite (.ok _) (.error .index)
  · split
    · exact (lib_toIntR i).cast ‹_›
    · exact .ite (.ok _) (.error .index)
  · split
    · exact .ok _
    · exact .error .type_
  · split
    · exact .ok _
    · exact .error .type_
  · exact .ite (.ok _) (.error .type_)
  · split
    · split
      · exact .ite hfb (.ok _)
      · exact hfb
    · exact hfb
  · exact hfb
theorem lib_sliceV (a f t) : ErrsIn LibErr (sliceV a f t) := by
  unfold sliceV
  split
  · split
    · exact .ite (.error .index) (.ok _)
    · exact (lib_toIntR f).cast ‹_›
    · exact (lib_toIntR t).cast ‹_›
  · split
    · exact .ite (.error .index) (.dite (fun _ => .ok _) (fun _ => .ok _))
    · exact (lib_toIntR f).cast ‹_›
    · exact (lib_toIntR t).cast ‹_›
  · exact .error .type_
/-- `OpMap` with an odd number of popped values is the one way the library reports `underflow` -/
theorem lib_buildMap : ∀ (l : List Val), ErrsIn (fun e => LibErr e ∨ (e = .underflow ∧ l.length % 2 = 1)) (buildMap l)
  | [] => .ok _
  | [_] => .error (.inr ⟨rfl, rfl⟩)
  | k :: v :: rest => by
    have hl : rest.length % 2 = 1 → (k :: v :: rest).length % 2 = 1 := fun h => by
      rw [List.length_cons, List.length_cons]; omega
    unfold buildMap
    refine .bind ((lib_buildMap rest).mono fun e h => h.imp id (.imp_right hl)) fun m => ?_
    split
    · exact .ok _
    · exact .error (.inl .type_)

theorem lib_callMember (w : World) (fromV : Val) (name : String) (args : List Val) :
    ErrsIn (fun e => e = .type_ ∨ ∃ id, w.call id args = .error e) (callMember w fromV name args) := by
  unfold callMember
  dsimp only
  split
  · split
    · exact fun e h => .inr ⟨_, h⟩
    · exact .error (.inl rfl)
    · exact .error (.inl rfl)
  · exact .error (.inl rfl)

theorem lengthV_nonneg {v : Val} {n : Int} (h : lengthV v = .ok n) : 0 ≤ n := by
  cases v <;> simp only [lengthV, Except.ok.injEq] at h <;> first | (cases h; done) | omega

end ExprModel
