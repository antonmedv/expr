import ExprModel.Proofs.RefineSteps
import ExprModel.Proofs.RefineTails
import ExprModel.Proofs.RuntimeFails
/-
C01: a lemma for each opcode the compiler uses, at the level of located segments.  An opcode that cannot fail
where the compiler puts it (the side conditions say why: the constant is in the pool, the loop counter is an `int`,
the backward offset stays inside the code) is in continuation form (`Runs next Q → Runs here Q`, by `Runs.stepped`); one
whose library function may fail is in terminal form (`Runs here (outcome r …)`, value and failure alike, by
`Runs.resulted`), `r` being the library function's result or one of the functions of RefineTails.  `range` and `map`,
whose state after a failure depends on which failure it is, a failing conditional jump and `inc` are read off `Runs.exec`.
-/
namespace ExprModel.Refine
open ExprModel
open ExprModel.Spec (SState)

variable {c : Cfg} {P : LProg} {k : Nat} {l : Loc} {r : List LInstr} {st : List Val} {scs : List Scope}
  {σ : SState} {lim : Int} {Q : Res}

/-- `ErrsIn (P.blame · l) r` written out -/
def RBlame {α : Type} (P : LProg) (l : Loc) (r : R α) : Prop := ∀ e, r = .error e → P.blame e l

theorem RBlame.ok {α : Type} {P : LProg} {l : Loc} (v : α) : RBlame P l (.ok v : R α) := ErrsIn.ok v
theorem RBlame.err {α : Type} {P : LProg} {l : Loc} {e : ErrClass} (h : P.blame e l) : RBlame P l (.error e : R α) :=
  ErrsIn.error h
theorem RBlame.of_map {α β : Type} {P : LProg} {l : Loc} {r : R α} {g : α → β} (h : RBlame P l (r.map g)) :
    RBlame P l r := fun e he => h e (by rw [he]; rfl)

theorem Runs.stepped {i : LInstr} {s' : VM} (h : CodeAt P k (i :: r))
    (he : execI c P.consts i.instr { vm k st scs σ lim with pp := k, ip := k + 1 } = .ok s')
    (hr : Runs c P (noPP s') Q) : Runs c P (vm k st scs σ lim) Q :=
  Runs.exec h rfl (he ▸ ExecPost.ok hr rfl)

/-- the instruction leaves the value of `res` on `st'` in the Spec state `σ'`, or fails with the class of `res` in a
    state `s2` that shows `σ'` -/
theorem Runs.resulted {i : LInstr} {st' : List Val} {ip : Nat} {res : R Val} {σ' : SState} {s2 : VM}
    (h : CodeAt P k (i :: r))
    (he : execI c P.consts i.instr { vm k st scs σ lim with pp := k, ip := k + 1 } =
      match res with
      | .ok v => .ok ⟨v :: st', scs, ip, k, σ'.memory, lim, σ'.created, σ'.log⟩
      | .error e => .error (e, s2))
    (h2 : obs s2 = σ') (hb : RBlame P i.loc res) : Runs c P (vm k st scs σ lim) (outcome res ip st' scs σ' lim) := by
  refine Runs.exec h rfl ?_
  rw [he]
  revert hb
  cases res with
  | ok v => intro _; exact ExecPost.ok (Reach.refl _) rfl
  | error e => intro hb; exact ⟨by rw [outcome_error, h2], hb e rfl⟩

theorem Runs.liftedMap {α : Type} {i : LInstr} {st' : List Val} {ip : Nat} {g : α → Val} {res : R α} {σ' : SState}
    (h : CodeAt P k (i :: r))
    (he : execI c P.consts i.instr { vm k st scs σ lim with pp := k, ip := k + 1 } =
      (do let a ← liftR (⟨st', scs, ip, k, σ'.memory, lim, σ'.created, σ'.log⟩ : VM) res
          pure (VM.push ⟨st', scs, ip, k, σ'.memory, lim, σ'.created, σ'.log⟩ (g a))))
    (hb : RBlame P i.loc res) : Runs c P (vm k st scs σ lim) (outcome (res.map g) ip st' scs σ' lim) :=
  Runs.resulted h (he.trans (by cases res <;> rfl)) rfl (ErrsIn.map hb)

theorem Runs.lifted {i : LInstr} {st' : List Val} {ip : Nat} {res : R Val} {σ' : SState} (h : CodeAt P k (i :: r))
    (he : execI c P.consts i.instr { vm k st scs σ lim with pp := k, ip := k + 1 } =
      (do let v ← liftR (⟨st', scs, ip, k, σ'.memory, lim, σ'.created, σ'.log⟩ : VM) res
          pure (VM.push ⟨st', scs, ip, k, σ'.memory, lim, σ'.created, σ'.log⟩ v)))
    (hb : RBlame P i.loc res) : Runs c P (vm k st scs σ lim) (outcome res ip st' scs σ' lim) :=
  Runs.resulted h (he.trans (by cases res <;> rfl)) rfl hb

/-! Below, `rfl` for `he` evaluates `execI` on the concrete opcode and operands. -/

theorem Runs.push {a v} (h : CodeAt P k (li l .push a :: r)) (hv : P.consts[a]? = some v)
    (hr : Runs c P (vm (k + 3) (v :: st) scs σ lim) Q) : Runs c P (vm k st scs σ lim) Q :=
  Runs.stepped h (constI_bind hv rfl) hr

theorem Runs.true_ {a} (h : CodeAt P k (li l .true_ a :: r))
    (hr : Runs c P (vm (k + 1) (.bool true :: st) scs σ lim) Q) : Runs c P (vm k st scs σ lim) Q :=
  Runs.stepped h rfl hr

theorem Runs.false_ {a} (h : CodeAt P k (li l .false_ a :: r))
    (hr : Runs c P (vm (k + 1) (.bool false :: st) scs σ lim) Q) : Runs c P (vm k st scs σ lim) Q :=
  Runs.stepped h rfl hr

theorem Runs.nil_ {a} (h : CodeAt P k (li l .nil_ a :: r))
    (hr : Runs c P (vm (k + 1) (.nil :: st) scs σ lim) Q) : Runs c P (vm k st scs σ lim) Q :=
  Runs.stepped h rfl hr

theorem Runs.pop {a v} (h : CodeAt P k (li l .pop a :: r))
    (hr : Runs c P (vm (k + 1) st scs σ lim) Q) : Runs c P (vm k (v :: st) scs σ lim) Q :=
  Runs.stepped h rfl hr

theorem Runs.rot {a x y} (h : CodeAt P k (li l .rot a :: r))
    (hr : Runs c P (vm (k + 1) (x :: y :: st) scs σ lim) Q) : Runs c P (vm k (y :: x :: st) scs σ lim) Q :=
  Runs.stepped h rfl hr

theorem Runs.fetch {a kv} (h : CodeAt P k (li l .fetch a :: r)) (hv : P.consts[a]? = some kv) (hb : RBlame P l (fetchV c.env kv false)) :
    Runs c P (vm k st scs σ lim) (outcome (fetchV c.env kv false) (k + 3) st scs σ lim) :=
  Runs.lifted h (constI_bind hv rfl) hb

theorem Runs.fetchNilSafe {a kv} (h : CodeAt P k (li l .fetchNilSafe a :: r)) (hv : P.consts[a]? = some kv) (hb : RBlame P l (fetchV c.env kv true)) :
    Runs c P (vm k st scs σ lim) (outcome (fetchV c.env kv true) (k + 3) st scs σ lim) :=
  Runs.lifted h (constI_bind hv rfl) hb

theorem Runs.fetchMap {a name kvs} (h : CodeAt P k (li l .fetchMap a :: r)) (hv : P.consts[a]? = some (.str name))
    (henv : c.env = .map kvs)
    (hr : Runs c P (vm (k + 3) ((lookupKv name kvs).getD .nil :: st) scs σ lim) Q) :
    Runs c P (vm k st scs σ lim) Q := by
  obtain ⟨w, env, budget, defects⟩ := c
  cases henv
  exact Runs.stepped h (constI_bind hv rfl) hr

theorem Runs.not_ {a v} (h : CodeAt P k (li l .not_ a :: r)) (hb : RBlame P l (notV v)) :
    Runs c P (vm k (v :: st) scs σ lim) (outcome (notV v) (k + 1) st scs σ lim) :=
  Runs.lifted h rfl hb

theorem Runs.negate {a v} (h : CodeAt P k (li l .negate a :: r)) (hb : RBlame P l (negV v)) :
    Runs c P (vm k (v :: st) scs σ lim) (outcome (negV v) (k + 1) st scs σ lim) :=
  Runs.lifted h rfl hb

theorem Runs.equal {a x y} (h : CodeAt P k (li l .equal a :: r))
    (hr : Runs c P (vm (k + 1) (.bool (equalV x y) :: st) scs σ lim) Q) :
    Runs c P (vm k (y :: x :: st) scs σ lim) Q :=
  Runs.stepped h rfl hr

theorem Runs.equalInt {a x y} (h : CodeAt P k (li l .equalInt a :: r)) (hb : RBlame P l (eqIntR x y)) :
    Runs c P (vm k (y :: x :: st) scs σ lim) (outcome (eqIntR x y) (k + 1) st scs σ lim) :=
  Runs.lifted h rfl hb

theorem Runs.equalString {a x y} (h : CodeAt P k (li l .equalString a :: r)) (hb : RBlame P l (eqStrR x y)) :
    Runs c P (vm k (y :: x :: st) scs σ lim) (outcome (eqStrR x y) (k + 1) st scs σ lim) :=
  Runs.lifted h rfl hb

theorem Runs.in_ {a x y} (h : CodeAt P k (li l .in_ a :: r)) (hb : RBlame P l (inV x y)) :
    Runs c P (vm k (y :: x :: st) scs σ lim) (outcome ((inV x y).map Val.bool) (k + 1) st scs σ lim) :=
  Runs.liftedMap h rfl hb

theorem Runs.binop {op hlp a x y} (h : CodeAt P k (li l op a :: r)) (hop : binOpOf op = some hlp) (hb : RBlame P l (binHelper hlp x y)) :
    Runs c P (vm k (y :: x :: st) scs σ lim) (outcome (binHelper hlp x y) (k + 1) st scs σ lim) :=
  Runs.lifted h (execI_binop hop x y) hb

theorem Runs.exponent {a x y} (h : CodeAt P k (li l .exponent a :: r)) (hb : RBlame P l (powR c.world x y)) :
    Runs c P (vm k (y :: x :: st) scs σ lim) (outcome (powR c.world x y) (k + 1) st scs σ lim) :=
  Runs.lifted h rfl hb

theorem Runs.strop {op f a x y} (h : CodeAt P k (li l op a :: r))
    (hop : (op = .contains ∧ f = strContains) ∨ (op = .startsWith ∧ f = strHasPrefix) ∨ (op = .endsWith ∧ f = strHasSuffix)) (hb : RBlame P l (strOp f x y)) :
    Runs c P (vm k (y :: x :: st) scs σ lim) (outcome (strOp f x y) (k + 1) st scs σ lim) := by
  rcases hop with ⟨rfl, rfl⟩ | ⟨rfl, rfl⟩ | ⟨rfl, rfl⟩ <;> exact Runs.lifted h rfl hb

theorem Runs.index {a x y} (h : CodeAt P k (li l .index a :: r)) (hb : RBlame P l (fetchV x y false)) :
    Runs c P (vm k (y :: x :: st) scs σ lim) (outcome (fetchV x y false) (k + 1) st scs σ lim) :=
  Runs.lifted h rfl hb

theorem Runs.slice {a x f t} (h : CodeAt P k (li l .slice a :: r)) (hb : RBlame P l (sliceV x f t)) :
    Runs c P (vm k (f :: t :: x :: st) scs σ lim) (outcome (sliceV x f t) (k + 1) st scs σ lim) :=
  Runs.lifted h rfl hb

theorem Runs.property {a x kv} (h : CodeAt P k (li l .property a :: r)) (hv : P.consts[a]? = some kv) (hb : RBlame P l (fetchV x kv false)) :
    Runs c P (vm k (x :: st) scs σ lim) (outcome (fetchV x kv false) (k + 3) st scs σ lim) :=
  Runs.lifted h (constI_bind hv rfl) hb

theorem Runs.propertyNilSafe {a x kv} (h : CodeAt P k (li l .propertyNilSafe a :: r)) (hv : P.consts[a]? = some kv) (hb : RBlame P l (fetchV x kv true)) :
    Runs c P (vm k (x :: st) scs σ lim) (outcome (fetchV x kv true) (k + 3) st scs σ lim) :=
  Runs.lifted h (constI_bind hv rfl) hb

/-- `OpLen` peeks: the collection stays below the length -/
theorem Runs.len {a x} (h : CodeAt P k (li l .len a :: r)) (hb : RBlame P l (lengthV x)) :
    Runs c P (vm k (x :: st) scs σ lim) (outcome ((lengthV x).map (Val.int .int)) (k + 1) (x :: st) scs σ lim) :=
  Runs.liftedMap h rfl hb

theorem Runs.matches_ {a x y} (h : CodeAt P k (li l .matches_ a :: r)) (hb : RBlame P l (matchR c.world x y)) :
    Runs c P (vm k (y :: x :: st) scs σ lim) (outcome (matchR c.world x y) (k + 1) st scs σ lim) :=
  Runs.lifted h rfl hb

theorem Runs.matchesConst {a x pat} (h : CodeAt P k (li l .matchesConst a :: r)) (hv : P.consts[a]? = some (.regexp pat)) (hb : RBlame P l (matchR c.world x (.str pat))) :
    Runs c P (vm k (x :: st) scs σ lim) (outcome (matchR c.world x (.str pat)) (k + 3) st scs σ lim) :=
  Runs.lifted h (constI_bind hv rfl) hb

theorem Runs.jump {o} (h : CodeAt P k (li l .jump o :: r))
    (hr : Runs c P (vm (k + 3 + o) st scs σ lim) Q) : Runs c P (vm k st scs σ lim) Q :=
  Runs.stepped h rfl hr

theorem Runs.jumpIf {jt b : Bool} {o} (h : CodeAt P k (li l (if jt then .jumpIfTrue else .jumpIfFalse) o :: r))
    (hr : Runs c P (vm (if jt = b then k + 3 + o else k + 3) (.bool b :: st) scs σ lim) Q) :
    Runs c P (vm k (.bool b :: st) scs σ lim) Q := by
  cases jt <;> cases b <;> exact Runs.stepped h rfl hr

theorem Runs.jumpIf_err {jt : Bool} {o v} (h : CodeAt P k (li l (if jt then .jumpIfTrue else .jumpIfFalse) o :: r))
    (hv : ∀ b, v ≠ .bool b) (hb : P.blame .type_ l) : Runs c P (vm k (v :: st) scs σ lim) (.err .type_ σ) := by
  refine Runs.exec h rfl ?_
  cases jt
  · rw [li_instr, vm, if_neg Bool.false_ne_true, execI_jumpIfFalse]
    split
    · exact absurd rfl (hv _)
    · exact absurd rfl (hv _)
    · exact ⟨rfl, hb⟩
  · rw [li_instr, vm, if_pos rfl, execI_jumpIfTrue]
    split
    · exact absurd rfl (hv _)
    · exact absurd rfl (hv _)
    · exact ⟨rfl, hb⟩

theorem Runs.jumpBackward {o} (h : CodeAt P k (li l .jumpBackward o :: r)) (ho : o ≤ k + 3)
    (hr : Runs c P (vm (k + 3 - o) st scs σ lim) Q) : Runs c P (vm k st scs σ lim) Q :=
  Runs.stepped h (if_pos ho) hr

theorem Runs.begin_ {a} (h : CodeAt P k (li l .begin_ a :: r))
    (hr : Runs c P (vm (k + 1) st ([] :: scs) σ lim) Q) : Runs c P (vm k st scs σ lim) Q :=
  Runs.stepped h rfl hr

theorem Runs.end_ {a sc} (h : CodeAt P k (li l .end_ a :: r))
    (hr : Runs c P (vm (k + 1) st scs σ lim) Q) : Runs c P (vm k st (sc :: scs) σ lim) Q :=
  Runs.stepped h rfl hr

theorem Runs.store {a key v sc} (h : CodeAt P k (li l .store a :: r)) (hv : P.consts[a]? = some (.str key))
    (hr : Runs c P (vm (k + 3) st (scopeSet key v sc :: scs) σ lim) Q) :
    Runs c P (vm k (v :: st) (sc :: scs) σ lim) Q :=
  Runs.stepped h (constI_bind hv rfl) hr

theorem Runs.load {a key sc} (h : CodeAt P k (li l .load a :: r)) (hv : P.consts[a]? = some (.str key))
    (hr : Runs c P (vm (k + 3) ((lookupKv key sc).getD .nil :: st) (sc :: scs) σ lim) Q) :
    Runs c P (vm k st (sc :: scs) σ lim) Q :=
  Runs.stepped h (constI_bind hv rfl) hr

theorem Runs.load_nil {a key} (h : CodeAt P k (li l .load a :: r)) (hv : P.consts[a]? = some (.str key))
    (hr : Runs c P (vm (k + 3) (.nil :: st) [] σ lim) Q) :
    Runs c P (vm k st [] σ lim) Q :=
  Runs.stepped h (constI_bind hv rfl) hr

theorem Runs.inc {a key sc i} (h : CodeAt P k (li l .inc a :: r)) (hv : P.consts[a]? = some (.str key))
    (hi : lookupKv key sc = some (.int .int i))
    (hr : Runs c P (vm (k + 3) st (scopeSet key (.int .int (wrap .int (i + 1))) sc :: scs) σ lim) Q) :
    Runs c P (vm k st (sc :: scs) σ lim) Q := by
  refine Runs.exec h rfl ?_
  rw [li_instr, vm, execI_inc hv, hi]
  exact ExecPost.ok hr rfl

theorem popN_rev (xs : List Val) : ∀ (s : VM) (acc : List Val) (st : List Val), s.stack = xs ++ st →
    VM.popN xs.length s acc = .ok (xs.reverse ++ acc, { s with stack := st })
  | s, acc, st, h => by
    induction xs generalizing s acc with
    | nil => simp only [List.nil_append] at h; subst h; rfl
    | cons x xs ih =>
      simp only [List.length_cons, VM.popN, VM.pop, h, List.cons_append, bind, Except.bind]
      rw [ih _ (x :: acc) rfl]
      simp

theorem popN_args (args : List Val) (s : VM) (st : List Val) (h : s.stack = args.reverse ++ st) :
    VM.popN args.length s [] = .ok (args, { s with stack := st }) := by
  have := popN_rev args.reverse s [] st h
  rwa [List.length_reverse, List.reverse_reverse, List.append_nil] at this

theorem Runs.call {op a name} {args : List Val} (hop : op = .call ∨ op = .callFast)
    (h : CodeAt P k (li l op a :: r)) (hv : P.consts[a]? = some (.call name args.length)) (hb : RBlame P l (callMember c.world c.env name args)) :
    Runs c P (vm k (args.reverse ++ st) scs σ lim)
      (outcome (callMember c.world c.env name args) (k + 3) st scs
        (logged (callMember c.world c.env name args) name args σ) lim) := by
  refine Runs.lifted h ?_ hb
  rcases hop with rfl | rfl
  all_goals
    refine constI_bind hv ?_
    simp only [vm, bind, Except.bind, popN_args args _ st, logged]
    cases callHappened (callMember c.world c.env name args) <;> rfl

theorem Runs.method {op a name obj ns} {args : List Val}
    (hop : (op = .method ∧ ns = false) ∨ (op = .methodNilSafe ∧ ns = true))
    (h : CodeAt P k (li l op a :: r)) (hv : P.consts[a]? = some (.call name args.length)) (hb : RBlame P l (methodR c.world ns obj name args)) :
    Runs c P (vm k (args.reverse ++ obj :: st) scs σ lim)
      (outcome (methodR c.world ns obj name args) (k + 3) st scs (methodLogged c.world ns obj name args σ) lim) := by
  refine Runs.lifted h ?_ hb
  rcases hop with ⟨rfl, rfl⟩ | ⟨rfl, rfl⟩
  all_goals
    refine constI_bind hv ?_
    simp only [vm, bind, Except.bind, popN_args args _ (obj :: st), VM.pop, methodR, methodLogged, logged]
  · cases callHappened (callMember c.world obj name args) <;> rfl
  · cases obj.isNilLike
    · cases callHappened (callMember c.world obj name args) <;> rfl
    · rfl

theorem Runs.array {a} {vs : List Val} (h : CodeAt P k (li l .array a :: r)) (hb : RBlame P l ((if (allocd σ vs.length vs.length).memory ≥ lim then .error .budget else .ok (.arr .iface vs) : R Val))) :
    Runs c P (vm k (.int .int vs.length :: (vs.reverse ++ st)) scs σ lim)
      (outcome (if (allocd σ vs.length vs.length).memory ≥ lim then .error .budget else .ok (.arr .iface vs))
        (k + 1) st scs (allocd σ vs.length vs.length) lim) := by
  refine Runs.resulted (s2 := ⟨.arr .iface vs :: st, scs, k + 1, k, σ.memory + vs.length, lim, σ.created + vs.length, σ.log⟩)
    h ?_ rfl hb
  simp only [execI, li_instr, vm, bind, Except.bind, pure, Except.pure, VM.push, VM.pop, failV]
  rw [if_neg (by omega)]
  simp only [Int.toNat_natCast]
  rw [popN_args vs _ st rfl]
  simp only [allocd]
  by_cases hbd : σ.memory + (vs.length : Int) ≥ lim
  · simp only [hbd, ↓reduceIte]
  · simp only [hbd, ↓reduceIte]

theorem Runs.map {a} {n : Nat} {flat : List Val} (h : CodeAt P k (li l .map a :: r)) (hn : flat.length = 2 * n)
    (hb1 : RBlame P l (buildMap flat))
    (hb2 : ∀ mp, buildMap flat = .ok mp → (allocd σ n n).memory ≥ lim → P.blame .budget l) :
    Runs c P (vm k (.int .int n :: (flat.reverse ++ st)) scs σ lim)
      (match buildMap flat with
       | .error e => .err e σ
       | .ok m => outcome (if (allocd σ n n).memory ≥ lim then .error .budget else .ok (.map m))
                    (k + 1) st scs (allocd σ n n) lim) := by
  refine Runs.exec h rfl ?_
  simp only [execI, li_instr, vm, bind, Except.bind, pure, Except.pure, VM.push, VM.pop, failV]
  rw [if_neg (by omega)]
  simp only [Int.toNat_natCast]
  rw [← hn, popN_args flat _ st rfl]
  simp only [allocd, liftR] at hb2 ⊢
  revert hb1 hb2
  cases buildMap flat with
  | error e => intro hb1 _; exact ⟨rfl, hb1 e rfl⟩
  | ok m =>
    intro _ hb2
    simp only []
    by_cases hbd : σ.memory + (n : Int) ≥ lim
    · simp only [hbd, ↓reduceIte]; exact ⟨rfl, hb2 m rfl hbd⟩
    · simp only [hbd, ↓reduceIte]; exact ExecPost.ok (Reach.refl _) rfl

theorem Runs.range {a x y} (h : CodeAt P k (li l .range a :: r)) (hb : RBlame P l ((rangeR c.defects.rangeSizeSigned lim x y σ).1)) :
    Runs c P (vm k (y :: x :: st) scs σ lim)
      (outcome (rangeR c.defects.rangeSizeSigned lim x y σ).1 (k + 1) st scs (rangeR c.defects.rangeSizeSigned lim x y σ).2 lim) := by
  refine Runs.exec h rfl ?_
  simp only [execI, li_instr, vm, bind, Except.bind, pure, Except.pure, VM.push, VM.pop, VM.pop2, failV, liftR]
  unfold rangeR at hb ⊢
  revert hb
  cases toIntR x with
  | error e => intro hb; exact ⟨rfl, hb e rfl⟩
  | ok lo =>
    cases toIntR y with
    | error e => intro hb; exact ⟨rfl, hb e rfl⟩
    | ok hi =>
      simp only []
      generalize (if c.defects.rangeSizeSigned = true then hi - lo + 1 else if hi - lo + 1 < 0 then 0 else hi - lo + 1) = counted
      by_cases hbd : σ.memory + counted ≥ lim
      · simp only [hbd, ↓reduceIte]; intro hb; exact ⟨rfl, hb _ rfl⟩
      · simp only [hbd, ↓reduceIte]; intro _; exact ExecPost.ok (Reach.refl _) rfl

/-- `OpCast` with a kind other than 0 (int64) and 1 (float64) leaves the value as it is, and so does `castV` -/
theorem Runs.cast_any {t v} (h : CodeAt P k (li l .cast t :: r)) (hb : RBlame P l (castV t v)) :
    Runs c P (vm k (v :: st) scs σ lim) (outcome (castV t v) (k + 3) st scs σ lim) :=
  match t with
  | 0 | 1 => Runs.lifted h rfl hb
  | _ + 2 => Runs.stepped h rfl (Reach.refl _)

end ExprModel.Refine
