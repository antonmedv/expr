import ExprModel.Code.WfStatic
/-
Linear decoding and encoding are mutually inverse on instructions whose operands fit 16 bits; a jump operand that
is stored in the code reads back exactly below 64 KiB and truncated above.
-/
namespace ExprModel.Bc

theorem hasArg_iff_argClass (op : Op) : op.hasArg = true ↔ op.argClass ≠ .none := by
  cases op <;> decide

theorem argClass_of_noArg {op : Op} (h : op.hasArg = false) : op.argClass = .none :=
  Decidable.byContradiction fun hc => by rw [(hasArg_iff_argClass op).2 hc] at h; cases h

theorem instr_size_pos (i : Instr) : 0 < i.size := by
  unfold Instr.size; split <;> omega

theorem instr_size_le_three (i : Instr) : i.size ≤ 3 := by
  unfold Instr.size; split <;> omega

theorem instr_encode_length (i : Instr) : i.encode.length = i.size := by
  unfold Instr.encode Instr.size; split <;> simp

@[simp] theorem codeSize_nil : codeSize [] = 0 := rfl
@[simp] theorem codeSize_cons (i : Instr) (is : List Instr) : codeSize (i :: is) = i.size + codeSize is := rfl

@[simp] theorem codeSize_append (a b : List Instr) : codeSize (a ++ b) = codeSize a + codeSize b := by
  induction a with
  | nil => simp
  | cons x xs ih => simp [ih]; omega

@[simp] theorem encodeAll_nil : encodeAll [] = [] := rfl
@[simp] theorem encodeAll_cons (i : Instr) (is : List Instr) : encodeAll (i :: is) = i.encode ++ encodeAll is := rfl

theorem encodeAll_append (a b : List Instr) : encodeAll (a ++ b) = encodeAll a ++ encodeAll b := by
  induction a with
  | nil => simp
  | cons x xs ih => simp [ih]

theorem codeSize_eq_length (is : List Instr) : (encodeAll is).length = codeSize is := by
  induction is with
  | nil => rfl
  | cons i is ih => simp [instr_encode_length, ih]

theorem length_le_codeSize (is : List Instr) : is.length ≤ codeSize is := by
  induction is with
  | nil => simp
  | cons i is ih => have := instr_size_pos i; simp; omega

def FitsU16 (is : List Instr) : Prop := ∀ i ∈ is, i.arg < 65536

/-- an instruction without operand is encoded with `arg` dropped: decoding gives `arg = 0` -/
def ArgCanon (is : List Instr) : Prop := ∀ i ∈ is, i.op.hasArg = false → i.arg = 0

theorem FitsU16.nil : FitsU16 [] := fun _ h => by cases h

theorem ArgCanon.nil : ArgCanon [] := fun _ h => by cases h

theorem FitsU16.cons {i : Instr} {is : List Instr} (hi : i.arg < 65536) (h : FitsU16 is) : FitsU16 (i :: is) :=
  List.forall_mem_cons.2 ⟨hi, h⟩

theorem ArgCanon.cons {i : Instr} {is : List Instr} (hi : i.op.hasArg = false → i.arg = 0) (h : ArgCanon is) :
    ArgCanon (i :: is) := List.forall_mem_cons.2 ⟨hi, h⟩

theorem decode_encode_fuel (is : List Instr) (hfit : FitsU16 is) (hcan : ArgCanon is) :
    ∀ fuel, is.length ≤ fuel → decodeAll fuel (encodeAll is) = some is := by
  induction is with
  | nil => intro fuel _; cases fuel <;> rfl
  | cons i is ih =>
    intro fuel hfuel
    cases fuel with
    | zero => simp at hfuel
    | succ f =>
      have hi : i.arg < 65536 := hfit i (by simp)
      have ih' := ih (fun j hj => hfit j (by simp [hj])) (fun j hj => hcan j (by simp [hj])) f
        (by simp at hfuel; omega)
      rcases i with ⟨op, arg⟩
      by_cases ha : op.hasArg = true
      · simp only [encodeAll_cons, Instr.encode, ha, if_true, List.cons_append, List.nil_append, decodeAll,
          Op.ofCode_code]
        have h1 : arg % 256 < 256 := Nat.mod_lt _ (by omega)
        have h2 : arg / 256 % 256 < 256 := Nat.mod_lt _ (by omega)
        simp only [h1, h2, and_self, if_true, ih', Option.map_some]
        have : arg % 256 + 256 * (arg / 256 % 256) = arg := by simp at hi; omega
        rw [this]
      · have ha' : op.hasArg = false := by simpa using ha
        have h0 : arg = 0 := hcan ⟨op, arg⟩ (by simp) ha'
        subst h0
        simp only [encodeAll_cons, Instr.encode, ha']
        show decodeAll (f + 1) (op.code :: encodeAll is) = _
        rw [decodeAll]
        simp only [Op.ofCode_code, ha', ih', Option.map_some]
        simp

theorem decode_encode (is : List Instr) (hfit : FitsU16 is) (hcan : ArgCanon is) :
    decodeAll (encodeAll is).length (encodeAll is) = some is :=
  decode_encode_fuel is hfit hcan _ (by rw [codeSize_eq_length]; exact length_le_codeSize is)

/-- the opcode table has no duplicates, so an opcode's number is its only position -/
theorem op_code_of_ofCode {b : Nat} {op : Op} (h : Op.ofCode? b = some op) : op.code = b := by
  have nd : Op.all.Nodup := by decide +kernel
  obtain ⟨hb, rfl⟩ := List.getElem?_eq_some_iff.1 h
  exact nd.idxOf_getElem b hb

theorem decodeAll_sound : ∀ (fuel : Nat) (bs : List Nat) (is : List Instr),
    decodeAll fuel bs = some is → encodeAll is = bs ∧ FitsU16 is ∧ ArgCanon is
  | fuel, [], is, h => by
    have : is = [] := by cases fuel <;> simp [decodeAll] at h <;> exact h
    subst this
    exact ⟨rfl, FitsU16.nil, ArgCanon.nil⟩
  | 0, _ :: _, _, h => by simp [decodeAll] at h
  | fuel + 1, b :: rest, is, h => by
    rw [decodeAll] at h
    split at h
    · cases h
    · rename_i op hop
      have hcode := op_code_of_ofCode hop
      split at h
      · rename_i harg
        split at h
        · rename_i lo hi rest'
          split at h
          · rename_i hlh
            cases hd : decodeAll fuel rest' with
            | none => simp [hd] at h
            | some is' =>
              simp only [hd, Option.map_some, Option.some.injEq] at h
              subst h
              obtain ⟨e, f, c⟩ := decodeAll_sound fuel rest' is' hd
              refine ⟨?_, f.cons (show lo + 256 * hi < 65536 by omega), c.cons fun hna => by simp [harg] at hna⟩
              simp only [encodeAll_cons, Instr.encode, harg, if_true, e, hcode, List.cons_append, List.nil_append]
              have h1 : (lo + 256 * hi) % 256 = lo := by omega
              have h2 : (lo + 256 * hi) / 256 % 256 = hi := by omega
              rw [h1, h2]
          · cases h
        · cases h
      · rename_i harg
        cases hd : decodeAll fuel rest with
        | none => simp [hd] at h
        | some is' =>
          simp only [hd, Option.map_some, Option.some.injEq] at h
          subst h
          obtain ⟨e, f, c⟩ := decodeAll_sound fuel rest is' hd
          exact ⟨by simp [Instr.encode, harg, e, hcode], f.cons (show 0 < 65536 by omega), c.cons fun _ => rfl⟩

theorem drop_encodeAll (pre rest : List Instr) : (encodeAll (pre ++ rest)).drop (codeSize pre) = encodeAll rest := by
  rw [encodeAll_append, ← codeSize_eq_length pre, List.drop_left]

theorem decodeAt_encode (pre : List Instr) (j : Instr) (rest : List Instr) :
    decodeAt (encodeAll (pre ++ j :: rest)) (codeSize pre) =
      some ⟨j.op, if j.op.hasArg then j.arg % 65536 else 0⟩ := by
  unfold decodeAt
  rw [drop_encodeAll, encodeAll_cons]
  by_cases ha : j.op.hasArg = true
  · simp only [Instr.encode, ha, if_true, List.cons_append, List.nil_append, Op.ofCode_code]
    have h1 : j.arg % 256 < 256 := Nat.mod_lt _ (by omega)
    have h2 : j.arg / 256 % 256 < 256 := Nat.mod_lt _ (by omega)
    simp only [h1, h2, and_self, if_true, Option.some.injEq, Instr.mk.injEq, true_and]
    omega
  · have ha' : j.op.hasArg = false := by simpa using ha
    simp [Instr.encode, ha', Op.ofCode_code]

theorem hasArg_of_jump {op : Op} (h : op.argClass = .jumpFwd ∨ op.argClass = .jumpBack) : op.hasArg = true :=
  (hasArg_iff_argClass op).2 (by rcases h with h | h <;> rw [h] <;> decide)

/-- `patchJump`: the operand is `|body|`, what `len(bytecode) - 2 - placeholder` computes -/
theorem patchJump_exact (pre body post : List Instr) (j : Instr) (hj : j.op.argClass = .jumpFwd)
    (hk : j.arg = codeSize body) (hfit : codeSize body < 65536) :
    ∃ j', decodeAt (encodeAll (pre ++ j :: (body ++ post))) (codeSize pre) = some j' ∧ j'.op = j.op ∧
      codeSize pre + j'.size + j'.arg = codeSize (pre ++ j :: body) := by
  have ha := hasArg_of_jump (Or.inl hj)
  refine ⟨_, decodeAt_encode pre j (body ++ post), rfl, ?_⟩
  simp only [ha, if_true, Instr.size, codeSize_append, codeSize_cons, hk]
  have : codeSize body % 65536 = codeSize body := Nat.mod_eq_of_lt hfit
  omega

/-- `calcBackwardJump`: the operand is `|loop| + 3` -/
theorem calcBackwardJump_exact (pre loop post : List Instr) (j : Instr) (hj : j.op.argClass = .jumpBack)
    (hk : j.arg = codeSize loop + 3) (hfit : codeSize loop + 3 < 65536) :
    ∃ j', decodeAt (encodeAll (pre ++ loop ++ j :: post)) (codeSize (pre ++ loop)) = some j' ∧ j'.op = j.op ∧
      codeSize (pre ++ loop) + j'.size - j'.arg = codeSize pre := by
  have ha := hasArg_of_jump (Or.inr hj)
  refine ⟨_, decodeAt_encode (pre ++ loop) j post, rfl, ?_⟩
  simp only [ha, if_true, Instr.size, codeSize_append, hk]
  have : (codeSize loop + 3) % 65536 = codeSize loop + 3 := Nat.mod_eq_of_lt hfit
  omega

theorem patchJump_truncates (pre body post : List Instr) (j : Instr) (hj : j.op.argClass = .jumpFwd)
    (hk : j.arg = codeSize body) (hbig : 65536 ≤ codeSize body) :
    ∃ j', decodeAt (encodeAll (pre ++ j :: (body ++ post))) (codeSize pre) = some j' ∧
      j'.arg = codeSize body % 65536 ∧ codeSize pre + j'.size + j'.arg < codeSize (pre ++ j :: body) := by
  have ha := hasArg_of_jump (Or.inl hj)
  refine ⟨_, decodeAt_encode pre j (body ++ post), by simp [ha, hk], ?_⟩
  simp only [ha, if_true, Instr.size, codeSize_append, codeSize_cons, hk]
  have : codeSize body % 65536 < 65536 := Nat.mod_lt _ (by omega)
  omega

theorem jumpIfFalse_65540 (body post : List Instr) (hb : codeSize body = 65540) :
    decodeAt (encodeAll (⟨.jumpIfFalse, codeSize body⟩ :: (body ++ post))) 0 = some ⟨.jumpIfFalse, 4⟩ ∧
    0 + 3 + 4 ≠ codeSize ((⟨.jumpIfFalse, codeSize body⟩ : Instr) :: body) := by
  rw [hb]
  exact ⟨decodeAt_encode [] ⟨.jumpIfFalse, 65540⟩ (body ++ post), by rw [codeSize_cons, hb]; decide⟩

theorem codeSize_replicate_pop (n : Nat) : codeSize (List.replicate n ⟨.pop, 0⟩) = n := by
  induction n with
  | zero => rfl
  | succ k ih => simp [List.replicate_succ, ih, Instr.size, Op.hasArg]; omega

end ExprModel.Bc
