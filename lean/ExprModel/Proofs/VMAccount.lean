import ExprModel.Proofs.VMStep
import ExprModel.Proofs.LoopSteps
/-
C06, the accounting of the byte-level VM in every environment.  `step_acct` reads `step_done` with a failure set that
says nothing of the class, so that nothing is asked of the environment's functions; `step_sat` says in addition that a
budget failure is a `Refusal`, which is false of a world whose functions report `budget` themselves (`WorldNB`).  From
`step_acct`: the run invariant `C06.Inv` is kept by every successful step, and what it gives at each exit of `loop`.
-/
namespace ExprModel.C06

structure Inv (c : Cfg) (s : VM) : Prop where
  eq : s.memory = (s.created : Int)
  limit : s.limit = c.budget
  /-- a disjunction because `memory < limit` fails of the fresh state under a budget ≤ 0: see `StepOk.below` -/
  below : s.created = 0 ∨ s.memory < s.limit

end ExprModel.C06

namespace ExprModel.Acct
open ExprModel.C06 (Inv)
open ExprModel.Refine (Steps)

variable {c : Cfg} {p : Prog}

theorem step_acct (c : Cfg) (hr : c.defects.rangeSizeSigned = false) (p : Prog) (s : VM) :
    Sat (step c p s) (StepOk p s)
      (fun _ s' => s'.limit = s.limit ∧ s'.memory - s.memory = (s'.created : Int) - (s.created : Int)) := by
  have H : Reports c p s
      (fun _ s' => s'.limit = s.limit ∧ s'.memory - s.memory = (s'.created : Int) - (s.created : Int)) :=
    ⟨fun h _ => ⟨h.frame.limit, by rw [h.frame.memory, h.frame.created]; omega⟩,
     fun h _ => ⟨h.frame.limit, by rw [h.frame.memory, h.frame.created]; omega⟩,
     fun _ hl hR => have r := StepErr.ofRefusal (e := .budget) hl (hR hr); ⟨r.limit, r.delta⟩⟩
  exact (step_done H).mono (fun _ ⟨_, _, h⟩ => h.acct hr) (fun _ _ he => he)

theorem needs_ge_fails_step (hr : c.defects.rangeSizeSigned = false) {s : VM} {k : Nat}
    (hp : pending p s = some k) (hge : s.memory + k ≥ s.limit) : ∀ s', step c p s ≠ .ok s' := by
  intro s' h
  have hs := (step_acct c hr p s).ok h
  obtain ⟨hc, hlt⟩ := hs.alloc k hp
  have := hs.delta
  have := hs.limit
  omega

theorem inv_step (hr : c.defects.rangeSizeSigned = false) {s s' : VM} (hi : Inv c s) (h : step c p s = .ok s') :
    Inv c s' := by
  have hs := (step_acct c hr p s).ok h
  refine ⟨?_, by rw [hs.limit, hi.limit], ?_⟩
  · have := hs.delta; have := hi.eq; omega
  · rcases hs.below with hc | hlt
    · rcases hi.below with h0 | hl
      · left; rw [hc, h0]
      · right
        have hd := hs.delta; have hl' := hs.limit
        rw [hc] at hd
        omega
    · exact .inr hlt

theorem loop_acct (hr : c.defects.rangeSizeSigned = false) (fuel : Nat) (s : VM) (hi : Inv c s) :
    (loop c p fuel s).2.memory = ((loop c p fuel s).2.created : Int) ∧ (loop c p fuel s).2.limit = c.budget ∧
    ∀ v, (loop c p fuel s).1 = .ok v →
      (loop c p fuel s).2.created = 0 ∨ ((loop c p fuel s).2.created : Int) < c.budget := by
  have key : ∀ s, Inv c s → s.created = 0 ∨ (s.created : Int) < c.budget := by
    intro s hi
    rcases hi.below with h | h
    · exact .inl h
    · right; rw [← hi.eq, ← hi.limit]; exact h
  refine loop_induct c p (Inv c)
    (fun r s => s.memory = (s.created : Int) ∧ s.limit = c.budget ∧
      ∀ v, r = .ok v → s.created = 0 ∨ (s.created : Int) < c.budget)
    (fun s hi => ⟨hi.eq, hi.limit, nofun⟩) (fun s s' hi _ h => inv_step hr hi h) ?_
    (fun s v rest hi _ => ⟨hi.eq, hi.limit, fun _ _ => key s hi⟩)
    (fun s hi => ⟨hi.eq, hi.limit, fun _ _ => key s hi⟩) fuel s hi
  intro s e s' hi _ h
  have hs := (step_acct c hr p s).err h
  exact ⟨by have := hs.2; have := hi.eq; omega, by rw [hs.1, hi.limit], nofun⟩

theorem needs_ge_fails (hr : c.defects.rangeSizeSigned = false) {s t : VM} {k : Nat} (hi : Inv c s)
    (hreach : Steps c p s t) (hp : pending p t = some k) (hge : (t.created : Int) + k ≥ c.budget) :
    ∀ fuel v, (loop c p fuel s).1 ≠ .ok v := by
  have ht := steps_inv (fun _ _ hi _ hst => inv_step hr hi hst) hreach hi
  exact steps_not_ok hreach (pending_in_range hp)
    (needs_ge_fails_step hr hp (by have := ht.eq; have := ht.limit; omega))

end ExprModel.Acct
