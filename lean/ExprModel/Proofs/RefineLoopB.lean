import ExprModel.Proofs.RefineLoop
/-
C01, the seven loop builtins in four instances of `SimC.loop`: `SimC.quant` for the quantifiers `all`, `none`, `any`
(early exit to the builtin's `OpEnd`), `SimC.counting` for `count` and `one` (scope variable `count`), `SimC.filter`
(kept elements on the stack, counted in the scope) and `SimC.bmap` (one result per element on the stack; both end in
`OpArray`).
-/
namespace ExprModel.Refine
open ExprModel
open ExprModel.Spec
open ExprModel.Spec.SML

variable {c : Cfg} {P : LProg} {ctx : Ctx}

/-- `all` (`jt = false`) and `any` (`jt = true`): the closure's value `jt` is the result, with it on the stack the
    jump leaves for the builtin's `OpEnd`; otherwise it is popped.  `o = 9` is the compiler's `lsize rest`: from the
    byte after the jump's operand over the element's `pop` (1), the loop's tail `inc; jumpBackward; pop` (7, the `+ 7`
    of `hepi`) and the epilogue's `true_`/`false_` (1) to `end_`; a variable, so that the compiler's term matches -/
theorem post_quant {jt : Bool} {g : Bool → SM (Unit ⊕ Val)} (hj : g jt = pure (.inr (.bool jt)))
    (hf : g (!jt) = pure (.inl ())) {l : Loc} {o : Nat} (ho : o = 9) {e : Op} (he : e.hasArg = false) {coll : Val}
    {N kp i : Nat} {st : List Val} {scs : List Scope} {x : Val} {σ : SState} {sc : Scope}
    (hc : CodeAt P kp [li l (if jt then .jumpIfTrue else .jumpIfFalse) o, li l .pop])
    (hepi : CodeAt P (kp + lsize [li l (if jt then .jumpIfTrue else .jumpIfFalse) o, li l .pop] + 7) [li l e, li l .end_])
    (hbase : LoopVars sc coll N i) (hB : BAt P.blame (raisedAt l (asBool x >>= g)) σ) :
    LoopPost c P (fun _ => []) (fun _ _ _ => True) coll N i (i + 1)
      (kp + lsize [li l (if jt then .jumpIfTrue else .jumpIfFalse) o, li l .pop])
      (kp + lsize [li l (if jt then .jumpIfTrue else .jumpIfFalse) o, li l .pop] + 7 + lsize [li l e, li l .end_]) st scs
      (vm kp (x :: st) (sc :: scs) σ c.budget) (raisedAt l (asBool x >>= g) σ) := by
  subst ho
  have hsz : lsize [li l (if jt then .jumpIfTrue else .jumpIfFalse) 9, li l .pop] = 4 := by cases jt <;> rfl
  have hsze : lsize [li l e, li l .end_] = 2 := by simp only [lsize_cons, size_li, he]; rfl
  rw [hsz] at hepi ⊢
  rw [hsze]
  rw [raisedAt_bind] at hB ⊢
  refine LoopPost.goal.branch hc hB (fun _ => ?_) (fun _ => ?_)
  · rw [hj]
    exact Runs.end_ (Q := .ok _) ((hepi.tail1 he).cast (by omega)) ((Reach.refl _).to_ip (by omega))
  · rw [hf]
    have hp : CodeAt P (kp + 3) [li l .pop] := by cases jt <;> exact hc.tail3
    exact Exists.intro sc ⟨hbase, trivial, Runs.pop (Q := .ok _) hp (Reach.refl _)⟩

theorem pro_begin {l : Loc} {E : Scope → Prop} (hE : E []) (k : Nat) (st : List Val) (scs : List Scope) (σ : SState)
    (coll : Val) (h : CodeAt P k [li l .begin_]) :
    ∃ sc0 : Scope, E sc0 ∧ Reach c P (vm k (coll :: st) scs σ c.budget)
      (vm (k + lsize [li l .begin_]) (coll :: st) (sc0 :: scs) σ c.budget) :=
  ⟨[], hE, Runs.begin_ (Q := .ok _) h (Reach.refl _)⟩

theorem epi_const {l : Loc} {bv : Bool} (k : Nat) (st : List Val) (scs : List Scope) (σ : SState) (sc' : Scope)
    (h : CodeAt P k [li l (if bv then .true_ else .false_), li l .end_]) :
    Runs c P (vm k st (sc' :: scs) σ c.budget)
      (.ok (vm (k + lsize [li l (if bv then .true_ else .false_), li l .end_]) (.bool bv :: st) scs σ c.budget)) := by
  cases bv
  · exact Runs.false_ h (Runs.end_ h.tail1 (Reach.refl _))
  · exact Runs.true_ h (Runs.end_ h.tail1 (Reach.refl _))

/-- `all` (`jt = false`, `bv = true`), `any` (`jt = true`, `bv = false`) and `none` (as `all`, with `neg`: the closure's
    value is negated first).  `g` is the builtin's rule on the closure's boolean: on `jt` (after the negation) the loop
    is left with result `jt` (`hj`), otherwise it goes on (`hf`); `bv` is the result when no element leaves it.  For
    `o` see `post_quant`. -/
theorem SimC.quant {jt bv neg : Bool} {g : Bool → SM (Unit ⊕ Val)} (hj : g (jt != neg) = pure (.inr (.bool jt)))
    (hf : g (!(jt != neg)) = pure (.inl ())) {l : Loc} {a b : Node} {ca cb : List LInstr} {ci cs car c0 o : Nat}
    (ho : o = 9) (ha : SimC c P ctx [] one (evalLoc (specOf c) ctx a) ca)
    (hb : ∀ ctx', SimC c P ctx' [] one (evalLoc (specOf c) ctx' b) cb) (hsmall : SmallColl c a)
    (hK : LoopK P.consts ci cs car c0) :
    SimC c P ctx [] one
      (loopL (specOf c) ctx a b l (fun _ _ _ x => raisedAt l (asBool x >>= g)) ()
        (fun _ r => match r with
          | .inl _ => pure (.bool bv)
          | .inr v => pure v))
      (ca ++ [li l .begin_] ++ emitLoop l ci cs car c0
        (cb ++ ((if neg then [li l .not_] else []) ++ [li l (if jt then .jumpIfTrue else .jumpIfFalse) o, li l .pop])) ++
        [li l (if bv then .true_ else .false_), li l .end_]) := by
  refine SimC.loop l _ _ () (fun _ => []) (fun _ _ _ => True) ha hb hsmall hK rfl (fun _ _ => rfl)
    (fun _ _ _ _ _ _ _ => trivial) (pro_begin trivial) ?_
    (fun coll N k st scs σ sc' accF h _ _ _ => epi_const k st scs σ sc' h)
  intro coll N kp st scs i acc x σ sc hc he _ _ hbase _ hB
  have hend : (if bv then Op.true_ else Op.false_).hasArg = false := by cases bv <;> rfl
  cases neg
  · exact post_quant (by cases jt <;> exact hj) (by cases jt <;> exact hf) ho hend hc he hbase hB
  have hc' : CodeAt P kp (li l .not_ :: [li l (if jt then .jumpIfTrue else .jumpIfFalse) o, li l .pop]) := hc
  rw [show kp + lsize ((if true then [li l .not_] else []) ++ [li l (if jt then .jumpIfTrue else .jumpIfFalse) o, li l .pop]) =
    kp + 1 + lsize [li l (if jt then .jumpIfTrue else .jumpIfFalse) o, li l .pop] by cases jt <;> ip_arith] at he ⊢
  by_cases hx : ∃ t, x = .bool t
  · obtain ⟨t, rfl⟩ := hx
    have hnot : Reach c P (vm kp (.bool t :: ([] ++ st)) (sc :: scs) σ c.budget)
        (vm (kp + 1) (.bool (!t) :: ([] ++ st)) (sc :: scs) σ c.budget) := Runs.not_ (v := .bool t) hc' (RBlame.ok _)
    refine LoopPost.goal.after hnot ?_
    have := post_quant (c := c) (jt := jt) (st := st) (scs := scs) (x := .bool (!t)) (σ := σ) (g := fun y => g (!y))
      (by cases jt <;> exact hj) (by cases jt <;> exact hf) ho hend hc'.tail1 he hbase
    cases t <;> exact this hB
  · have hnb : ∀ t, x ≠ .bool t := fun t h => hx ⟨t, h⟩
    have he : raisedAt l (asBool x >>= g) σ = (.error (.type_, l), σ) := by rw [asBool_other hnb]; rfl
    have hnv : notV x = .error .type_ := by cases x <;> first | rfl | exact absurd rfl (hnb _)
    have := Runs.not_ (c := c) (st := [] ++ st) (scs := sc :: scs) (σ := σ) (lim := c.budget) (v := x) hc'
      (by rw [hnv]; exact RBlame.err (hB _ _ _ he))
    rw [hnv] at this
    rw [he]
    exact this

/-- `k ≤ j`, with `j < N < 2^63` at the uses: `OpInc` on `count` does not wrap (`wrap_int_id`) -/
def CountIs (sc : Scope) (j : Nat) (k : Int) : Prop :=
  lookupKv "count" sc = some (.int .int k) ∧ 0 ≤ k ∧ k ≤ j

theorem LoopVars.set_count {sc coll N i} (h : LoopVars sc coll N i) (v : Val) : LoopVars (scopeSet "count" v sc) coll N i :=
  ⟨by rw [lookup_set_other (by decide)]; exact h.array, by rw [lookup_set_other (by decide)]; exact h.size,
   by rw [lookup_set_other (by decide)]; exact h.idx⟩

theorem CountIs.set {sc : Scope} {j : Nat} {k : Int} {key : String} {v : Val} (hk : key = "i" ∨ key = "size" ∨ key = "array")
    (h : CountIs sc j k) : CountIs (scopeSet key v sc) j k :=
  ⟨(lookup_set_other (by rcases hk with rfl | rfl | rfl <;> decide) v sc).trans h.1, h.2⟩

theorem CountIs.skip {sc : Scope} {j : Nat} {k : Int} (h : CountIs sc j k) : CountIs sc (j + 1) k :=
  ⟨h.1, h.2.1, by have := h.2.2; omega⟩

theorem CountIs.inc {sc : Scope} {j : Nat} {k : Int} (h : CountIs sc j k) :
    CountIs (scopeSet "count" (.int .int (k + 1)) sc) (j + 1) (k + 1) :=
  ⟨lookup_set_same _ _ _, by have := h.2.1; omega, by have := h.2.2; omega⟩

theorem pro_count {l : Loc} {c0 cc : Nat} (h0 : P.consts[c0]? = some (.int .int 0)) (hcc : P.consts[cc]? = some (.str "count"))
    (k : Nat) (st : List Val) (scs : List Scope) (σ : SState) (coll : Val)
    (h : CodeAt P k [li l .begin_, li l .push c0, li l .store cc]) :
    ∃ sc0 : Scope, CountIs sc0 0 0 ∧ Reach c P (vm k (coll :: st) scs σ c.budget)
      (vm (k + lsize [li l .begin_, li l .push c0, li l .store cc]) (coll :: st) (sc0 :: scs) σ c.budget) :=
  ⟨scopeSet "count" (.int .int 0) [], ⟨lookup_set_same _ _ _, Int.le_refl _, Int.le_refl _⟩,
    Runs.begin_ (Q := .ok _) h (Runs.push h.tail1 h0 (Runs.store h.tail1.tail3 hcc (Reach.refl _)))⟩

theorem post_count {l : Loc} {cc : Nat} (hcc : P.consts[cc]? = some (.str "count")) {coll : Val} {N kp i : Nat}
    {st : List Val} {scs : List Scope} {acc : Int} {x : Val} {σ : SState} {sc : Scope} {kexit : Nat}
    (hc : CodeAt P kp (emitCond l [li l .inc cc])) (hiN : i < N) (hN : (N : Int) < 2 ^ 63) (hbase : LoopVars sc coll N i)
    (hex : CountIs sc i acc) (hB : BAt P.blame (postCount l coll i acc x) σ) :
    LoopPost c P (fun _ => []) CountIs coll N i (i + 1) (kp + lsize (emitCond l [li l .inc cc]))
      kexit st scs (vm kp (x :: st) (sc :: scs) σ c.budget)
      (postCount l coll i acc x σ) := by
  have hj : CodeAt P kp [li l .jumpIfFalse (1 + lsize [li l .inc cc] + 3), li l .pop, li l .inc cc, li l .jump 1, li l .pop] := hc
  unfold postCount at hB ⊢
  rw [raisedAt_bind] at hB ⊢
  refine LoopPost.goal.branch (jt := false) hj hB (fun _ => ?_) (fun _ => ?_)
  · refine Exists.intro sc ⟨hbase, hex.skip, ?_⟩
    exact Runs.pop (Q := .ok _) (hj.tail3.tail1.tail3.tail3.cast (by ip_arith)) ((Reach.refl _).to_ip (by ip_arith))
  · refine Exists.intro (scopeSet "count" (.int .int (acc + 1)) sc) ⟨hbase.set_count _, hex.inc, ?_⟩
    refine Runs.pop (Q := .ok _) hj.tail3 (Runs.inc hj.tail3.tail1 hcc hex.1 ?_)
    rw [wrap_int_id (by have := hex.2.1; omega) (by have := hex.2.2; omega)]
    exact Runs.jump hj.tail3.tail1.tail3 ((Reach.refl _).to_ip (by ip_arith))

theorem SimC.counting {l : Loc} {a b : Node} {ca cb EPI : List LInstr} {ci cs car c0 cc : Nat} {fin : Int → Int ⊕ Val → SM Val}
    (hfin : ∀ n v, fin n (.inr v) = pure v)
    (ha : SimC c P ctx [] one (evalLoc (specOf c) ctx a) ca)
    (hb : ∀ ctx', SimC c P ctx' [] one (evalLoc (specOf c) ctx' b) cb) (hsmall : SmallColl c a)
    (hK : LoopK P.consts ci cs car c0) (hcc : P.consts[cc]? = some (.str "count"))
    (Hepi : ∀ (N : Nat) (k : Nat) (st : List Val) (scs : List Scope) (σ : SState) (sc' : Scope) (accF : Int),
      CodeAt P k EPI → lookupKv "count" sc' = some (.int .int accF) →
      Runs c P (vm k st (sc' :: scs) σ c.budget)
        (outcome (fin N (.inl accF) σ).1 (k + lsize EPI) st scs (fin N (.inl accF) σ).2 c.budget)) :
    SimC c P ctx [] one (loopL (specOf c) ctx a b l (postCount l) (0 : Int) fin)
      (ca ++ [li l .begin_, li l .push c0, li l .store cc] ++ emitLoop l ci cs car c0 (cb ++ emitCond l [li l .inc cc]) ++ EPI) := by
  refine SimC.loop l _ _ (0 : Int) (fun _ => []) CountIs ha hb hsmall hK rfl hfin
    (fun sc j acc k v hk h => h.set hk) (pro_count hK.zero hcc)
    (fun coll N kp st scs i acc x σ sc hc _ hiN hN hbase hex hB => post_count hcc hc hiN hN hbase hex hB)
    (fun coll N k st scs σ sc' accF h _ hex _ => Hepi N k st scs σ sc' accF h hex.1)

/-- the epilogue of `filter` and `map`; `t` is the builtin's final allocation -/
theorem array_epi {l : Loc} {kk : Nat} {key : String} {t : SM Val} (hk : P.consts[kk]? = some (.str key))
    (k : Nat) (st : List Val) (scs : List Scope) (σ : SState) (sc' : Scope) (acc : List Val)
    (ht : t σ = (if (allocd σ acc.length acc.length).memory ≥ c.budget then .error .budget
      else .ok (.arr .iface acc.reverse), allocd σ acc.length acc.length))
    (h : CodeAt P k [li l .load kk, li l .end_, li l .array]) (hlook : lookupKv key sc' = some (.int .int acc.length))
    (hbr : RBlame P l (t σ).1) :
    Runs c P (vm k (acc ++ st) (sc' :: scs) σ c.budget)
      (outcome (t σ).1 (k + lsize [li l .load kk, li l .end_, li l .array]) st scs (t σ).2 c.budget) := by
  rw [ht] at hbr ⊢
  refine Runs.load h hk ?_
  rw [hlook]
  refine Runs.end_ h.tail3 ?_
  have := Runs.array (c := c) (st := st) (scs := scs) (σ := σ) (lim := c.budget) (vs := acc.reverse) h.tail3.tail1
    (by simpa only [List.length_reverse] using hbr)
  simp only [List.length_reverse, List.reverse_reverse] at this
  exact this

theorem SimC.bmap {m : Meta} {a b : Node} {ca cb : List LInstr} {ci cs car c0 : Nat}
    (ha : SimC c P ctx [] one (evalLoc (specOf c) ctx a) ca)
    (hb : ∀ ctx', SimC c P ctx' [] one (evalLoc (specOf c) ctx' b) cb) (hsmall : SmallColl c a)
    (hK : LoopK P.consts ci cs car c0) :
    SimC c P ctx [] one (evalLoc (specOf c) ctx (.builtin m "map" [a, b]))
      (ca ++ [li m.loc .begin_] ++ emitLoop m.loc ci cs car c0 cb ++ [li m.loc .load cs, li m.loc .end_, li m.loc .array]) := by
  rw [evalLoc_bmap, ← List.append_nil cb]
  refine SimC.loop m.loc _ _ ([] : List Val) (fun acc => acc) (fun _ j acc => acc.length = j) ha hb hsmall hK rfl
    (fun _ _ => rfl) (fun _ _ _ _ _ _ h => h) (pro_begin (E := fun _ => ([] : List Val).length = 0) rfl)
    (fun coll N kp st scs i acc x σ sc hc _ _ _ hbase hex _ =>
      Exists.intro sc ⟨hbase, congrArg (· + 1) hex, Reach.refl _⟩)
    (fun coll N k st scs σ sc' accF h hbase hex hbr => ?_)
  subst hex
  exact array_epi hK.size k st scs σ sc' accF (alloc_tail _ _ _ σ) h hbase.size hbr

theorem SimC.filter {m : Meta} {a b : Node} {ca cb : List LInstr} {ci cs car c0 cc : Nat}
    (ha : SimC c P ctx [] one (evalLoc (specOf c) ctx a) ca)
    (hb : ∀ ctx', SimC c P ctx' [] one (evalLoc (specOf c) ctx' b) cb) (hsmall : SmallColl c a)
    (hK : LoopK P.consts ci cs car c0) (hcc : P.consts[cc]? = some (.str "count")) :
    SimC c P ctx [] one (evalLoc (specOf c) ctx (.builtin m "filter" [a, b]))
      (ca ++ [li m.loc .begin_, li m.loc .push c0, li m.loc .store cc] ++
        emitLoop m.loc ci cs car c0
          (cb ++ emitCond m.loc [li m.loc .inc cc, li m.loc .load car, li m.loc .load ci, li m.loc .index]) ++
        [li m.loc .load cc, li m.loc .end_, li m.loc .array]) := by
  rw [evalLoc_filter]
  generalize m.loc = l
  refine SimC.loop l _ _ ([] : List Val) (fun acc => acc) (fun sc j acc => CountIs sc j acc.length) ha hb hsmall hK rfl
    (fun _ _ => rfl) (fun sc j acc k v hk h => h.set hk) (pro_count hK.zero hcc) ?_
    (fun coll N k st scs σ sc' accF h _ hex hbr => array_epi hcc k st scs σ sc' accF (alloc_tail _ _ _ σ) h hex.1 hbr)
  · intro coll N kp st scs i acc x σ sc hc _ hiN hN hbase hex hB
    have hj : CodeAt P kp [li l .jumpIfFalse (1 + lsize [li l .inc cc, li l .load car, li l .load ci, li l .index] + 3),
      li l .pop, li l .inc cc, li l .load car, li l .load ci, li l .index, li l .jump 1, li l .pop] := hc
    rw [raisedAt_bind] at hB ⊢
    refine LoopPost.goal.branch (jt := false) hj hB (fun _ => ?_) (fun hBt => ?_)
    · refine Exists.intro sc ⟨hbase, hex.skip, ?_⟩
      exact Runs.pop (Q := .ok _) (hj.tail3.tail1.tail3.tail3.tail3.tail1.tail3.cast (by ip_arith))
        ((Reach.refl _).to_ip (by ip_arith))
    · -- kept: count it, fetch the element
      have hx := hj.tail3.tail1
      have hsc' := hbase.set_count (.int .int ((acc.length : Int) + 1))
      have r2 : Runs c P (vm (kp + 3) (.bool true :: (acc ++ st)) (sc :: scs) σ c.budget)
          (outcome (fetchV coll (.int .int (i : Int)) false) (kp + 3 + 1 + 3 + 3 + 3 + 1) (acc ++ st)
            (scopeSet "count" (.int .int ((acc.length : Int) + 1)) sc :: scs) σ c.budget) := by
        refine Runs.pop hj.tail3 (Runs.inc hx hcc hex.1 ?_)
        rw [wrap_int_id (by omega) (by have := hex.2.2; omega)]
        refine Runs.load hx.tail3 hK.array ?_
        rw [hsc'.array]
        refine Runs.load hx.tail3.tail3 hK.i ?_
        rw [hsc'.idx]
        exact Runs.index hx.tail3.tail3.tail3 (RBlame.of_map (g := fun el => Sum.inl (β := Val) (el :: acc))
          (fun e he => hBt.raised (SM.lift_map_apply _ _ σ) e he))
      show LoopPost c P _ _ coll N i (i + 1) _ _ st scs _
        (raisedAt l (SM.lift (fetchV coll (.int .int (i : Int)) false) >>= fun el => pure (.inl (el :: acc))) σ)
      rw [raisedAt_apply, SM.lift_map_apply]
      revert r2
      cases fetchV coll (.int .int (i : Int)) false with
      | error e => exact id
      | ok el =>
        intro r2
        refine Exists.intro _ ⟨hsc', hex.inc, Reach.trans r2 ?_⟩
        exact Runs.jump (Q := .ok _) hx.tail3.tail3.tail3.tail1 ((Reach.refl _).to_ip (by ip_arith))

end ExprModel.Refine
