import ExprModel.Proofs.OptFold
/-
Soundness of in_array.go, const_range.go, const_expr.go, each under the guard that makes it true
(`InArrayOK`, `ConstRangeOK`, `ConstExprOK`); in_range.go is in OptInRange.lean.  `evalIn`: `x in r` and `x not in r`
in one shape (`neg`: the operator is `not in`), on which the in_array and in_range proofs work.
-/
namespace ExprModel
namespace OptProofs
open Spec Opt

variable {c : SCfg}

/-- what the in_array guard asks of the left operand, closure contexts included; `C02.KindSound` gives both at the
    static kind of `l` -/
def DynInt (c : SCfg) (l : Node) : Prop := ∀ ctx s v t, eval c ctx l s = (.ok v, t) → ∃ x, v = .int .int x
def DynStr (c : SCfg) (l : Node) : Prop := ∀ ctx s v t, eval c ctx l s = (.ok v, t) → ∃ x, v = .str x

def IntLitsOK (xs : List Node) : Prop := ∀ x ∈ xs, ∀ m v, x = .int m v → IntLitOK m v

/-- guard of the in_array pass: the static kind `int` of the left operand is also its dynamic kind when the
    integer-set rewrite fires; the left operand is dynamically a string when the string-set rewrite fires -/
def InArrayOK (c : SCfg) (fl : Flags) : Node → Prop
  | .binary _ _ l (.array _ xs) =>
    (l.kd = .num .int → allInts xs ≠ none → DynInt c l ∧ IntLitsOK xs) ∧
    (allStrs xs ≠ none → (fl.inArrayStrGuard = true → l.kd = .string) → DynStr c l)
  | _ => True

theorem IntLitsOK.head {m : Meta} {v : Int} {rest : List Node} (h : IntLitsOK (.int m v :: rest)) : IntLitOK m v :=
  h _ List.mem_cons_self m v rfl

theorem IntLitsOK.tail {x : Node} {rest : List Node} (h : IntLitsOK (x :: rest)) : IntLitsOK rest :=
  fun y hy => h y (List.mem_cons_of_mem _ hy)

theorem allInts_cons {x : Node} {rest : List Node} {vs : List Int} (h : allInts (x :: rest) = some vs) :
    ∃ m v vr, x = .int m v ∧ allInts rest = some vr ∧ vs = v :: vr := by
  cases x <;> simp only [allInts, Option.map_eq_some_iff, reduceCtorEq] at h
  obtain ⟨vr, hr, rfl⟩ := h
  exact ⟨_, _, vr, rfl, hr, rfl⟩

theorem allStrs_cons {x : Node} {rest : List Node} {ss : List String} (h : allStrs (x :: rest) = some ss) :
    ∃ m s sr, x = .str m s ∧ allStrs rest = some sr ∧ ss = s :: sr := by
  cases x <;> simp only [allStrs, Option.map_eq_some_iff, reduceCtorEq] at h
  obtain ⟨sr, hr, rfl⟩ := h
  exact ⟨_, _, sr, rfl, hr, rfl⟩

theorem allInts_length : ∀ {xs : List Node} {vs : List Int}, allInts xs = some vs → vs.length = xs.length
  | [], _, h => by cases h; rfl
  | _ :: _, _, h => by
    obtain ⟨_, _, vr, rfl, hr, rfl⟩ := allInts_cons h
    rw [List.length_cons, List.length_cons, allInts_length hr]

theorem allStrs_length : ∀ {xs : List Node} {ss : List String}, allStrs xs = some ss → ss.length = xs.length
  | [], _, h => by cases h; rfl
  | _ :: _, _, h => by
    obtain ⟨_, _, sr, rfl, hr, rfl⟩ := allStrs_cons h
    rw [List.length_cons, List.length_cons, allStrs_length hr]

theorem evalList_cons_pure {ctx : Ctx} {x : Node} {rest : List Node} {v : Val} {vr : List Val}
    (hp : x.isPair = false) (hx : eval c ctx x = pure v) (hr : evalList c ctx rest = pure vr) :
    evalList c ctx (x :: rest) = pure (v :: vr) := by
  rw [Spec.evalList_cons _ _ _ _ hp, hx, hr]
  rfl

theorem evalList_ints (ctx : Ctx) : ∀ (xs : List Node) (vs : List Int), allInts xs = some vs → IntLitsOK xs →
    evalList c ctx xs = pure (vs.map (Val.int .int))
  | [], _, h, _ => by cases h; rfl
  | _ :: rest, _, h, hok => by
    obtain ⟨m, v, vr, rfl, hr, rfl⟩ := allInts_cons h
    exact evalList_cons_pure rfl (eval_int_plain ctx m hok.head.1 hok.head.2) (evalList_ints ctx rest vr hr hok.tail)

theorem evalList_strs (ctx : Ctx) : ∀ (xs : List Node) (ss : List String), allStrs xs = some ss →
    evalList c ctx xs = pure (ss.map Val.str)
  | [], _, h => by cases h; rfl
  | _ :: rest, _, h => by
    obtain ⟨m, s, sr, rfl, hr, rfl⟩ := allStrs_cons h
    exact evalList_cons_pure rfl (Spec.eval_str c ctx m s) (evalList_strs ctx rest sr hr)

/-- stated for an abstract `dedup` with its two equations only because the model has two monomorphic copies of it
    (`dedupInts`, `dedupStrs`) -/
theorem any_dedup {α : Type} [BEq α] [LawfulBEq α] (dedup : List α → List α) (hnil : dedup [] = [])
    (hcons : ∀ v vs, dedup (v :: vs) = if vs.contains v then dedup vs else v :: dedup vs)
    (f : α → Val) (x : α) (e1 : ∀ y, Val.deepEq (f y) (f x) = (y == x)) (e2 : ∀ y, equalV (f y) (f x) = (y == x)) :
    ∀ vs : List α, ((dedup vs).map f).any (fun k => Val.deepEq k (f x)) = (vs.map f).any (fun e => equalV e (f x))
  | [] => by rw [hnil]; rfl
  | v :: vs => by
    have ih := any_dedup dedup hnil hcons f x e1 e2 vs
    rw [hcons]
    split
    · rename_i hc
      rw [ih]
      simp only [List.map_cons, List.any_cons, e2]
      by_cases hvx : v = x
      · subst hvx
        have : (vs.map f).any (fun e => equalV e (f v)) = true := by
          simp only [List.any_map, List.any_eq_true, Function.comp]
          exact ⟨v, by simpa using hc, by simp [e2]⟩
        simp [this]
      · simp [hvx]
    · simp only [List.map_cons, List.any_cons, e1, e2, ih]

theorem any_dedupInts (x : Int) (vs : List Int) :
    ((dedupInts vs).map (Val.int .int)).any (fun k => Val.deepEq k (.int .int x)) =
      (vs.map (Val.int .int)).any (fun e => equalV e (.int .int x)) :=
  any_dedup dedupInts rfl (fun _ _ => rfl) (Val.int .int) x (fun y => by simp [Val.deepEq]) (fun _ => rfl) vs

theorem any_dedupStrs (x : String) (vs : List String) :
    ((dedupStrs vs).map Val.str).any (fun k => Val.deepEq k (.str x)) =
      (vs.map Val.str).any (fun e => equalV e (.str x)) :=
  any_dedup dedupStrs rfl (fun _ _ => rfl) Val.str x (fun y => by simp [Val.deepEq]) (fun _ => rfl) vs

def evalIn (c : SCfg) (ctx : Ctx) (neg : Bool) (l r : Node) : SM Val :=
  eval c ctx l >>= fun a => eval c ctx r >>= fun b => SM.lift (inV a b) >>= fun x => pure (.bool (neg != x))

theorem eval_in_evalIn (ctx : Ctx) (m : Meta) (l r : Node) : eval c ctx (.binary m "in" l r) = evalIn c ctx false l r := by
  rw [Spec.eval_in]
  simp only [evalIn, Bool.false_bne]

theorem eval_notin_evalIn (ctx : Ctx) (m : Meta) (l r : Node) : eval c ctx (.binary m "not in" l r) = evalIn c ctx true l r := by
  simp only [eval_strict c ctx m (op := "not in") rfl, Refine.binTail_notin, evalIn, Bool.true_bne]

/-- scanning the array finds what the lookup in `set` finds; the array is also allocated, the set is not -/
theorem inArray_core (ctx : Ctx) (neg : Bool) (l : Node) (ma mc : Meta) (xs : List Node) (set : Val) (vals : List Val)
    (hx : evalList c ctx xs = pure vals)
    (hl : ∀ s a t, eval c ctx l s = (.ok a, t) → inV a set = inV a (.arr .iface vals)) :
    RelM (evalIn c ctx neg l (.const mc set)) (evalIn c ctx neg l (.array ma xs)) := by
  unfold evalIn
  refine RelM.bind_of (eval_mono c l ctx) (fun a hp => ?_)
  obtain ⟨s, t, hst⟩ := hp
  rw [Spec.eval_const, Spec.eval_array, hx]
  simp only [SM.pure_bind, SM.bind_assoc]
  refine RelM.skip_allocAfter _ _ _ (by simp) ?_
  rw [hl s a t hst]
  exact (RelM.lift _).bind fun _ => RelM.pure _

theorem inArray_int_core (ctx : Ctx) (neg : Bool) (l : Node) (ma mc : Meta) (xs : List Node) (vs : List Int)
    (hd : DynInt c l) (hx : allInts xs = some vs) (hok : IntLitsOK xs) :
    RelM (evalIn c ctx neg l (.const mc (intSet vs))) (evalIn c ctx neg l (.array ma xs)) :=
  inArray_core ctx neg l ma mc xs _ _ (evalList_ints ctx xs vs hx hok) fun s a t hst => by
    obtain ⟨x, rfl⟩ := hd ctx s a t hst
    simp only [inV, intSet, elemTMatches, Val.isNilLike, any_dedupInts]
    simp

theorem inArray_str_core (ctx : Ctx) (neg : Bool) (l : Node) (ma mc : Meta) (xs : List Node) (ss : List String)
    (hd : DynStr c l) (hx : allStrs xs = some ss) :
    RelM (evalIn c ctx neg l (.const mc (strSet ss))) (evalIn c ctx neg l (.array ma xs)) :=
  inArray_core ctx neg l ma mc xs _ _ (evalList_strs ctx xs ss hx) fun s a t hst => by
    obtain ⟨x, rfl⟩ := hd ctx s a t hst
    simp only [inV, strSet, elemTMatches, Val.isNilLike, any_dedupStrs]
    simp

theorem inArrayRule_sound (fl : Flags) (N : Node) (hg : InArrayOK c fl N) (st : St) :
    Sim c (inArrayRule fl N st).1 N :=
  (inArrayRule_step fl N st).sim fun n' h => by
    -- a scan of the array replaced by a lookup in a set that finds the same
    have set : ∀ {m op l ma xs} (v : Val), (op = "in" ∨ op = "not in") →
        (∀ ctx neg, RelM (evalIn c ctx neg l (.const {} v)) (evalIn c ctx neg l (.array ma xs))) →
        Sim c (.binary m op l (.const {} v)) (.binary m op l (.array ma xs)) := by
      intro m op l ma xs v hop hv
      refine sim_of_ev rfl rfl rfl rfl (fun h => ?_) (fun ctx => ?_)
      · simp only [reOK, Bool.and_eq_true] at h ⊢
        exact ⟨h.1, trivial⟩
      · rcases hop with rfl | rfl
        · rw [eval_in_evalIn, eval_in_evalIn]
          exact hv ctx false
        · rw [eval_notin_evalIn, eval_notin_evalIn]
          exact hv ctx true
    cases h with
    | ints hop hk hx =>
      obtain ⟨hd, hok⟩ := hg.1 hk (by rw [hx]; exact Option.some_ne_none _)
      exact set _ hop fun ctx neg => inArray_int_core ctx neg _ _ {} _ _ hd hx hok
    | strs hop hk hx =>
      have hd := hg.2 (by rw [hx]; exact Option.some_ne_none _) hk
      exact set _ hop fun ctx neg => inArray_str_core ctx neg _ _ {} _ _ hd hx

/-- guard of the const_range pass: Go `int` bounds; as long as the code computes the size before it compares
    the bounds (`constRangeNoOverflow = false`) the distance must not overflow; with the code's signed
    accounting of OpRange (C06) only non-descending ranges (a descending range *lowers* the unoptimised counter) -/
def ConstRangeOK (c : SCfg) (fl : Flags) : Node → Prop
  | .binary _ op (.int ma lo) (.int mb hi) =>
    op = ".." → IntLitOK ma lo ∧ IntLitOK mb hi ∧ (fl.constRangeNoOverflow = false → inRange .int (hi - lo + 1)) ∧
      (c.rangeSizeSigned = true → lo ≤ hi + 1)
  | _ => True

theorem eval_range_lits (ctx : Ctx) (m ma mb : Meta) (lo hi : Int) (ha : IntLitOK ma lo) (hb : IntLitOK mb hi) :
    eval c ctx (.binary m ".." (.int ma lo) (.int mb hi)) =
      (SM.allocBefore c.budget (rangeCharge c lo hi) (rangeElems lo hi).length >>= fun _ =>
        pure (.arr (.num .int) (rangeElems lo hi))) := by
  rw [Spec.eval_range, eval_int_plain ctx ma ha.1 ha.2, eval_int_plain ctx mb hb.1 hb.2]
  simp only [SM.pure_bind, toIntR_int' _ ha.2, toIntR_int' _ hb.2, SM.lift_ok, rangeCharge]

theorem rangeVals_eq (lo hi : Int) (hlo : inRange .int lo) (hhi : inRange .int hi) (h : lo ≤ hi) :
    rangeVals lo (hi - lo + 1).toNat = rangeElems lo hi := by
  simp only [rangeVals, rangeElems, show ¬ hi < lo from by omega, if_false]
  apply List.map_congr_left
  intro i hi'
  have hi'' : i < (hi - lo + 1).toNat := by simpa using hi'
  have : inRange .int (lo + (i : Int)) := by
    simp only [inRange, Kind.isSigned, Kind.bits, if_true] at hlo hhi ⊢
    omega
  rw [Spec.wrap_of_inRange _ _ this]

theorem rangeCharge_nonneg {lo hi : Int} (h : c.rangeSizeSigned = true → lo ≤ hi + 1) : 0 ≤ rangeCharge c lo hi := by
  unfold rangeCharge
  split
  · rename_i hs
    have := h hs
    omega
  · split <;> omega

theorem constRangeRule_sound (fl : Flags) (N : Node) (hg : ConstRangeOK c fl N) (st : St) :
    Sim c (constRangeRule fl N st).1 N :=
  (constRangeRule_step fl N st).sim fun n' h => by
    -- the constant holds the elements of the range; the range allocates them, the constant does not
    have const : ∀ {m ma mb lo hi} (vals : List Val), ConstRangeOK c fl (.binary m ".." (.int ma lo) (.int mb hi)) →
        vals = rangeElems lo hi → Sim c (.const m (.arr (.num .int) vals)) (.binary m ".." (.int ma lo) (.int mb hi)) := by
      intro m ma mb lo hi vals hg hv
      obtain ⟨ha, hb, _, hsg⟩ := hg rfl
      refine sim_of_ev rfl rfl rfl rfl (fun _ => rfl) (fun ctx => ?_)
      rw [eval_range_lits ctx m ma mb lo hi ha hb, hv]
      exact RelM.skip_allocBefore _ _ _ (rangeCharge_nonneg hsg) (RelM.pure _)
    cases h with
    | @empty m ma lo mb hi h1 h2 =>
      obtain ⟨_, _, hsz, _⟩ := hg rfl
      have hlt : hi < lo := by
        cases hf : fl.constRangeNoOverflow
        · have := h2 hf
          rw [Spec.wrap_of_inRange _ _ (hsz hf)] at this
          omega
        · exact h1 hf
      exact const [] hg (by simp only [rangeElems, hlt, if_true])
    | @full m ma lo mb hi h1 h2 =>
      obtain ⟨ha, hb, hsz, _⟩ := hg rfl
      have hlo := ha.2
      have hhi := hb.2
      simp only [inRange, Kind.isSigned, Kind.bits, if_true] at hlo hhi
      -- a wrapped size of at least 1 between bounds in order is the true size
      have hw : wrap .int (hi - lo + 1) = hi - lo + 1 := by
        cases hf : fl.constRangeNoOverflow
        · exact Spec.wrap_of_inRange _ _ (hsz hf)
        · have := h1 hf
          simp only [wrap, Kind.isSigned, Kind.bits, if_true] at h2 ⊢
          omega
      rw [hw] at h2 ⊢
      exact const _ hg (rangeVals_eq lo hi ha.2 hb.2 (by omega))

/-- guard of the const_expr pass: the literal arguments evaluate to the values the optimizer passes
    (`constArg_eval` gives the syntactic reason), and the registered function is the environment's -/
def ConstExprOK (c : SCfg) (fl : Flags) (fns : ConstFns) : Node → Prop
  | .func _ name args _ => ∀ id vs, fns.lookup name = some id → constArgs fl args = some vs →
      (∀ ctx, evalList c ctx args = pure vs) ∧ callMember c.world c.env name vs = c.world.call id vs
  | _ => True

theorem constArgs_cons {fl : Flags} {a : Node} {rest : List Node} {vs : List Val} (h : constArgs fl (a :: rest) = some vs) :
    ∃ v vr, constArg fl a = some v ∧ constArgs fl rest = some vr ∧ vs = v :: vr := by
  simp only [constArgs] at h
  split at h
  · rename_i v vr hv hr
    cases h
    exact ⟨v, vr, hv, hr, rfl⟩
  · cases h

theorem constArg_eval (fl : Flags) (ctx : Ctx) {a : Node} {v : Val}
    (hk : fl.constExprConvert = true ∨ ∀ m i, a = .int m i → IntLitOK m i) (ha : constArg fl a = some v) :
    eval c ctx a = pure v ∧ a.isPair = false := by
  cases a <;> simp only [constArg, Option.some.injEq, reduceCtorEq] at ha <;> subst ha <;> refine ⟨?_, rfl⟩
  case int m i =>
    rw [eval_int]
    rcases hk with hk | hk
    · rw [if_pos hk]
    · rw [intConst_plain (hk m i rfl).1 (hk m i rfl).2, ite_self]
  all_goals rfl

theorem constExprRule_sound (fl : Flags) (fns : ConstFns) (N : Node) (hg : ConstExprOK c fl fns N) (st : St) :
    Sim c (constExprRule fl fns c.world N st).1 N :=
  (constExprRule_step fl fns c.world N st).sim fun n' h => by
    cases h with
    | call hid hvs hv =>
      obtain ⟨hargs, hcall⟩ := hg _ _ hid hvs
      refine sim_of_ev rfl rfl rfl rfl (fun _ => rfl) (fun ctx => ?_)
      rw [Spec.eval_const, Spec.eval_func, hargs ctx, SM.pure_bind, callTail, hcall, hv]
      simp only [callHappened, if_true]
      -- same result, no allocation on either side; the call made at run time is logged, which `RelM` does not compare
      intro s' s hs
      exact .inr ⟨rfl, hs⟩

end OptProofs
end ExprModel
