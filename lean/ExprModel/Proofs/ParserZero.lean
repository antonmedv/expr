import ExprModel.Syntax.Parser
import ExprModel.Proofs.ParserZeroAttr
/-
Without fuel every parser function answers `.fuel`; what `parseFuel` and `parse` add to `parseExpression`.
(Unfolding the fourteen functions here realises their equation lemmas for every module downstream.)
-/
namespace ExprModel.Parser

variable (cfg : Cfg)

@[parser_zero] theorem parseExpression_zero (d p : Nat) (ts : List Token) : parseExpression cfg 0 d p ts = .fuel := by
  rw [parseExpression]
@[parser_zero] theorem exprLoop_zero (d p : Nat) (l : Node) (ts : List Token) : exprLoop cfg 0 d p l ts = .fuel := by
  rw [exprLoop]
@[parser_zero] theorem parsePrimary_zero (d : Nat) (ts : List Token) : parsePrimary cfg 0 d ts = .fuel := by
  rw [parsePrimary]
@[parser_zero] theorem parseConditional_zero (d : Nat) (n : Node) (ts : List Token) : parseConditional cfg 0 d n ts = .fuel := by
  rw [parseConditional]
@[parser_zero] theorem parsePrimaryExpression_zero (d : Nat) (ts : List Token) : parsePrimaryExpression cfg 0 d ts = .fuel := by
  rw [parsePrimaryExpression]
@[parser_zero] theorem parseIdentifierExpression_zero (d : Nat) (t : Token) (ts : List Token) :
    parseIdentifierExpression cfg 0 d t ts = .fuel := by
  rw [parseIdentifierExpression]
@[parser_zero] theorem parseClosure_zero (d : Nat) (ts : List Token) : parseClosure cfg 0 d ts = .fuel := by
  rw [parseClosure]
@[parser_zero] theorem parseArray_zero (d : Nat) (ts : List Token) : parseArray cfg 0 d ts = .fuel := by
  rw [parseArray]
@[parser_zero] theorem arrayLoop_zero (d : Nat) (first : Bool) (ts : List Token) : arrayLoop cfg 0 d first ts = .fuel := by
  rw [arrayLoop]
@[parser_zero] theorem parseMap_zero (d : Nat) (ts : List Token) : parseMap cfg 0 d ts = .fuel := by
  rw [parseMap]
@[parser_zero] theorem mapLoop_zero (d : Nat) (l : Loc) (first : Bool) (ts : List Token) : mapLoop cfg 0 d l first ts = .fuel := by
  rw [mapLoop]
@[parser_zero] theorem parsePostfix_zero (d : Nat) (n : Node) (ns : Bool) (ts : List Token) : parsePostfix cfg 0 d n ns ts = .fuel := by
  rw [parsePostfix]
@[parser_zero] theorem parseArguments_zero (d : Nat) (ts : List Token) : parseArguments cfg 0 d ts = .fuel := by
  rw [parseArguments]
@[parser_zero] theorem argsLoop_zero (d : Nat) (first : Bool) (ts : List Token) : argsLoop cfg 0 d first ts = .fuel := by
  rw [argsLoop]

theorem parseFuel_eq_ok {f : Nat} {ts : List Token} {t : Node} :
    parseFuel cfg f ts = .ok t ↔
      ∃ rest, parseExpression cfg f 0 0 ts = .ok t rest ∧ ((cur rest).kind == .eof) = true := by
  unfold parseFuel
  cases parseExpression cfg f 0 0 ts with
  | ok n rest =>
    by_cases he : ((cur rest).kind == .eof) = true
    · simp only [he, if_true, Outcome.ok.injEq, Res.ok.injEq]
      exact ⟨fun h => ⟨rest, ⟨h, rfl⟩, he⟩, fun ⟨_, h, _⟩ => h.1⟩
    · simp only [he, Bool.false_eq_true, if_false, Res.ok.injEq]
      exact ⟨fun h => (by cases h), fun ⟨_, h, h'⟩ => absurd (h.2 ▸ h') he⟩
  | err e => exact ⟨fun h => (by cases h), fun ⟨_, h, _⟩ => (by cases h)⟩
  | fuel => exact ⟨fun h => (by cases h), fun ⟨_, h, _⟩ => (by cases h)⟩

theorem parseFuel_of_parse {ts : List Token} {t : Node} (h : parse cfg ts = .ok t) :
    parseFuel cfg (fuelFor ts) ts = .ok t := by
  unfold parse at h
  cases hp : parseFuel cfg (fuelFor ts) ts with
  | ok n => rw [hp] at h; cases h; rfl
  | error e => rw [hp] at h; cases h
  | outOfFuel => rw [hp] at h; cases h

end ExprModel.Parser
