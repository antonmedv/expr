import ExprModel.Proofs.SpecInv
/-
Monotonicity of the reference evaluator in the budget, for every configuration with `rangeSizeSigned = false`:
an evaluation that does not end in the budget error, replayed under any other budget `B'` from the same state, is
literally the same run (result and final state) if its final counter stays below `B'`, and ends in the budget
error otherwise — `eval_replay` of `Proofs/SpecInv`, read for a whole run.
-/
namespace ExprModel
namespace Spec

theorem spec_needs (sc : SCfg) (hr : sc.rangeSizeSigned = false) (cast : Option Nat) (n : Node)
    (B' : Int) (hB : 0 < B') (hnb : (run sc cast n).1 ≠ .error .budget) :
    (((run sc cast n).2.created : Int) < B' → run (withBudget sc B') cast n = run sc cast n) ∧
    (B' ≤ ((run sc cast n).2.created : Int) →
      (run (withBudget sc B') cast n).1 = .error .budget) := by
  rw [← spec_memory_eq_created sc cast n hr, run_state]
  match h : eval sc [] n {} with
  | (r, t) =>
    have hne : r ≠ .error .budget := by
      intro hr'
      subst hr'
      exact hnb (run_error_of_eval_error sc cast n (by rw [h]))
    -- a run starts from the empty state, where `memory = created` and `memory = 0 < B'`
    obtain ⟨h1, h2⟩ := (eval_replay sc hr B' [] n {} r t h).replay rfl hne hB
    refine ⟨fun hlt => ?_, fun hge => ?_⟩
    · rw [run_eq, run_eq, h1 hlt, h]
    · exact run_error_of_eval_error _ cast n (h2 hge)

end Spec
end ExprModel
