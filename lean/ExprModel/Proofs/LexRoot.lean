import ExprModel.Proofs.LexPrim
import ExprModel.Proofs.LexChars
/-
lexer.go `root` is a `switch` on the first rune.  `rootClass` names the case (the tests in their order), `rootBranch` is the
arm, `root_cons` says that `root` is the one applied to the other.  Every fact about one `root` step starts from a class:
the position invariant takes the ten classes in turn (`root_spec_of` in LexLoop, knowing of the rune what `rootClass_holds`
says), a spelling names the class of its first rune — for an ASCII rune under an ASCII-exact classification that is an
evaluation (`rootClass_ascii`).
-/
namespace ExprModel.Lex

inductive RootClass where
  | space | quote | digit | quest | bracket | single | dbl | dot | word | other
  deriving DecidableEq

def rootClass (cc : CharClass) (T : LexTables) (c : Char) : RootClass :=
  if cc.isSpace c then .space
  else if c = '\'' ∨ c = '"' then .quote
  else if '0' ≤ c ∧ c ≤ '9' then .digit
  else if c = '?' then .quest
  else if T.bracketsOpen.contains c then .bracket
  else if T.bracketsClose.contains c then .bracket
  else if T.singleOps.contains c then .single
  else if T.dblFirst.contains c then .dbl
  else if c = '.' then .dot
  else if cc.isAlphaNumeric c then .word
  else .other

/-- `backup` and `peek` are in the form LexPrim gives them (`adv`, `stay`) -/
def rootBranch (cc : CharClass) (T : LexTables) (s : LState) (c : Char) (cs : List Char) : RootClass → Step
  | .space => .skip (s.adv c).ignore cs
  | .quote =>
    match scanString T c .normal (s.adv c) cs with
    | .error e => .fail e
    | .ok (s2, r2) =>
      match unescape T s2.text with
      | .error m => .fail (s2.loc, m)
      | .ok str => emitValue .string str s2 r2
  | .digit => numberState cc T (s.stay (c :: cs)) (c :: cs)
  | .quest =>
    if cs.head? = some '.' then nilsafeState T ((s.adv c).stay cs) cs else emit .operator ((s.adv c).stay cs) cs
  | .bracket => emit .bracket (s.adv c) cs
  | .single => emit .operator (s.adv c) cs
  | .dbl => emit .operator (accept T.dblSecond (s.adv c) cs).2.1 (accept T.dblSecond (s.adv c) cs).2.2
  | .dot => dotState cc T (s.stay (c :: cs)) (c :: cs)
  | .word => identifierState cc T (s.stay (c :: cs)) (c :: cs)
  | .other => .fail ((s.adv c).loc, "unrecognized")

theorem root_cons (cc : CharClass) (T : LexTables) (s : LState) (c : Char) (cs : List Char) :
    root cc T s (c :: cs) = rootBranch cc T s c cs (rootClass cc T c) := by
  unfold root
  -- `rootBranch` goes inside the chain of tests; the arms then agree by unfolding
  simp only [rootClass, apply_ite (rootBranch cc T s c cs), backup_adv, peek_eq]
  rfl

theorem root_nil (cc : CharClass) (T : LexTables) (s : LState) :
    root cc T s [] = .eof { kind := .eof, value := "", loc := s.prev } := by rw [root]

theorem root_of_class {cc : CharClass} {T : LexTables} {c : Char} {k : RootClass} (h : rootClass cc T c = k)
    (s : LState) (cs : List Char) : root cc T s (c :: cs) = rootBranch cc T s c cs k := h ▸ root_cons cc T s c cs

/-- what a class says about its rune, as far as the position invariant needs it -/
def RootClass.Holds (cc : CharClass) (c : Char) : RootClass → Prop
  | .space => cc.isSpace c = true
  | .digit => cc.isSpace c = false ∧ '0' ≤ c ∧ c ≤ '9'
  | .word => cc.isSpace c = false ∧ cc.isAlphaNumeric c = true
  | _ => cc.isSpace c = false

theorem rootClass_holds (cc : CharClass) (T : LexTables) (c : Char) : (rootClass cc T c).Holds cc c := by
  have test {p : Prop} [Decidable p] {a b : RootClass} (ha : p → a.Holds cc c) (hb : b.Holds cc c) :
      (if p then a else b).Holds cc c := by
    by_cases h : p
    · rw [if_pos h]; exact ha h
    · rw [if_neg h]; exact hb
  unfold rootClass
  by_cases h : cc.isSpace c = true
  · rw [if_pos h]; exact h
  · rw [if_neg h]
    have h' : cc.isSpace c = false := by simpa using h
    -- one `test` per remaining test of `rootClass`, in its order; only `digit` and `word` keep what their test says
    exact test (fun _ => h') <| test (fun h2 => ⟨h', h2⟩) <| test (fun _ => h') <| test (fun _ => h') <|
      test (fun _ => h') <| test (fun _ => h') <| test (fun _ => h') <| test (fun _ => h') <| test (fun ha => ⟨h', ha⟩) h'

theorem rootClass_space {cc : CharClass} {c : Char} (h : cc.isSpace c = true) (T : LexTables) :
    rootClass cc T c = .space := by
  rw [rootClass, if_pos h]

theorem rootClass_quote {cc : CharClass} {q : Char} (hsp : cc.isSpace q = false) (hq : q = '\'' ∨ q = '"')
    (T : LexTables) : rootClass cc T q = .quote := by
  rw [rootClass, if_neg (by rw [hsp]; decide), if_pos hq]

theorem rootClass_ascii {cc : CharClass} (hcc : cc.AsciiExact) (T : LexTables) {c : Char} (h : c.toNat < 128) :
    rootClass cc T c = rootClass CharClass.ascii T c := by
  unfold rootClass
  rw [alnum_ascii_eq hcc h, space_ascii_eq hcc h]

theorem rootClass_of_ascii {cc : CharClass} (hcc : cc.AsciiExact) {T : LexTables} {c : Char} {k : RootClass}
    (h128 : c.toNat < 128) (h : rootClass CharClass.ascii T c = k) : rootClass cc T c = k :=
  (rootClass_ascii hcc T h128).trans h

theorem rootClass_digit {cc : CharClass} (hcc : cc.AsciiExact) {c : Char} (hc : '0' ≤ c ∧ c ≤ '9') :
    rootClass cc LexTables.std c = .digit := by
  rcases ascii_digit_cases hc with rfl | rfl | rfl | rfl | rfl | rfl | rfl | rfl | rfl | rfl <;>
    exact rootClass_of_ascii hcc (by decide) (by decide)

theorem rootClass_dbl {cc : CharClass} (hcc : cc.AsciiExact) {c : Char} (h : LexTables.std.dblFirst.contains c = true) :
    rootClass cc LexTables.std c = .dbl := by
  have := (by decide : ∀ y ∈ LexTables.std.dblFirst,
    y.toNat < 128 ∧ rootClass CharClass.ascii LexTables.std y = .dbl) c (List.contains_iff_mem.mp h)
  exact rootClass_of_ascii hcc this.1 this.2

end ExprModel.Lex
