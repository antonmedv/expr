import ExprModel.Proofs.SoundColl
import ExprModel.Proofs.SoundCall
/-
The extended fragment as two computable predicates — `inFrag2` (the constructs) and `typed2` (per construct, the side
conditions on the types the rules give its operands) — and the recursion `frag2_sound` over it: each case peels the two
predicates into the hypotheses of the construct's node lemma (SoundFrag, SoundColl, SoundCall), which takes the side
conditions as they stand in `typed2`.
-/
namespace ExprModel
open Spec

variable {E : ErrClass → Prop}

/-- the constructs that need a hypothesis on the world: calls of environment functions, `matches` (with a
literal pattern that `okPat` admits), method calls -/
structure FragOpts where
  calls : Bool := false
  regex : Bool := false
  methods : Bool := false
  /-- the literal patterns admitted under `matches`: the hypothesis `RegexOn` says they compile -/
  okPat : String → Bool := fun _ => false

mutual
/-- literals, identifiers, `#`, the operators of the scalar fragment, `in` / `not in` / `..` / `**`, indexing, `len`, slicing,
array and map literals, member access, the conditional, `all none any one count filter map` with their closures and —
behind the flags of `FragOpts` — calls of environment functions, `matches`, method calls. -/
def inFrag2 (fo : FragOpts) : Node → Bool
  | .bool _ _ | .str _ _ | .int _ _ | .float _ _ | .ident _ _ _ | .pointer _ => true
  | .unary _ op x => fragUnary op && inFrag2 fo x
  | .binary _ op l r => (fragBinary op || op == "in" || op == "not in" || op == ".." || op == "**") && inFrag2 fo l && inFrag2 fo r
  | .cond _ c a b => inFrag2 fo c && inFrag2 fo a && inFrag2 fo b
  | .index _ x i => inFrag2 fo x && inFrag2 fo i
  | .slice _ x none none => inFrag2 fo x
  | .slice _ x (some f) none => inFrag2 fo x && inFrag2 fo f
  | .slice _ x none (some t) => inFrag2 fo x && inFrag2 fo t
  | .slice _ x (some f) (some t) => inFrag2 fo x && inFrag2 fo f && inFrag2 fo t
  | .builtin _ name [a] => name == "len" && inFrag2 fo a
  | .builtin _ name [a, .closure _ b] =>
    (isPredBuiltin name || name == "filter" || name == "map") && inFrag2 fo a && inFrag2 fo b
  | .func _ _ args _ => fo.calls && inFrag2L fo args
  | .array _ xs => inFrag2L fo xs
  | .prop _ x _ _ => inFrag2 fo x
  | .map _ ps => inFrag2P fo ps
  | .method _ x _ args _ => fo.methods && inFrag2 fo x && inFrag2L fo args
  | .matches _ true l (.str _ pat) => fo.regex && fo.okPat pat && inFrag2 fo l
  | _ => false
def inFrag2L (fo : FragOpts) : List Node → Bool
  | [] => true
  | a :: rest => inFrag2 fo a && inFrag2L fo rest
def inFrag2P (fo : FragOpts) : List Node → Bool
  | [] => true
  | .pair _ k v :: rest => inFrag2 fo k && inFrag2 fo v && inFrag2P fo rest
  | _ :: _ => false
end

mutual
/-- "all its operands are statically typed", for the extended fragment: every operand of a scalar operator
has a scalar type, collections are slices of scalars or of structs, indices are integers, closure bodies are scalar
(under `map`: of any type `vtyOf` classifies).  The last clause answers `true` on shapes `inFrag2` rejects. -/
def typed2 (cfg : CheckCfg) : List OTy → Node → Bool
  | cs, .unary m op x => scalarOK (synth cfg cs (.unary m op x)) && scalarOK (synth cfg cs x) && typed2 cfg cs x
  | cs, .binary m op l r =>
    (if fragBinary op then
        scalarOK (synth cfg cs (.binary m op l r)) && scalarOK (synth cfg cs l) && scalarOK (synth cfg cs r)
     else if op == "in" || op == "not in" then inOK (synth cfg cs l) (synth cfg cs r)
     else scalarOK (synth cfg cs l) && scalarOK (synth cfg cs r)) &&
    typed2 cfg cs l && typed2 cfg cs r
  | cs, .cond _ c a b =>
    scalarOK (synth cfg cs c) && condOK cfg.dt (synth cfg cs a) (synth cfg cs b) &&
      typed2 cfg cs c && typed2 cfg cs a && typed2 cfg cs b
  | cs, .index m x i =>
    ((sliceOK (synth cfg cs x) && intOK (synth cfg cs i)) ||
      idxAnyOK (synth cfg cs x) (synth cfg cs i) (synth cfg cs (.index m x i))) && typed2 cfg cs x && typed2 cfg cs i
  | cs, .slice _ x none none => collOK (synth cfg cs x) && typed2 cfg cs x
  | cs, .slice _ x (some f) none => collOK (synth cfg cs x) && typed2 cfg cs x && intOK (synth cfg cs f) && typed2 cfg cs f
  | cs, .slice _ x none (some t) => collOK (synth cfg cs x) && typed2 cfg cs x && intOK (synth cfg cs t) && typed2 cfg cs t
  | cs, .slice _ x (some f) (some t) =>
    collOK (synth cfg cs x) && typed2 cfg cs x && intOK (synth cfg cs f) && typed2 cfg cs f &&
      intOK (synth cfg cs t) && typed2 cfg cs t
  | cs, .builtin _ _ [a] => lenOK (synth cfg cs a) && typed2 cfg cs a
  | cs, .builtin _ name [a, .closure _ b] =>
    collOK (synth cfg cs a) && typed2 cfg cs a &&
    -- `filter` / `map`: only under the documented rule (result `[]interface{}`); the code's `[]T` is the known finding
    (isPredBuiltin name || !cfg.dt.staticSliceOf) &&
    (match synth cfg cs a with
      | some coll =>
        (if name == "map" then vtyOK (synth cfg (coll :: cs) b) else scalarOK (synth cfg (coll :: cs) b)) &&
          typed2 cfg (coll :: cs) b
      | none => false)
  | cs, .func _ name args _ =>
    (match funcTargetC cfg name with
      | some (fn, im) =>
        (match funcPlan fn im args.length with
          | .inr (ins, variadic, numIn, offset, _) => typed2A cfg cs ins variadic numIn offset 0 args
          | .inl _ => false)
      | none => false)
  | cs, .array _ xs => typed2L cfg cs xs
  | cs, .prop m x name ns =>
    (objOK (synth cfg cs x) || propMapOK (synth cfg cs x) (synth cfg cs (.prop m x name ns))) && typed2 cfg cs x
  | cs, .map _ ps => typed2P cfg cs ps
  | cs, .method _ x name args _ =>
    objOK (synth cfg cs x) && recvOK cfg (synth cfg cs x) && typed2 cfg cs x &&
    (match synth cfg cs x with
      | some t =>
        (match methodTarget cfg.dn t name with
          | some (fn, im) =>
            (match funcPlan fn im args.length with
              | .inr (ins, variadic, numIn, offset, _) => typed2A cfg cs ins variadic numIn offset 0 args
              | .inl _ => false)
          | none => false)
      | none => false)
  | cs, .matches _ _ l r => strOK (synth cfg cs l) && strOK (synth cfg cs r) && typed2 cfg cs l && typed2 cfg cs r
  | _, _ => true
def typed2L (cfg : CheckCfg) : List OTy → List Node → Bool
  | _, [] => true
  | cs, a :: rest => vtyOK (synth cfg cs a) && typed2 cfg cs a && typed2L cfg cs rest
def typed2P (cfg : CheckCfg) : List OTy → List Node → Bool
  | _, [] => true
  | cs, .pair _ k v :: rest =>
    strOK (synth cfg cs k) && vtyOK (synth cfg cs v) && typed2 cfg cs k && typed2 cfg cs v && typed2P cfg cs rest
  | _, _ :: _ => false
def typed2A (cfg : CheckCfg) : List OTy → List Ty → Bool → Nat → Nat → Nat → List Node → Bool
  | _, _, _, _, _, _, [] => true
  | cs, ins, variadic, numIn, offset, i, a :: rest =>
    argOK cfg a (synth cfg cs a) (paramFor ins variadic numIn offset i) && typed2 cfg cs a &&
      typed2A cfg cs ins variadic numIn offset (i + 1) rest
end

theorem isPair_of_inFrag2 {fo : FragOpts} {a : Node} (h : inFrag2 fo a = true) : a.isPair = false := by
  cases a <;> first | rfl | (simp [inFrag2] at h)

/-- the verdict on a call in `typed2` (`.func`, `.method`), opened -/
theorem planB_elim {fn : Ty} {im : Bool} {n : Nat} {ψ : List Ty → Bool → Nat → Nat → Bool}
    (h : (match funcPlan fn im n with
      | .inr (ins, variadic, numIn, offset, _) => ψ ins variadic numIn offset
      | .inl _ => false) = true) :
    ∃ ins variadic numIn offset out, funcPlan fn im n = .inr (ins, variadic, numIn, offset, out) ∧
      ψ ins variadic numIn offset = true := by
  cases hfp : funcPlan fn im n with
  | inl rule => rw [hfp] at h; cases h
  | inr q =>
    obtain ⟨ins, variadic, numIn, offset, out⟩ := q
    rw [hfp] at h
    exact ⟨ins, variadic, numIn, offset, out, rfl, h⟩

mutual
theorem frag2_sound (hd : E .divzero) (hi : E .index) (hbud : E .budget) (cfg : CheckCfg) (c : SCfg)
    (henv : EnvConforms2 cfg c.env) (hdn : cfg.dn = NDefects.asIs) (fo : FragOpts) (hw : fo.calls = true → WorldConforms E cfg c)
    (hre : fo.regex = true → RegexOn c fo.okPat) (hm : fo.methods = true → MethodsConform E cfg c) :
    ∀ (n : Node) (cs : List OTy), inFrag2 fo n = true → typed2 cfg cs n = true → SpecS E (CtxFor cs) cfg c cs n
  | .bool m b, cs, _, _ =>
    frag_sound hd cfg cs c (envConforms_of2 henv) (.bool m b) rfl rfl
  | .str m x, cs, _, _ =>
    frag_sound hd cfg cs c (envConforms_of2 henv) (.str m x) rfl rfl
  | .int m v, cs, _, _ =>
    frag_sound hd cfg cs c (envConforms_of2 henv) (.int m v) rfl rfl
  | .float m x, cs, _, _ =>
    frag_sound hd cfg cs c (envConforms_of2 henv) (.float m x) rfl rfl
  | .ident m name ns, cs, _, _ => spec_ident cfg c cs m name ns fun τ V => henv name ns τ V
  | .pointer m, cs, _, _ => spec_pointer hi cfg c cs m
  | .unary m op x, cs, hf, ht => by
    simp only [inFrag2, Bool.and_eq_true] at hf
    simp only [typed2, Bool.and_eq_true] at ht
    have ihx := frag2_sound hd hi hbud cfg c henv hdn fo hw hre hm x cs hf.2 ht.2
    exact spec_unary cfg cs c m op x ht.1.1 ht.1.2 ihx
  | .cond m cn a b, cs, hf, ht => by
    simp only [inFrag2, Bool.and_eq_true] at hf
    simp only [typed2, Bool.and_eq_true] at ht
    obtain ⟨⟨⟨⟨h0, h1⟩, t1⟩, t2⟩, t3⟩ := ht
    refine spec_cond cfg c cs m cn a b (frag2_sound hd hi hbud cfg c henv hdn fo hw hre hm cn cs hf.1.1 t1)
      (frag2_sound hd hi hbud cfg c henv hdn fo hw hre hm a cs hf.1.2 t2)
      (frag2_sound hd hi hbud cfg c henv hdn fo hw hre hm b cs hf.2 t3) ?_ ?_
    · intro ct h
      rw [h] at h0; exact h0
    · exact fun ta tb ha hb _ => condOK_elim h1 ha hb
  | .binary m op l r, cs, hf, ht => by
    simp only [inFrag2, Bool.and_eq_true] at hf
    simp only [typed2, Bool.and_eq_true] at ht
    obtain ⟨⟨hop, hfl⟩, hfr⟩ := hf
    obtain ⟨⟨hcls, htl⟩, htr⟩ := ht
    have ihl := frag2_sound hd hi hbud cfg c henv hdn fo hw hre hm l cs hfl htl
    have ihr := frag2_sound hd hi hbud cfg c henv hdn fo hw hre hm r cs hfr htr
    by_cases hfb : fragBinary op = true
    · simp only [hfb, if_true, Bool.and_eq_true] at hcls
      exact spec_binary hd cfg cs c m op l r hfb hcls.1.1 hcls.1.2 hcls.2 ihl ihr
    · simp only [hfb, Bool.false_eq_true, if_false, Bool.false_or] at hcls hop
      by_cases hin : (op == "in" || op == "not in") = true
      · simp only [hin, if_true] at hcls
        have hop' : op = "in" ∨ op = "not in" := by simpa using hin
        exact spec_in cfg c cs m op l r hop' ihl ihr hcls
      · simp only [hin, Bool.false_eq_true, if_false] at hcls
        simp only [Bool.and_eq_true] at hcls
        have hop' : op = ".." ∨ op = "**" := by
          simp only [Bool.or_eq_true, beq_iff_eq] at hop hin
          rcases hop with ((h | h) | h) | h
          · exact absurd (Or.inl h) hin
          · exact absurd (Or.inr h) hin
          · exact Or.inl h
          · exact Or.inr h
        rcases hop' with rfl | rfl
        · exact spec_range hbud cfg c cs m l r ihl ihr hcls.1 hcls.2
        · exact spec_pow cfg c cs m l r ihl ihr hcls.1 hcls.2
  | .index m x i, cs, hf, ht => by
    simp only [inFrag2, Bool.and_eq_true] at hf
    simp only [typed2, Bool.and_eq_true] at ht
    obtain ⟨⟨hcase, htx⟩, hti⟩ := ht
    have ihx := frag2_sound hd hi hbud cfg c henv hdn fo hw hre hm x cs hf.1 htx
    have ihi := frag2_sound hd hi hbud cfg c henv hdn fo hw hre hm i cs hf.2 hti
    by_cases hsl : (sliceOK (synth cfg cs x) && intOK (synth cfg cs i)) = true
    · simp only [Bool.and_eq_true] at hsl
      exact spec_index hi cfg c cs m x i ihx ihi hsl.1 hsl.2
    · simp only [hsl, Bool.false_or] at hcase
      exact spec_index_any hi cfg c cs m x i ihx ihi hcase
  | .slice m x none none, cs, hf, ht => by
    simp only [inFrag2] at hf
    simp only [typed2, Bool.and_eq_true] at ht
    refine spec_slice hi cfg c cs m x none none (frag2_sound hd hi hbud cfg c henv hdn fo hw hre hm x cs hf ht.2)
      (fun n h => by cases h) (fun n h => by cases h) ht.1
      (fun n h => by cases h) (fun n h => by cases h)
  | .slice m x (some f) none, cs, hf, ht => by
    simp only [inFrag2, Bool.and_eq_true] at hf
    simp only [typed2, Bool.and_eq_true] at ht
    obtain ⟨⟨⟨h1, h2⟩, h3⟩, h4⟩ := ht
    refine spec_slice hi cfg c cs m x (some f) none (frag2_sound hd hi hbud cfg c henv hdn fo hw hre hm x cs hf.1 h2)
      (fun n h => by cases h; exact frag2_sound hd hi hbud cfg c henv hdn fo hw hre hm f cs hf.2 h4) (fun n h => by cases h)
      h1 (fun n h => by cases h; exact h3) (fun n h => by cases h)
  | .slice m x none (some t), cs, hf, ht => by
    simp only [inFrag2, Bool.and_eq_true] at hf
    simp only [typed2, Bool.and_eq_true] at ht
    obtain ⟨⟨⟨h1, h2⟩, h3⟩, h4⟩ := ht
    refine spec_slice hi cfg c cs m x none (some t) (frag2_sound hd hi hbud cfg c henv hdn fo hw hre hm x cs hf.1 h2)
      (fun n h => by cases h) (fun n h => by cases h; exact frag2_sound hd hi hbud cfg c henv hdn fo hw hre hm t cs hf.2 h4)
      h1 (fun n h => by cases h) (fun n h => by cases h; exact h3)
  | .slice m x (some f) (some t), cs, hf, ht => by
    simp only [inFrag2, Bool.and_eq_true] at hf
    simp only [typed2, Bool.and_eq_true] at ht
    obtain ⟨⟨⟨⟨⟨h1, h2⟩, h3⟩, h4⟩, h5⟩, h6⟩ := ht
    refine spec_slice hi cfg c cs m x (some f) (some t) (frag2_sound hd hi hbud cfg c henv hdn fo hw hre hm x cs hf.1.1 h2)
      (fun n h => by cases h; exact frag2_sound hd hi hbud cfg c henv hdn fo hw hre hm f cs hf.1.2 h4)
      (fun n h => by cases h; exact frag2_sound hd hi hbud cfg c henv hdn fo hw hre hm t cs hf.2 h6)
      h1 (fun n h => by cases h; exact h3) (fun n h => by cases h; exact h5)
  | .builtin m name [a], cs, hf, ht => by
    simp only [inFrag2, Bool.and_eq_true, beq_iff_eq] at hf
    simp only [typed2, Bool.and_eq_true] at ht
    obtain ⟨rfl, hfa⟩ := hf
    exact spec_len cfg c cs m a (frag2_sound hd hi hbud cfg c henv hdn fo hw hre hm a cs hfa ht.2) ht.1
  | .builtin m name [a, .closure mc b], cs, hf, ht => by
    simp only [inFrag2, Bool.and_eq_true] at hf
    simp only [typed2, Bool.and_eq_true] at ht
    obtain ⟨⟨hname, hfa⟩, hfb⟩ := hf
    obtain ⟨⟨⟨hsa, hta⟩, hdt⟩, hbody⟩ := ht
    have iha := frag2_sound hd hi hbud cfg c henv hdn fo hw hre hm a cs hfa hta
    have hcond : ∀ coll, synth cfg cs a = some coll →
        (if name == "map" then vtyOK (synth cfg (coll :: cs) b) else scalarOK (synth cfg (coll :: cs) b)) = true ∧
          typed2 cfg (coll :: cs) b = true := by
      intro coll hc
      rw [hc] at hbody
      simp only [Bool.and_eq_true] at hbody
      exact hbody
    have ihb : ∀ coll, synth cfg cs a = some coll → SpecS E (CtxFor (coll :: cs)) cfg c (coll :: cs) b := fun coll hc =>
      frag2_sound hd hi hbud cfg c henv hdn fo hw hre hm b (coll :: cs) hfb (hcond coll hc).2
    exact spec_collBuiltin hi hbud cfg c cs m mc name a b hname hdt iha ihb hsa fun coll hc => (hcond coll hc).1
  | .func m name args fast, cs, hf, ht => by
    simp only [inFrag2, Bool.and_eq_true] at hf
    obtain ⟨hcalls, hfa⟩ := hf
    simp only [typed2] at ht
    cases hft : funcTargetC cfg name with
    | none => rw [hft] at ht; cases ht
    | some p =>
      obtain ⟨fn, im⟩ := p
      rw [hft] at ht
      simp only [] at ht
      obtain ⟨ins, variadic, numIn, offset, out, hfp, hta⟩ := planB_elim ht
      exact spec_func hd cfg c (hw hcalls) cs m name args fast fn im hft ⟨ins, variadic, numIn, offset, out, hfp,
        frag2_args hd hi hbud cfg c henv hdn fo hw hre hm args cs ins variadic numIn offset 0 hfa hta⟩
  | .prop m x name ns, cs, hf, ht => by
    simp only [inFrag2] at hf
    simp only [typed2, Bool.and_eq_true] at ht
    have ihx := frag2_sound hd hi hbud cfg c henv hdn fo hw hre hm x cs hf ht.2
    by_cases hobj : objOK (synth cfg cs x) = true
    · exact spec_prop cfg c cs hdn m x name ns ihx hobj
    · have hcase := ht.1
      simp only [hobj, Bool.false_or] at hcase
      exact spec_prop_map cfg c cs m x name ns ihx hcase
  | .matches m hasRe l r, cs, hf, ht => by
    cases hasRe with
    | false => simp [inFrag2] at hf
    | true =>
      cases r with
      | str mr pat =>
        simp only [inFrag2, Bool.and_eq_true] at hf
        simp only [typed2, Bool.and_eq_true] at ht
        obtain ⟨⟨⟨h1, _⟩, h3⟩, _⟩ := ht
        exact spec_matches_lit cfg c cs m mr pat l (fun subj => hre hf.1.1 pat subj hf.1.2)
          (frag2_sound hd hi hbud cfg c henv hdn fo hw hre hm l cs hf.2 h3) h1
      | _ => simp [inFrag2] at hf
  | .method m x name args ns, cs, hf, ht => by
    simp only [inFrag2, Bool.and_eq_true] at hf
    simp only [typed2, Bool.and_eq_true] at ht
    obtain ⟨⟨⟨hobj, hrecv⟩, htx⟩, hrest⟩ := ht
    refine spec_method hd cfg c hdn (hm hf.1.1) cs m x name args ns
      (frag2_sound hd hi hbud cfg c henv hdn fo hw hre hm x cs hf.1.2 htx) hobj hrecv ?_
    intro t fn im h1 h2
    rw [h1] at hrest
    simp only [] at hrest
    rw [h2] at hrest
    simp only [] at hrest
    obtain ⟨ins, variadic, numIn, offset, out, hfp, hta⟩ := planB_elim hrest
    exact ⟨ins, variadic, numIn, offset, out, hfp,
      frag2_args hd hi hbud cfg c henv hdn fo hw hre hm args cs ins variadic numIn offset 0 hf.2 hta⟩
  | .map m ps, cs, hf, ht => by
    simp only [inFrag2] at hf
    simp only [typed2] at ht
    exact spec_mapLit hbud cfg c cs m ps (frag2_pairs hd hi hbud cfg c henv hdn fo hw hre hm ps cs hf ht)
  | .array m xs, cs, hf, ht => by
    simp only [inFrag2] at hf
    simp only [typed2] at ht
    exact spec_array hbud cfg c cs m xs (frag2_elems hd hi hbud cfg c henv hdn fo hw hre hm xs cs hf ht)
  -- written out, although `match` would close these cases from `hf` by itself (as it does a two-element `builtin` whose
  -- second argument is no closure): that way costs seven times the elaboration of the whole recursion
  | .nil _, _, hf, _ | .const _ _, _, hf, _
  | .closure _ _, _, hf, _ | .pair _ _ _, _, hf, _ => by
    simp [inFrag2] at hf
  | .builtin _ _ [], _, hf, _ => by simp [inFrag2] at hf
  | .builtin _ _ (_ :: _ :: _ :: _), _, hf, _ => by simp [inFrag2] at hf

theorem frag2_elems (hd : E .divzero) (hi : E .index) (hbud : E .budget) (cfg : CheckCfg) (c : SCfg)
    (henv : EnvConforms2 cfg c.env) (hdn : cfg.dn = NDefects.asIs) (fo : FragOpts) (hw : fo.calls = true → WorldConforms E cfg c)
    (hre : fo.regex = true → RegexOn c fo.okPat) (hm : fo.methods = true → MethodsConform E cfg c) :
    ∀ (xs : List Node) (cs : List OTy), inFrag2L fo xs = true → typed2L cfg cs xs = true →
      ElemsOK E cfg c cs xs
  | [], _, _, _ => trivial
  | a :: rest, cs, hf, ht => by
    simp only [inFrag2L, Bool.and_eq_true] at hf
    simp only [typed2L, Bool.and_eq_true] at ht
    refine ⟨⟨?_, spec2_iff.2 (frag2_sound hd hi hbud cfg c henv hdn fo hw hre hm a cs hf.1 ht.1.2), ht.1.1⟩,
      frag2_elems hd hi hbud cfg c henv hdn fo hw hre hm rest cs hf.2 ht.2⟩
    exact isPair_of_inFrag2 hf.1

theorem frag2_pairs (hd : E .divzero) (hi : E .index) (hbud : E .budget) (cfg : CheckCfg) (c : SCfg)
    (henv : EnvConforms2 cfg c.env) (hdn : cfg.dn = NDefects.asIs) (fo : FragOpts) (hw : fo.calls = true → WorldConforms E cfg c)
    (hre : fo.regex = true → RegexOn c fo.okPat) (hm : fo.methods = true → MethodsConform E cfg c) :
    ∀ (ps : List Node) (cs : List OTy), inFrag2P fo ps = true → typed2P cfg cs ps = true →
      PairsOK E cfg c cs ps
  | [], _, _, _ => trivial
  | .pair m k v :: rest, cs, hf, ht => by
    simp only [inFrag2P, Bool.and_eq_true] at hf
    simp only [typed2P, Bool.and_eq_true] at ht
    obtain ⟨⟨⟨⟨h1, h2⟩, h3⟩, h4⟩, h5⟩ := ht
    refine ⟨⟨spec2_iff.2 (frag2_sound hd hi hbud cfg c henv hdn fo hw hre hm k cs hf.1.1 h3),
      spec2_iff.2 (frag2_sound hd hi hbud cfg c henv hdn fo hw hre hm v cs hf.1.2 h4), ?_, h2⟩,
      frag2_pairs hd hi hbud cfg c henv hdn fo hw hre hm rest cs hf.2 h5⟩
    exact fun kt hk => strOK_elim h1 hk
  -- written out for the same reason as in `frag2_sound`
  | .nil _ :: _, _, h, _ | .ident _ _ _ :: _, _, h, _ | .int _ _ :: _, _, h, _ | .float _ _ :: _, _, h, _
  | .bool _ _ :: _, _, h, _ | .str _ _ :: _, _, h, _ | .const _ _ :: _, _, h, _ | .unary _ _ _ :: _, _, h, _
  | .binary _ _ _ _ :: _, _, h, _ | .matches _ _ _ _ :: _, _, h, _ | .prop _ _ _ _ :: _, _, h, _
  | .index _ _ _ :: _, _, h, _ | .slice _ _ _ _ :: _, _, h, _ | .method _ _ _ _ _ :: _, _, h, _
  | .func _ _ _ _ :: _, _, h, _ | .builtin _ _ _ :: _, _, h, _ | .closure _ _ :: _, _, h, _
  | .pointer _ :: _, _, h, _ | .cond _ _ _ _ :: _, _, h, _ | .array _ _ :: _, _, h, _ | .map _ _ :: _, _, h, _ => by
    simp [inFrag2P] at h

theorem frag2_args (hd : E .divzero) (hi : E .index) (hbud : E .budget) (cfg : CheckCfg) (c : SCfg)
    (henv : EnvConforms2 cfg c.env) (hdn : cfg.dn = NDefects.asIs) (fo : FragOpts) (hw : fo.calls = true → WorldConforms E cfg c)
    (hre : fo.regex = true → RegexOn c fo.okPat) (hm : fo.methods = true → MethodsConform E cfg c) :
    ∀ (args : List Node) (cs : List OTy) (ins : List Ty) (variadic : Bool) (numIn offset i : Nat),
      inFrag2L fo args = true → typed2A cfg cs ins variadic numIn offset i args = true →
      ArgsOK E cfg c cs ins variadic numIn offset i args
  | [], _, _, _, _, _, _, _, _ => trivial
  | a :: rest, cs, ins, variadic, numIn, offset, i, hf, ht => by
    simp only [inFrag2L, Bool.and_eq_true] at hf
    simp only [typed2A, Bool.and_eq_true] at ht
    refine ⟨⟨?_, spec2_iff.2 (frag2_sound hd hi hbud cfg c henv hdn fo hw hre hm a cs hf.1 ht.1.2), ht.1.1⟩,
      frag2_args hd hi hbud cfg c henv hdn fo hw hre hm rest cs ins variadic numIn offset (i + 1) hf.2 ht.2⟩
    exact isPair_of_inFrag2 hf.1
end

end ExprModel
