import ExprModel.Proofs.CheckerSpec
import ExprModel.Proofs.CheckerRules
import ExprModel.Proofs.OptAnnot
/-
The bridge between C03 and C02: the tree the type checker returns is well annotated in the sense the optimizer relies on
(`OptProofs.wa`), provided the integer literals of the source are Go ints and literals are retyped for numeric parameters
only (`retypeAnyParam = false`, /repo's rule from 6162013).  The tree an accepting visit returns is `annot`
(Proofs/CheckerElab.lean), so the discipline is proved of `annot` on well-typed nodes (`annot_wa`: no visitor state in it)
and carried to `check` by `check_ok_iff_annot`.
-/
namespace ExprModel
namespace CheckerAnnot
open OptProofs Opt

/-- the integer literals on the arithmetic spine of the node (through unary `+ -` and `+ - * /`: what
    `setTypeForIntegers` reaches) are annotated `int` -/
def spineOK : Node → Bool
  | .int m _ => m.kd == .num .int
  | .unary _ op x => !(op == "+" || op == "-") || spineOK x
  | .binary _ op l r => !(op == "+" || op == "/" || op == "-" || op == "*") || (spineOK l && spineOK r)
  | _ => true

theorem deref_kind_int (t : Ty) (h : t.kind = .num .int) : t.deref.kind = .num .int := by
  cases t with
  | ptr u => simp [Ty.kind, Ty.core] at h
  | named n ms u =>
    have hp : (Ty.named n ms u).isPtr = false := by
      simp only [Ty.isPtr]
      simp only [Ty.kind] at h
      split at h <;> simp_all
    simp only [Ty.deref, hp, Bool.false_eq_true, if_false]; exact h
  | _ => simpa [Ty.deref] using h

theorem plain_some_int (t : Ty) (h : plainKd (OTy.kind (some t)) = true) : t.kind = .num .int := by
  simp only [OTy.kind] at h
  generalize hk : t.kind = k at h
  have hne : k ≠ .invalid := by
    rw [← hk]; simp only [Ty.kind]; split <;> simp
  cases k with
  | num kk => cases kk <;> simp [plainKd] at h ⊢
  | invalid => exact absurd rfl hne
  | _ => simp [plainKd] at h

theorem arith4_cases {op : String} (h : arith4 op = true) : ((op = "+" ∨ op = "-") ∨ op = "*") ∨ op = "/" := by
  simpa [arith4] using h

theorem arith4_not_mod {op : String} (h : arith4 op = true) : (op == "%") = false := by
  rcases arith4_cases h with ((rfl | rfl) | rfl) | rfl <;> decide

theorem arith_rule_shape {dt : TDefects} {op : String} {lt rt T : OTy} (h : binaryRule dt op lt rt = .ok T)
    (hop : arith4 op = true ∨ op = "%") :
    (T = combinedR dt lt rt ∧
        ((isNumberT lt = true ∧ isNumberT rt = true) ∨ (isIntegerT lt = true ∧ isIntegerT rt = true))) ∨
      (isStringT lt = true ∧ isStringT rt = true) := by
  cases binaryRule_ok h with
  | arith _ h1 h2 => exact .inl ⟨rfl, .inl ⟨h1, h2⟩⟩
  | mod h1 h2 => exact .inl ⟨rfl, .inr ⟨h1, h2⟩⟩
  | concat h1 h2 => exact .inr ⟨h1, h2⟩
  | eq ho _ => rcases ho with rfl | rfl <;> exact absurd hop (by decide)
  | logic ho _ _ => rcases ho with rfl | rfl | rfl | rfl <;> exact absurd hop (by decide)
  | inn ho _ => rcases ho with rfl | rfl <;> exact absurd hop (by decide)
  | cmp ho _ => rcases ho with rfl | rfl | rfl | rfl <;> exact absurd hop (by decide)
  | strop ho _ _ => rcases ho with rfl | rfl | rfl <;> exact absurd hop (by decide)
  | pow _ _ => exact absurd hop (by decide)
  | range _ _ => exact absurd hop (by decide)

theorem arith_result_kind (dt : TDefects) (op : String) (lt rt T : OTy)
    (h : binaryRule dt op lt rt = .ok T) (hop : arith4 op = true ∨ op = "%")
    (pl : plainKd lt.kind = true) (pr : plainKd rt.kind = true) : T.kind = .num .int ∧ lt.kind = .num .int := by
  cases lt with
  | none => rcases arith_rule_shape h hop with ⟨_, hn | hn⟩ | hn <;> exact absurd hn.1 (by decide)
  | some a =>
    cases rt with
    | none => rcases arith_rule_shape h hop with ⟨_, hn | hn⟩ | hn <;> exact absurd hn.2 (by decide)
    | some b =>
      have ha := plain_some_int a pl
      have hb := plain_some_int b pr
      have hda := deref_kind_int a ha
      have hdb := deref_kind_int b hb
      rcases arith_rule_shape h hop with ⟨rfl, _⟩ | hs
      · exact ⟨by simp [combinedR, isInterfaceT, OTy.deref, OTy.kind, hda, hdb, combinedT, typeWeight, ha, hb], ha⟩
      · simp [isStringT, OTy.deref, OTy.kind, hda] at hs

theorem wa_setKd_matches (m : Meta) (h : Bool) (l r : Node) (t : OTy) :
    wa (setKd (.matches m h l r) t) = (wa l && wa r) := rfl

theorem stfi_kd (k : RKind) (x : Node) : (∃ m v, x = .int m v) ∨ (setTypeForIntegers k x).kd = x.kd := by
  cases x with
  | int m v => exact .inl ⟨m, v, rfl⟩
  | unary m op y =>
    right
    simp only [setTypeForIntegers]
    split <;> rfl
  | binary m op l r =>
    right
    simp only [setTypeForIntegers]
    split <;> rfl
  | _ => exact .inr rfl

/-- retyping changes the annotation of an integer literal only, and a plain new annotation is `int` (`hk`), which the literal
carried already (`hs`) -/
theorem retyped_kd {k : RKind} (hk : plainKd k = true → k = .num .int) (x : Node) (hs : spineOK x = true)
    (hp : plainKd (setTypeForIntegers k x).kd = true) : (setTypeForIntegers k x).kd = x.kd := by
  rcases stfi_kd k x with ⟨m, v, rfl⟩ | h
  · simp only [spineOK, beq_iff_eq] at hs
    exact (hk hp).trans hs.symm
  · exact h

theorem stfi_wa (k : RKind) (hk : plainKd k = true → k = .num .int) :
    ∀ a : Node, wa a = true → spineOK a = true → wa (setTypeForIntegers k a) = true
  | .int m v, hw, _ => hw
  | .unary m op x, hw, hs => by
    simp only [setTypeForIntegers]
    split
    · next hop =>
      simp only [spineOK, hop, Bool.not_true, Bool.false_or] at hs
      simp only [wa, Bool.and_eq_true] at hw ⊢
      refine ⟨?_, stfi_wa k hk x hw.2 hs⟩
      cases hp : plainKd (setTypeForIntegers k x).kd with
      | false => simp only [waHere, hp, Bool.not_false, Bool.or_true, Bool.true_or]
      | true => simpa only [waHere, retyped_kd hk x hs hp] using hw.1
    · exact hw
  | .binary m op l r, hw, hs => by
    simp only [setTypeForIntegers]
    split
    · next hop =>
      simp only [spineOK, hop, Bool.not_true, Bool.false_or, Bool.and_eq_true] at hs
      simp only [wa, Bool.and_eq_true] at hw ⊢
      refine ⟨⟨?_, stfi_wa k hk l hw.1.2 hs.1⟩, stfi_wa k hk r hw.2 hs.2⟩
      cases hp : plainKd (setTypeForIntegers k l).kd && plainKd (setTypeForIntegers k r).kd with
      | false => simp only [waHere, hp, Bool.not_false, Bool.or_true, Bool.true_or, Bool.and_self]
      | true =>
        rw [Bool.and_eq_true] at hp
        simpa only [waHere, retyped_kd hk l hs.1 hp.1, retyped_kd hk r hs.2 hp.2] using hw.1.1
    · exact hw
  | .nil _, hw, _ | .ident .., hw, _ | .float .., hw, _ | .bool .., hw, _ | .str .., hw, _ | .const .., hw, _
  | .matches .., hw, _ | .prop .., hw, _ | .index .., hw, _ | .slice .., hw, _ | .method .., hw, _ | .func .., hw, _
  | .builtin .., hw, _ | .closure .., hw, _ | .pointer _, hw, _ | .cond .., hw, _ | .array .., hw, _ | .map .., hw, _
  | .pair .., hw, _ => by simpa only [setTypeForIntegers] using hw

/-- `annot` writes `int` on every integer literal, so what it returns may be retyped as a call argument (`stfi_wa`) -/
theorem spineOK_annot (cfg : CheckCfg) (cs : List OTy) : ∀ n : Node, spineOK (annot cfg cs n) = true
  | .unary m op x => by simp only [annot, setKd, Node.withMeta, spineOK, spineOK_annot cfg cs x, Bool.or_true]
  | .binary m op l r => by
    simp only [annot, setKd, Node.withMeta, spineOK, spineOK_annot cfg cs l, spineOK_annot cfg cs r, Bool.and_self, Bool.or_true]
  | .builtin m name [] | .builtin m name [_] | .builtin m name [_, _] | .builtin m name (_ :: _ :: _ :: _) => by
    simp only [annot, setKd, Node.withMeta, spineOK]
  | .int m v => rfl
  | .nil _ | .ident .. | .float .. | .bool .. | .str .. | .const .. | .matches ..
  | .prop .. | .index .. | .slice .. | .method .. | .func .. | .closure .. | .pointer _ | .cond .. | .array ..
  | .map .. | .pair .. => by simp only [annot, setKd, Node.withMeta, spineOK]

def AnnOK (cfg : CheckCfg) (n : Node) : Prop :=
  ∀ cs τ, wa n = true → synth cfg cs n = some τ → wa (annot cfg cs n) = true

def AnnOKOpt (cfg : CheckCfg) (b : Option Node) : Prop :=
  ∀ cs, waOpt b = true → synthBound cfg cs b = true → waOpt (annotOpt cfg cs b) = true

def AnnOKList (cfg : CheckCfg) (ns : List Node) : Prop :=
  ∀ cs, waList ns = true → synthList cfg cs ns = true → waList (annotList cfg cs ns) = true

def AnnOKArgs (cfg : CheckCfg) (args : List Node) : Prop :=
  ∀ cs ins v numIn off i, waList args = true → synthArgs cfg cs ins v numIn off i args = true →
    waList (annotArgs cfg cs ins v numIn off i args) = true

variable {cfg : CheckCfg}

theorem unary_ann (m : Meta) (op : String) (x : Node) (ih : AnnOK cfg x) : AnnOK cfg (.unary m op x) := by
  intro cs τ hw hs
  obtain ⟨t, hx, hr⟩ := synth_unary_some hs
  simp only [wa, Bool.and_eq_true] at hw
  have kx := annot_kd hx
  simp only [annot, tyOf_some hs, setKd, Node.withMeta, Node.getMeta, wa, Bool.and_eq_true, ih cs t hw.2 hx, and_true, waHere]
  by_cases ho : (op == "-" || op == "+") = true
  · have hr' : τ = t := by
      rcases unaryRule_ok hr with ⟨hn, _, _⟩ | ⟨_, _, e⟩
      · rcases hn with rfl | rfl <;> exact absurd ho (by decide)
      · exact e
    subst hr'
    simp [ho, kx]
  · have : (op == "-" || op == "+") = false := by simpa using ho
    simp [this]

theorem binary_ann (m : Meta) (op : String) (l r : Node) (ihl : AnnOK cfg l) (ihr : AnnOK cfg r) :
    AnnOK cfg (.binary m op l r) := by
  intro cs τ hw hs
  obtain ⟨lt, rt, hl, hr, hT⟩ := synth_binary_some hs
  simp only [wa, Bool.and_eq_true] at hw
  have kl := annot_kd hl
  have kr := annot_kd hr
  simp only [annot, tyOf_some hs, setKd, Node.withMeta, Node.getMeta, wa, Bool.and_eq_true, ihl cs lt hw.1.2 hl,
    ihr cs rt hw.2 hr, and_true, waHere]
  by_cases hp : (plainKd (annot cfg cs l).kd && plainKd (annot cfg cs r).kd) = true
  · have hp' := hp
    simp only [Bool.and_eq_true] at hp'
    rw [kl, kr] at hp'
    by_cases h4 : arith4 op = true
    · obtain ⟨e1, e2⟩ := arith_result_kind cfg.dt op lt rt τ hT (.inl h4) hp'.1 hp'.2
      have h5 := arith4_not_mod h4
      simp [h4, h5, e1, kl, e2]
    · by_cases h5 : op = "%"
      · obtain ⟨e1, _⟩ := arith_result_kind cfg.dt op lt rt τ hT (.inr h5) hp'.1 hp'.2
        subst h5
        have h4' : arith4 "%" = false := by decide
        have pT : plainKd τ.kind = true := by rw [e1]; rfl
        simp [h4', pT]
      · have h4' : arith4 op = false := by simpa using h4
        have h5' : (op == "%") = false := by simpa using h5
        simp [h4', h5']
  · have : (plainKd (annot cfg cs l).kd && plainKd (annot cfg cs r).kd) = false := by simpa using hp
    simp [this]

theorem args_ann (hd : cfg.dt.retypeAnyParam = false) : ∀ args : List Node, (∀ a ∈ args, AnnOK cfg a) → AnnOKArgs cfg args
  | [], _ => fun _ _ _ _ _ _ _ _ => rfl
  | a :: rest, ih => fun cs ins v numIn off i hw hs => by
    obtain ⟨t0, ha, _, hrest⟩ := synthArgs_cons hs
    simp only [waList, Bool.and_eq_true] at hw
    have wa' := ih a (List.mem_cons_self ..) cs t0 hw.1 ha
    simp only [annotArgs, waList, Bool.and_eq_true]
    refine ⟨?_, args_ann hd rest (fun b hb => ih b (List.mem_cons_of_mem _ hb)) cs ins v numIn off (i + 1) hw.2 hrest⟩
    split
    · rename_i hre
      refine stfi_wa _ (fun hp => ?_) _ wa' (spineOK_annot cfg cs a)
      -- a retyped literal has a numeric parameter type
      have hn : isNumberT (paramFor ins v numIn off i) = true := by
        simp only [retypes, retypeOk, hd, Bool.false_or, Bool.and_eq_true] at hre
        exact hre.1.2.1
      cases hT : paramFor ins v numIn off i with
      | none => rw [hT] at hn; exact absurd hn (by decide)
      | some ty => rw [hT] at hp; exact plain_some_int ty hp
    · exact wa'

theorem planArgs_wa {tgt : Option (Ty × Bool)} {args : List Node} {f : List Ty → Bool → Nat → Nat → List Node}
    (hw : waList args = true)
    (hf : ∀ fn isM ins v numIn off out, tgt = some (fn, isM) → funcPlan fn isM args.length = .inr (ins, v, numIn, off, out) →
      waList (f ins v numIn off) = true) :
    waList (planArgs f tgt args) = true := by
  unfold planArgs
  split
  · split
    · exact hw
    · next hp => exact hf _ _ _ _ _ _ _ rfl hp
  · exact hw

mutual
theorem annot_wa (hd : cfg.dt.retypeAnyParam = false) : ∀ n : Node, AnnOK cfg n
  | .nil _ | .ident .. | .float .. | .bool .. | .str .. | .const .. | .pointer _ => fun cs τ _ _ => by
    simp only [annot, setKd, Node.withMeta, wa]
  | .int m v => fun cs τ hw _ => by
    simp only [wa, waHere] at hw
    simpa only [annot, setKd, Node.withMeta, wa, waHere] using hw
  | .unary m op x => unary_ann m op x (annot_wa hd x)
  | .binary m op l r => binary_ann m op l r (annot_wa hd l) (annot_wa hd r)
  | .matches m h l r => fun cs τ hw hs => by
    obtain ⟨lt, rt, hl, hr, _⟩ := synth_matches_some hs
    simp only [wa, Bool.and_eq_true] at hw
    simp only [annot, setKd, Node.withMeta, wa, annot_wa hd l cs lt hw.1 hl, annot_wa hd r cs rt hw.2 hr, Bool.and_self]
  | .prop m x name ns => fun cs τ hw hs => by
    obtain ⟨t, hx, _⟩ := synth_prop_some hs
    simp only [wa] at hw
    simp only [annot, setKd, Node.withMeta, wa, annot_wa hd x cs t hw hx]
  | .index m x i => fun cs τ hw hs => by
    obtain ⟨t, it, hx, hi, _⟩ := synth_index_some hs
    simp only [wa, Bool.and_eq_true] at hw
    simp only [annot, setKd, Node.withMeta, wa, annot_wa hd x cs t hw.1 hx, annot_wa hd i cs it hw.2 hi,
      Bool.and_self]
  | .pair m k v => fun cs τ hw hs => by
    obtain ⟨kt, vt, hk, hv, _⟩ := synth_pair_some hs
    simp only [wa, Bool.and_eq_true] at hw
    simp only [annot, setKd, Node.withMeta, wa, annot_wa hd k cs kt hw.1 hk, annot_wa hd v cs vt hw.2 hv,
      Bool.and_self]
  | .closure m x => fun cs τ hw hs => by
    obtain ⟨t, hx, _⟩ := synth_closure_some hs
    simp only [wa] at hw
    simp only [annot, setKd, Node.withMeta, wa, annot_wa hd x cs t hw hx]
  | .cond m c a b => fun cs τ hw hs => by
    obtain ⟨ct, t1, t2, hc, _, ha, hb, _⟩ := synth_cond_some hs
    simp only [wa, Bool.and_eq_true] at hw
    simp only [annot, setKd, Node.withMeta, wa, annot_wa hd c cs ct hw.1.1 hc, annot_wa hd a cs t1 hw.1.2 ha,
      annot_wa hd b cs t2 hw.2 hb, Bool.and_self]
  | .slice m x f t => fun cs τ hw hs => by
    obtain ⟨tx, hx, _, hf, ht, _⟩ := synth_slice_some hs
    simp only [wa, Bool.and_eq_true] at hw
    simp only [annot, setKd, Node.withMeta, wa, annot_wa hd x cs tx hw.1.1 hx, annot_opt hd f cs hw.1.2 hf,
      annot_opt hd t cs hw.2 ht, Bool.and_self]
  | .method m x name args ns => fun cs τ hw hs => by
    obtain ⟨t, hx⟩ := synth_method_some hs
    simp only [wa, Bool.and_eq_true] at hw
    simp only [annot, setKd, Node.withMeta, wa, Bool.and_eq_true, annot_wa hd x cs t hw.1 hx, true_and, tyOf_some hx]
    exact planArgs_wa hw.2 fun fn isM ins v numIn off out ht hp =>
      args_ann hd args (annot_all hd args) cs ins v numIn off 0 hw.2 (synth_method_args hs hx ht hp).1
  | .func m name args fast => fun cs τ hw hs => by
    simp only [wa] at hw
    simp only [annot, setKd, Node.withMeta, wa]
    exact planArgs_wa hw fun fn isM ins v numIn off out ht hp =>
      args_ann hd args (annot_all hd args) cs ins v numIn off 0 hw (synth_func_args hs ht hp).1
  | .builtin m name [] | .builtin m name (_ :: _ :: _ :: _) => fun cs τ _ hs => by simp only [synth] at hs; cases hs
  | .builtin m name [a] => fun cs τ hw hs => by
    obtain ⟨_, pt, ha, _⟩ := synth_builtin1_some hs
    simp only [wa, waList, Bool.and_true] at hw
    simp only [annot, setKd, Node.withMeta, wa, waList, annot_wa hd a cs pt hw ha, Bool.and_self]
  | .builtin m name [a, c] => fun cs τ hw hs => by
    -- the closure is typed, and annotated, under the collection's type
    obtain ⟨_, coll, cl, ha, _, hc, _⟩ := synth_builtin2_some hs
    simp only [wa, waList, Bool.and_true, Bool.and_eq_true] at hw
    simp only [annot, setKd, Node.withMeta, wa, waList, annot_wa hd a cs coll hw.1 ha, tyOf_some ha,
      annot_wa hd c (coll :: cs) cl hw.2 hc, Bool.and_self]
  | .array m xs => fun cs τ hw hs => by
    simp only [wa] at hw
    simp only [annot, setKd, Node.withMeta, wa, annot_list hd xs cs hw (synth_array_some hs).1]
  | .map m xs => fun cs τ hw hs => by
    simp only [wa] at hw
    simp only [annot, setKd, Node.withMeta, wa, annot_list hd xs cs hw (synth_map_some hs).1]
theorem annot_opt (hd : cfg.dt.retypeAnyParam = false) : ∀ b : Option Node, AnnOKOpt cfg b
  | none => fun _ _ _ => rfl
  | some n => fun cs hw hs => by
    obtain ⟨t, hn, _⟩ := synthBound_some hs
    exact annot_wa hd n cs t hw hn
theorem annot_list (hd : cfg.dt.retypeAnyParam = false) : ∀ ns : List Node, AnnOKList cfg ns
  | [] => fun _ _ _ => rfl
  | n :: ns => fun cs hw hs => by
    obtain ⟨⟨t, hn⟩, hrest⟩ := synthList_cons hs
    simp only [waList, Bool.and_eq_true] at hw
    simp only [annotList, waList, annot_wa hd n cs t hw.1 hn, annot_list hd ns cs hw.2 hrest, Bool.and_self]
theorem annot_all (hd : cfg.dt.retypeAnyParam = false) : ∀ ns : List Node, ∀ a ∈ ns, AnnOK cfg a
  | [], _, h => nomatch h
  | n :: ns, a, h => (List.mem_cons.1 h).elim (fun e => e ▸ annot_wa hd n) (annot_all hd ns a)
end

/-! The same discipline said of the visitor's four functions, for a visit that ends clean: such a visit started clean on a
well-typed node (`visit_tracks` and its siblings), so what it returns is `annot` (`visit_of_synth`), of which it is proved. -/

def WSpec (cfg : CheckCfg) (n : Node) : Prop :=
  ∀ st : CState, wa n = true → CkGood (visit cfg n st).2.2 →
    wa (visit cfg n st).1 = true ∧ (visit cfg n st).1.kd = (visit cfg n st).2.1.kind ∧ spineOK (visit cfg n st).1 = true

def LW (cfg : CheckCfg) (ns : List Node) : Prop :=
  ∀ st : CState, waList ns = true → CkGood (visitList cfg ns st).2 → waList (visitList cfg ns st).1 = true

def BW (cfg : CheckCfg) (b : Option Node) : Prop :=
  ∀ st : CState, waOpt b = true → CkGood (visitBound cfg b st).2.2 → waOpt (visitBound cfg b st).1 = true

def AW (cfg : CheckCfg) (ins : List Ty) (variadic : Bool) (numIn offset : Nat) (args : List Node) : Prop :=
  ∀ (i : Nat) (st : CState), waList args = true →
    CkGood (checkArgs cfg ins variadic numIn offset i args st).2.2 →
    waList (checkArgs cfg ins variadic numIn offset i args st).1 = true

def AllW (cfg : CheckCfg) : List Node → Prop
  | [] => True
  | n :: ns => WSpec cfg n ∧ AllW cfg ns

theorem visit_wa (cfg : CheckCfg) (hd : cfg.dt.retypeAnyParam = false) : ∀ n : Node, WSpec cfg n := by
  intro n st hi hg
  obtain ⟨hs, e⟩ := visit_clean hg
  rw [e]
  exact ⟨annot_wa hd n _ _ hi hs, annot_kd hs, spineOK_annot cfg _ n⟩

theorem bound_wa (cfg : CheckCfg) (hd : cfg.dt.retypeAnyParam = false) : ∀ b : Option Node, BW cfg b := by
  intro b st hi hg
  have hs := (okWhen_eq_some ((bound_spec cfg b st).2 hg).2).1
  rw [visitBound_of_synth cfg b st hs]
  exact annot_opt hd b _ hi hs

theorem list_wa (cfg : CheckCfg) (hd : cfg.dt.retypeAnyParam = false) : ∀ ns : List Node, LW cfg ns := by
  intro ns st hi hg
  have hs := (okWhen_eq_some ((list_spec cfg ns st).2 hg).2).1
  rw [visitList_of_synth cfg ns st hs]
  exact annot_list hd ns _ hi hs

theorem args_wa (cfg : CheckCfg) (hd : cfg.dt.retypeAnyParam = false) (ins : List Ty) (v : Bool) (numIn off : Nat) :
    ∀ args : List Node, AW cfg ins v numIn off args := by
  intro args i st hi hg
  have hs := (okWhen_eq_some ((args_spec cfg ins v numIn off args i st).2 hg).2).1
  rw [checkArgs_of_synth cfg ins v numIn off args i st hs]
  exact args_ann hd args (annot_all hd args) _ ins v numIn off i hi hs

theorem all_wa (cfg : CheckCfg) (hd : cfg.dt.retypeAnyParam = false) : ∀ ns : List Node, AllW cfg ns
  | [] => trivial
  | n :: ns => ⟨visit_wa cfg hd n, all_wa cfg hd ns⟩

/-- **The type checker establishes the annotation discipline the optimizer relies on**: if `checker.Check` accepts
    a well-annotated tree (in particular a tree fresh from the parser whose integer literals are Go ints, or the
    result of a previous check), the annotated tree it returns is well annotated. -/
theorem check_wellAnnotated (cfg : CheckCfg) (hd : cfg.dt.retypeAnyParam = false) (n n' : Node) (t : OTy)
    (hw : wa n = true) (h : check cfg n = .ok n' t) : wa n' = true := by
  obtain ⟨hs, rfl, _⟩ := (check_ok_iff_annot cfg n n' t).1 h
  exact annot_wa hd n _ _ hw hs

mutual
/-- no node carries a type annotation yet and every integer literal is a Go `int` (what the parser produces) -/
def fresh : Node → Bool
  | .nil m => m.kd == .invalid
  | .ident m _ _ => m.kd == .invalid
  | .int m v => m.kd == .invalid && decide (inRange .int v)
  | .float m _ => m.kd == .invalid
  | .bool m _ => m.kd == .invalid
  | .str m _ => m.kd == .invalid
  | .const m _ => m.kd == .invalid
  | .pointer m => m.kd == .invalid
  | .unary m _ x => m.kd == .invalid && fresh x
  | .binary m _ l r => m.kd == .invalid && fresh l && fresh r
  | .matches m _ l r => m.kd == .invalid && fresh l && fresh r
  | .prop m x _ _ => m.kd == .invalid && fresh x
  | .index m x i => m.kd == .invalid && fresh x && fresh i
  | .slice m x f t => m.kd == .invalid && fresh x && freshOpt f && freshOpt t
  | .method m x _ args _ => m.kd == .invalid && fresh x && freshList args
  | .func m _ args _ => m.kd == .invalid && freshList args
  | .builtin m _ args => m.kd == .invalid && freshList args
  | .closure m x => m.kd == .invalid && fresh x
  | .cond m a b d => m.kd == .invalid && fresh a && fresh b && fresh d
  | .array m xs => m.kd == .invalid && freshList xs
  | .map m xs => m.kd == .invalid && freshList xs
  | .pair m k v => m.kd == .invalid && fresh k && fresh v
def freshList : List Node → Bool
  | [] => true
  | n :: ns => fresh n && freshList ns
def freshOpt : Option Node → Bool
  | none => true
  | some n => fresh n
end

theorem fresh_kd : ∀ n : Node, fresh n = true → n.kd = .invalid := by
  intro n h
  cases n <;> simp only [fresh, Bool.and_eq_true, beq_iff_eq, and_assoc] at h
  case nil | ident | float | bool | str | const | pointer => exact h
  all_goals exact h.1

mutual
theorem fresh_wa : ∀ n : Node, fresh n = true → wa n = true
  | .nil _, _ | .ident .., _ | .float .., _ | .bool .., _ | .str .., _ | .const .., _ | .pointer _, _ => rfl
  | .int m v, h => by
    simp only [fresh, Bool.and_eq_true] at h
    simp only [wa, waHere]; exact h.2
  | .unary m op x, h => by
    simp only [fresh, Bool.and_eq_true, beq_iff_eq] at h
    simp only [wa, Bool.and_eq_true]
    refine ⟨?_, fresh_wa x h.2⟩
    have hx : x.kd = .invalid := fresh_kd x h.2
    have hm : m.kd = .invalid := h.1
    simp [waHere, hx, hm]
  | .binary m op l r, h => by
    simp only [fresh, Bool.and_eq_true, beq_iff_eq] at h
    simp only [wa, Bool.and_eq_true]
    refine ⟨⟨?_, fresh_wa l h.1.2⟩, fresh_wa r h.2⟩
    have hl : l.kd = .invalid := fresh_kd l h.1.2
    have hm : m.kd = .invalid := h.1.1
    simp [waHere, hl, hm, plainKd]
  | .matches m hh l r, h => by
    simp only [fresh, Bool.and_eq_true] at h; simp only [wa, Bool.and_eq_true]; exact ⟨fresh_wa l h.1.2, fresh_wa r h.2⟩
  | .prop m x _ _, h => by
    simp only [fresh, Bool.and_eq_true] at h; simp only [wa]; exact fresh_wa x h.2
  | .index m x i, h => by
    simp only [fresh, Bool.and_eq_true] at h; simp only [wa, Bool.and_eq_true]; exact ⟨fresh_wa x h.1.2, fresh_wa i h.2⟩
  | .slice m x f t, h => by
    simp only [fresh, Bool.and_eq_true] at h; simp only [wa, Bool.and_eq_true]
    exact ⟨⟨fresh_wa x h.1.1.2, freshOpt_wa f h.1.2⟩, freshOpt_wa t h.2⟩
  | .method m x _ args _, h => by
    simp only [fresh, Bool.and_eq_true] at h; simp only [wa, Bool.and_eq_true]
    exact ⟨fresh_wa x h.1.2, freshList_wa args h.2⟩
  | .func m _ args _, h => by
    simp only [fresh, Bool.and_eq_true] at h; simp only [wa]; exact freshList_wa args h.2
  | .builtin m _ args, h => by
    simp only [fresh, Bool.and_eq_true] at h; simp only [wa]; exact freshList_wa args h.2
  | .closure m x, h => by
    simp only [fresh, Bool.and_eq_true] at h; simp only [wa]; exact fresh_wa x h.2
  | .cond m a b d, h => by
    simp only [fresh, Bool.and_eq_true] at h; simp only [wa, Bool.and_eq_true]
    exact ⟨⟨fresh_wa a h.1.1.2, fresh_wa b h.1.2⟩, fresh_wa d h.2⟩
  | .array m xs, h => by
    simp only [fresh, Bool.and_eq_true] at h; simp only [wa]; exact freshList_wa xs h.2
  | .map m xs, h => by
    simp only [fresh, Bool.and_eq_true] at h; simp only [wa]; exact freshList_wa xs h.2
  | .pair m k v, h => by
    simp only [fresh, Bool.and_eq_true] at h; simp only [wa, Bool.and_eq_true]; exact ⟨fresh_wa k h.1.2, fresh_wa v h.2⟩
theorem freshList_wa : ∀ ns : List Node, freshList ns = true → waList ns = true
  | [], _ => rfl
  | n :: ns, h => by
    simp only [freshList, Bool.and_eq_true] at h; simp only [waList, Bool.and_eq_true]
    exact ⟨fresh_wa n h.1, freshList_wa ns h.2⟩
theorem freshOpt_wa : ∀ o : Option Node, freshOpt o = true → waOpt o = true
  | none, _ => rfl
  | some n, h => by simp only [freshOpt] at h; simp only [waOpt]; exact fresh_wa n h
end

end CheckerAnnot
end ExprModel
