import ExprModel.Opt.Driver
/-
C02, C13: what an `Exit` of the optimizer does at a node: it leaves the node alone, records a compile error at
it (`Rej`), or puts a new node in its place (`New`).  Each `…_step` takes its rule apart once, and its `New` lists the
nodes that may arise, each with those of the rule's tests that some proof needs (not all: `ConstRangeNew.full` omits
the size limit, `InArrayNew` the emptiness test — there is no converse); locations, constant values, annotations, what
is rejected and soundness are read off it.
-/
namespace ExprModel
namespace OptProofs
open Opt

/-- the value of a constant integer expression (literals, unary `-` `+`, `+ - * / %` with non-zero divisors) -/
def cval : Node → Option Int
  | .int _ v => some v
  | .unary _ op x =>
    match cval x with
    | some v => if op == "-" then some (wrap .int (-v)) else if op == "+" then some v else none
    | none => none
  | .binary _ op l r =>
    match cval l, cval r with
    | some a, some b =>
      if op == "+" then some (wrap .int (a + b))
      else if op == "-" then some (wrap .int (a - b))
      else if op == "*" then some (wrap .int (a * b))
      else if op == "/" then (if b == 0 then none else some (wrap .int (Int.tdiv a b)))
      else if op == "%" then (if b == 0 then none else some (wrap .int (Int.tmod a b)))
      else none
    | _, _ => none
  | _ => none

/-- `Rej`: when the rule may record an error at the node; `New`: the nodes it may put in its place;
    `marks`: the pass sets `applied` when it rewrites (the passes run in a loop do) -/
inductive Step (marks : Bool) (Rej : Prop) (New : Node → Prop) (N : Node) (st : St) : Node × St → Prop
  | keep : Step marks Rej New N st (N, st)
  | reject : Rej → Step marks Rej New N st (N, { st with err := some N.loc })
  | new {n' : Node} : New n' → Step marks Rej New N st (n', bif marks then applied st else st)

variable {marks : Bool} {Rej : Prop} {New : Node → Prop} {N : Node} {st : St} {out : Node × St}

theorem Step.err (h : Step marks Rej New N st out) (he : out.2.err ≠ st.err) : Rej := by
  cases h with
  | keep => exact absurd rfl he
  | reject hr => exact hr
  | new => cases marks <;> exact absurd rfl he

theorem Step.snd_eq (h : Step false False New N st out) : out.2 = st := by
  cases h with
  | keep => rfl
  | reject hr => exact hr.elim
  | new => rfl

theorem wrap_inRange (n : Int) : inRange .int (wrap .int n) := by
  simp only [inRange, Kind.isSigned, Kind.bits, if_true, wrap]
  omega

inductive FreshLeaf : Node → Prop
  | int (v : Int) : FreshLeaf (.int {} v)
  | float (v : UInt64) : FreshLeaf (.float {} v)
  | str (v : String) : FreshLeaf (.str {} v)
  | const (v : Val) : FreshLeaf (.const {} v)

/-- a fresh leaf with the location of `N` (`ast.Patch`, `patchWithType`) -/
def LeafAt (N n' : Node) : Prop := ∃ leaf kd, FreshLeaf leaf ∧ n' = leaf.withMeta ⟨N.loc, kd⟩

theorem LeafAt.patch {leaf : Node} (h : FreshLeaf leaf) : LeafAt N (patch N leaf) := ⟨leaf, N.kd, h, rfl⟩

theorem LeafAt.patchWithType {leaf : Node} (h : FreshLeaf leaf) (kd : RKind) : LeafAt N (patchWithType N kd leaf) :=
  ⟨leaf, kd, h, rfl⟩

def DivZeroLit (N : Node) : Prop := ∃ m op ma a mb, N = .binary m op (.int ma a) (.int mb 0) ∧ (op = "/" ∨ op = "%")

/-- the literal `fold` puts in the place of a node: annotated like the operand (`patchWithType`) or like the
    node (`ast.Patch`); with the operator the rule tested, and the folded value — a Go `int`: wrapped, except
    under unary `+`, which hands the operand's value on as it is (hence the implication in `sign`) -/
inductive FoldNew (fl : Flags) (w : World) : Node → Node → Prop
  | sign {m op mi i v} : (op == "-" || op == "+") = true → (fl.foldPlainOnly = true → plainKd mi.kd = true) →
      (inRange .int i → inRange .int v) → cval (.unary m op (.int mi i)) = some v →
      FoldNew fl w (.unary m op (.int mi i)) (.int ⟨m.loc, mi.kd⟩ v)
  | arith {m op ma a mb b v} : (op == "+" || op == "-" || op == "*" || op == "/") = true →
      (fl.foldPlainOnly = true → plainKd ma.kd = true ∧ plainKd mb.kd = true) → inRange .int v →
      cval (.binary m op (.int ma a) (.int mb b)) = some v →
      FoldNew fl w (.binary m op (.int ma a) (.int mb b)) (.int ⟨m.loc, ma.kd⟩ v)
  | mod {m ma a mb b v} : inRange .int v → cval (.binary m "%" (.int ma a) (.int mb b)) = some v →
      FoldNew fl w (.binary m "%" (.int ma a) (.int mb b)) (.int m v)
  | pow {m ma a mb b} :
      FoldNew fl w (.binary m "**" (.int ma a) (.int mb b)) (.float m (w.pow (Float.ofInt a) (Float.ofInt b)).toBits)
  | concat {m ma a mb b} : FoldNew fl w (.binary m "+" (.str ma a) (.str mb b)) (.str m (a ++ b))
  | ints {m xs vs} : xs.isEmpty = false → allInts xs = some vs →
      FoldNew fl w (.array m xs) (.const m (.arr (.num .int) (vs.map (Val.int .int))))
  | strs {m xs ss} : xs.isEmpty = false → allStrs xs = some ss →
      FoldNew fl w (.array m xs) (.const m (.arr .str (ss.map Val.str)))

theorem FoldNew.leafAt {fl : Flags} {w : World} {n' : Node} (h : FoldNew fl w N n') : LeafAt N n' := by
  cases h
  case sign | arith => exact .patchWithType (.int _) _
  case mod => exact .patch (.int _)
  case pow => exact .patch (.float _)
  case concat => exact .patch (.str _)
  case ints | strs => exact .patch (.const _)

theorem FoldNew.cval {fl : Flags} {w : World} {n' : Node} (h : FoldNew fl w N n') : cval n' = cval N := by
  cases h
  case sign h | arith h | mod h => exact h.symm
  all_goals rfl

theorem foldRule_step (fl : Flags) (w : World) (N : Node) (st : St) :
    Step true (DivZeroLit N) (FoldNew fl w N) N st (foldRule fl w N st) := by
  unfold foldRule
  split
  · refine iteInduction (fun _ => .keep) fun hg => ?_
    have hp : fl.foldPlainOnly = true → plainKd _ = true := fun hf => by simpa [hf] using hg
    exact iteInduction
      (fun h => .new (.sign (by rw [h]; rfl) hp (fun _ => wrap_inRange _) (by simp only [cval, h, if_true]))) fun h1 =>
      iteInduction
        (fun h2 => .new (.sign (by rw [h2]; exact Bool.or_true _) hp id
          (by simp only [cval, h1, h2, if_true, Bool.false_eq_true, if_false])))
        fun _ => .keep
  · rename_i m op ma a mb b
    refine iteInduction (fun h4 => iteInduction (fun _ => .keep) fun hg => ?_) (fun h4 => ?_)
    · have hp : fl.foldPlainOnly = true → plainKd ma.kd = true ∧ plainKd mb.kd = true := fun hf => by
        simpa [hf] using hg
      refine iteInduction (fun h => .new (.arith h4 hp (wrap_inRange _) (by simp only [cval, h, if_true]))) fun h1 => ?_
      refine iteInduction
        (fun h => .new (.arith h4 hp (wrap_inRange _) (by simp only [cval, h1, h, if_true, Bool.false_eq_true, if_false]))) fun h2 => ?_
      refine iteInduction
        (fun h => .new (.arith h4 hp (wrap_inRange _) (by simp only [cval, h1, h2, h, if_true, Bool.false_eq_true, if_false])))
        fun h3 => ?_
      -- the fourth operator of the list is `/`
      have h : (op == "/") = true := by simpa only [h1, h2, h3, Bool.false_or] using h4
      exact iteInduction (fun hb => .reject ⟨m, op, ma, a, mb, by rw [eq_of_beq hb], .inl (eq_of_beq h)⟩) fun hb =>
        .new (.arith h4 hp (wrap_inRange _) (by simp only [cval, h1, h2, h3, h, hb, if_true, Bool.false_eq_true, if_false]))
    · refine iteInduction (fun h => ?_) fun _ => iteInduction (fun h => ?_) fun _ => .keep
      · cases eq_of_beq h
        exact iteInduction (fun hb => .reject ⟨m, _, ma, a, mb, by rw [eq_of_beq hb], .inr rfl⟩) fun hb =>
          .new (.mod (wrap_inRange _) (by simp only [cval, String.reduceBEq, hb, if_true, Bool.false_eq_true, if_false]))
      · cases eq_of_beq h
        exact .new .pow
  · exact iteInduction (fun h => by cases eq_of_beq h; exact .new .concat) fun _ => .keep
  · refine iteInduction (fun _ => .keep) fun he => ?_
    have he : _ = false := Bool.eq_false_iff.2 he
    split
    · exact .new (.ints he ‹_›)
    · split
      · exact .new (.strs he ‹_›)
      · exact .keep
  · exact .keep

/-- a constant integer division or modulo by zero is rejected at its node: always for `%`, and for `/` when the
    literals pass the rule's own test (un-retyped, or `foldPlainOnly` off) -/
theorem foldRule_divzero (fl : Flags) (w : World) (m ma mb : Meta) (op : String) (a : Int) (st : St)
    (hop : op = "/" ∨ op = "%") (hp : fl.foldPlainOnly = false ∨ (plainKd ma.kd = true ∧ plainKd mb.kd = true)) :
    (foldRule fl w (.binary m op (.int ma a) (.int mb 0)) st).2.err = some m.loc := by
  rcases hop with rfl | rfl
  · rcases hp with hp | ⟨h1, h2⟩
    · simp [foldRule, hp, Node.loc, Node.getMeta]
    · simp [foldRule, h1, h2, Node.loc, Node.getMeta]
  · simp [foldRule, Node.loc, Node.getMeta]

/-- the outer node stays as it was (`ast.Patch` gives the new one location and type of the old); the constant in the
    place of the array is fresh: no type, location 0:0 -/
inductive InArrayNew (fl : Flags) : Node → Node → Prop
  | ints {m op l ma xs vs} : (op = "in" ∨ op = "not in") → l.kd = .num .int → allInts xs = some vs →
      InArrayNew fl (.binary m op l (.array ma xs)) (.binary m op l (.const {} (intSet vs)))
  | strs {m op l ma xs ss} : (op = "in" ∨ op = "not in") → (fl.inArrayStrGuard = true → l.kd = .string) →
      allStrs xs = some ss → InArrayNew fl (.binary m op l (.array ma xs)) (.binary m op l (.const {} (strSet ss)))

theorem InArrayNew.shape {fl : Flags} {N n' : Node} (h : InArrayNew fl N n') :
    ∃ m op l ma xs v, N = .binary m op l (.array ma xs) ∧ (op = "in" ∨ op = "not in") ∧
      n' = .binary m op l (.const {} v) := by
  cases h with
  | ints hop => exact ⟨_, _, _, _, _, _, rfl, hop, rfl⟩
  | strs hop => exact ⟨_, _, _, _, _, _, rfl, hop, rfl⟩

theorem inArrayRule_step (fl : Flags) (N : Node) (st : St) :
    Step false False (InArrayNew fl N) N st (inArrayRule fl N st) := by
  unfold inArrayRule
  split
  · rename_i m op l ma xs
    refine iteInduction (fun hc => ?_) fun _ => .keep
    have hop : op = "in" ∨ op = "not in" := by
      simp only [Bool.and_eq_true, Bool.or_eq_true, beq_iff_eq] at hc; exact hc.1
    dsimp only
    split
    · rename_i n' hn'
      split at hn'
      · rename_i hk
        cases hx : allInts xs with
        | none => rw [hx] at hn'; cases hn'
        | some vs => rw [hx] at hn'; cases hn'; exact .new (.ints hop (eq_of_beq hk) hx)
      · cases hn'
    · refine iteInduction (fun _ => .keep) fun hg => ?_
      split
      · exact .new (.strs hop (fun hf => by simpa [hf] using hg) ‹_›)
      · exact .keep
  · exact .keep

/-- `x >= a and x <= b` in the place of `N` (the `conj` of `inRangeRule`) -/
def rangeConj (N l : Node) (mf : Meta) (a : Int) (mt : Meta) (b : Int) : Node :=
  patch N (.binary {} "and" (.binary {} ">=" l (.int mf a)) (.binary {} "<=" l (.int mt b)))

/-- `neg`: the operator is `not in` -/
inductive InRangeNew (fl : Flags) : Node → Node → Prop
  | mk {m op l mr mf a mt b} (neg : Bool) : op = (if neg then "not in" else "in") →
      (fl.inRangeKindGuard = true → rangeKd l.kd = true) → (fl.inRangeSimpleLeft = true → simpleLeft l = true) →
      InRangeNew fl (.binary m op l (.binary mr ".." (.int mf a) (.int mt b)))
        (let N := .binary m op l (.binary mr ".." (.int mf a) (.int mt b))
         if neg then patch (rangeConj N l mf a mt b) (.unary {} "not" (rangeConj N l mf a mt b)) else rangeConj N l mf a mt b)

theorem inRangeRule_step (fl : Flags) (N : Node) (st : St) :
    Step false False (InRangeNew fl N) N st (inRangeRule fl N st) := by
  unfold inRangeRule
  split
  · refine iteInduction (fun hc => ?_) fun _ => .keep
    simp only [Bool.and_eq_true, Bool.or_eq_true, beq_iff_eq] at hc
    obtain ⟨hop, rfl⟩ := hc
    refine iteInduction (fun _ => .keep) fun hk => iteInduction (fun _ => .keep) fun hs => ?_
    have hk' := fun hf : fl.inRangeKindGuard = true => (by simpa [hf] using hk : rangeKd _ = true)
    have hs' := fun hf : fl.inRangeSimpleLeft = true => (by simpa [hf] using hs : simpleLeft _ = true)
    exact iteInduction (fun hn => .new (.mk true (eq_of_beq hn) hk' hs'))
      fun hn => .new (.mk false (hop.resolve_right fun h => hn (by rw [h]; rfl)) hk' hs')
  · exact .keep

inductive ConstRangeNew (fl : Flags) : Node → Node → Prop
  | empty {m ma lo mb hi} : (fl.constRangeNoOverflow = true → hi < lo) →
      (fl.constRangeNoOverflow = false → wrap .int (hi - lo + 1) < 1) →
      ConstRangeNew fl (.binary m ".." (.int ma lo) (.int mb hi)) (.const m (.arr (.num .int) []))
  | full {m ma lo mb hi} : (fl.constRangeNoOverflow = true → ¬ hi < lo) → 1 ≤ wrap .int (hi - lo + 1) →
      ConstRangeNew fl (.binary m ".." (.int ma lo) (.int mb hi))
        (.const m (.arr (.num .int) (rangeVals lo (wrap .int (hi - lo + 1)).toNat)))

theorem ConstRangeNew.leafAt {fl : Flags} {n' : Node} (h : ConstRangeNew fl N n') : LeafAt N n' := by
  cases h <;> exact .patch (.const _)

theorem constRangeRule_step (fl : Flags) (N : Node) (st : St) :
    Step false False (ConstRangeNew fl N) N st (constRangeRule fl N st) := by
  unfold constRangeRule
  split
  · refine iteInduction (fun hop => ?_) fun _ => .keep
    cases eq_of_beq hop
    refine iteInduction (fun hf => ?_) fun hf => ?_
    · refine iteInduction (fun hlt => .new (.empty (fun _ => hlt) fun h => Bool.noConfusion (hf.symm.trans h))) fun hge =>
        iteInduction (fun _ => .keep) fun hs => .new (.full (fun _ => hge) ?_)
      simp only [Bool.or_eq_true, decide_eq_true_eq, not_or, Int.not_lt] at hs
      exact hs.1
    · exact iteInduction (fun h1 => .new (.empty (fun h => absurd h hf) fun _ => h1)) fun h1 =>
        iteInduction (fun _ => .keep) fun _ => .new (.full (fun h => absurd h hf) (Int.not_lt.mp h1))
  · exact .keep

def ConstCallFails (fl : Flags) (fns : ConstFns) (w : World) (N : Node) : Prop :=
  ∃ m name args fast id vs e, N = .func m name args fast ∧ fns.lookup name = some id ∧
    constArgs fl args = some vs ∧ w.call id vs = .error e

inductive ConstExprNew (fl : Flags) (fns : ConstFns) (w : World) : Node → Node → Prop
  | call {m name args fast id vs v} : fns.lookup name = some id → constArgs fl args = some vs → w.call id vs = .ok v →
      ConstExprNew fl fns w (.func m name args fast) (.const m v)

theorem ConstExprNew.leafAt {fl : Flags} {fns : ConstFns} {w : World} {n' : Node} (h : ConstExprNew fl fns w N n') :
    LeafAt N n' := by
  cases h
  exact .patch (.const _)

theorem constExprRule_step (fl : Flags) (fns : ConstFns) (w : World) (N : Node) (st : St) :
    Step true (ConstCallFails fl fns w N) (ConstExprNew fl fns w N) N st (constExprRule fl fns w N st) := by
  unfold constExprRule
  split
  · rename_i m name args fast
    split
    · exact .keep
    · rename_i id hid
      split
      · exact .keep
      · rename_i vs hvs
        split
        · exact .new (.call hid hvs ‹_›)
        · rename_i e he
          exact .reject ⟨m, name, args, fast, id, vs, e, rfl, hid, hvs, he⟩
  · exact .keep

end OptProofs
end ExprModel
