import ExprModel.Proofs.RefineExec
import ExprModel.Spec.Eval
/-
C01: multi-step relations.  `Steps` = successful dispatch-loop iterations; `Reach` = `Steps` up to the
(unobservable on success) `pp` register; `ReachErr` = run into a failing step with a given class and observable
state, at an instruction on whose location the program's blame relation puts that class; `Runs c P s Q` = `Reach` to
the state, or `ReachErr` to the failure, that `Q : Res` names.
-/
namespace ExprModel.Refine
open ExprModel
open ExprModel.Spec (SState)

/-- The canonical VM state over a Spec state.  `pp := 0` stands for every value of that register (`step_noPP`); an
    arbitrary state is compared with it through `noPP`. -/
def vm (ip : Nat) (st : List Val) (scs : List Scope) (σ : SState) (lim : Int) : VM :=
  { stack := st, scopes := scs, ip := ip, pp := 0, memory := σ.memory, limit := lim, created := σ.created, log := σ.log }

def noPP (s : VM) : VM := { s with pp := 0 }

@[simp] theorem noPP_vm (ip st scs σ lim) : noPP (vm ip st scs σ lim) = vm ip st scs σ lim := rfl
@[simp] theorem noPP_noPP (s : VM) : noPP (noPP s) = noPP s := rfl

/-- by `rfl`: the first thing `step` does is to overwrite `pp` with `ip`, before anything reads it.  This is what
    allows `Reach` to identify states that differ in `pp` only. -/
theorem step_noPP (c : Cfg) (P : Prog) (s : VM) : step c P (noPP s) = step c P s := rfl

theorem step_congr_noPP {c : Cfg} {P : Prog} {s s2 : VM} (h : noPP s = noPP s2) : step c P s = step c P s2 := by
  rw [← step_noPP c P s, h, step_noPP]

theorem ip_of_noPP {s s2 : VM} (h : noPP s = noPP s2) : s.ip = s2.ip := by
  have := congrArg VM.ip h; exact this

inductive Steps (c : Cfg) (P : Prog) : VM → VM → Prop
  | refl (s : VM) : Steps c P s s
  | step {s s' s'' : VM} : s.ip < P.code.size → step c P s = .ok s' → Steps c P s' s'' → Steps c P s s''

theorem Steps.trans {c P a b d} (h1 : Steps c P a b) (h2 : Steps c P b d) : Steps c P a d := by
  induction h1 with
  | refl => exact h2
  | step hlt hs _ ih => exact .step hlt hs (ih h2)

theorem Steps.congr_noPP {c P s s2 t} (h : noPP s = noPP s2) (hs : Steps c P s t) :
    ∃ t', Steps c P s2 t' ∧ noPP t' = noPP t := by
  cases hs with
  | refl => exact ⟨s2, .refl _, h.symm⟩
  | step hlt hst rest =>
    refine ⟨t, .step ?_ ?_ rest, rfl⟩
    · rw [← ip_of_noPP h]; exact hlt
    · rw [← step_congr_noPP h]; exact hst

def Reach (c : Cfg) (P : LProg) (s t : VM) : Prop := ∃ t', Steps c P.prog s t' ∧ noPP t' = noPP t

theorem Reach.refl {c P} (s : VM) : Reach c P s s := ⟨s, .refl _, rfl⟩

theorem Reach.trans {c P a b d} (h1 : Reach c P a b) (h2 : Reach c P b d) : Reach c P a d := by
  obtain ⟨b', hab, hb⟩ := h1
  obtain ⟨d', hbd, hd⟩ := h2
  obtain ⟨d'', hbd', hd'⟩ := hbd.congr_noPP hb.symm
  exact ⟨d'', hab.trans hbd', hd'.trans hd⟩

/-- mirrors the code in two places: slice evaluates its upper bound first; `OpRange` counts as
    `defects.rangeSizeSigned` says -/
def specOf (c : Cfg) : Spec.SCfg :=
  { world := c.world, env := c.env, budget := c.budget, rangeSizeSigned := c.defects.rangeSizeSigned, sliceToFirst := true }

/-- the part of a VM state the language definition has as well -/
def obs (s : VM) : SState := ⟨s.memory, s.created, s.log⟩

@[simp] theorem obs_vm (ip st scs σ lim) : obs (vm ip st scs σ lim) = σ := rfl

def ReachErr (c : Cfg) (P : LProg) (s : VM) (e : ErrClass) (σ : SState) : Prop :=
  ∃ s1 s2, Steps c P.prog s s1 ∧ s1.ip < P.prog.code.size ∧ step c P.prog s1 = .error (e, s2) ∧ obs s2 = σ ∧
    ∃ i r, CodeAt P s1.ip (i :: r) ∧ P.blame e i.loc

theorem Reach.trans_err {c P a b e σ} (h1 : Reach c P a b) (h2 : ReachErr c P b e σ) : ReachErr c P a e σ := by
  obtain ⟨b', hab, hb⟩ := h1
  obtain ⟨s1, s2, hs, hlt, hst, ho, i, r, hat, hbl⟩ := h2
  obtain ⟨s1', hs', h1'⟩ := hs.congr_noPP hb.symm
  refine ⟨s1', s2, hab.trans hs', ?_, ?_, ho, i, r, ?_, hbl⟩
  · rw [ip_of_noPP h1']; exact hlt
  · rw [step_congr_noPP h1']; exact hst
  · rw [ip_of_noPP h1']; exact hat

inductive Res where
  | ok (t : VM)
  | err (e : ErrClass) (σ : SState)

def Runs (c : Cfg) (P : LProg) (s : VM) : Res → Prop
  | .ok t => Reach c P s t
  | .err e σ => ReachErr c P s e σ

@[simp] theorem Runs_ok {c P s t} : Runs c P s (.ok t) ↔ Reach c P s t := Iff.rfl
@[simp] theorem Runs_err {c P s e σ} : Runs c P s (.err e σ) ↔ ReachErr c P s e σ := Iff.rfl

theorem Reach.runs {c P a b R} (h1 : Reach c P a b) (h2 : Runs c P b R) : Runs c P a R := by
  cases R with
  | ok t => exact h1.trans h2
  | err e σ => exact h1.trans_err h2

/-- `σ` is the Spec state after `r`, whether or not it failed -/
def outcome (r : R Val) (ip : Nat) (st : List Val) (scs : List Scope) (σ : SState) (lim : Int) : Res :=
  match r with
  | .ok v => .ok (vm ip (v :: st) scs σ lim)
  | .error e => .err e σ

@[simp] theorem outcome_ok (v ip st scs σ lim) : outcome (.ok v) ip st scs σ lim = .ok (vm ip (v :: st) scs σ lim) := rfl
@[simp] theorem outcome_error (e ip st scs σ lim) : outcome (.error e) ip st scs σ lim = .err e σ := rfl

theorem Runs.congr_noPP {c P s s2 Q} (hr : Runs c P s Q) (h : noPP s = noPP s2) : Runs c P s2 Q :=
  Reach.runs ⟨s2, .refl _, h.symm⟩ hr

/-- what the instruction at `l`, executed to `x`, owes to `Runs … Q` (`Runs.exec`) -/
def ExecPost (c : Cfg) (P : LProg) (l : Loc) (x : RV VM) (Q : Res) : Prop :=
  match x with
  | .ok s' => Runs c P s' Q
  | .error (e, s2) => Q = .err e (obs s2) ∧ P.blame e l

theorem ExecPost.ok {c P l s s' Q} (hr : Runs c P s Q) (h : noPP s = noPP s') : ExecPost c P l (.ok s') Q :=
  hr.congr_noPP h

theorem Runs.exec {c : Cfg} {P : LProg} {k : Nat} {i : LInstr} {r : List LInstr} {Q : Res}
    (h : CodeAt P k (i :: r)) {s : VM} (hs : s.ip = k)
    (hx : ExecPost c P i.loc (execI c P.consts i.instr { s with pp := k, ip := k + 1 }) Q) : Runs c P s Q := by
  have hb := h.bytes
  have hst := step_at (c := c) hb s hs
  have hlt : s.ip < P.prog.code.size := by rw [hs]; exact hb.lt
  unfold ExecPost at hx
  cases hex : execI c P.consts i.instr { s with pp := k, ip := k + 1 } with
  | ok s' =>
    rw [hex] at hx hst
    exact Reach.runs ⟨s', .step hlt hst (.refl _), rfl⟩ hx
  | error es =>
    obtain ⟨e, s2⟩ := es
    rw [hex] at hx hst
    simp only at hx
    obtain ⟨hx, hbl⟩ := hx
    subst hx
    exact ⟨s, s2, .refl _, hlt, hst, rfl, i, r, hs ▸ h, hbl⟩

end ExprModel.Refine
