import ExprModel.Proofs.RefineLoc
/-
C13: forgetting the locations of the instrumented reference evaluator gives the reference evaluator back,
`(evalLoc c ctx n).erase = eval c ctx n` for every tree, context (and, the two being functions of the
state, every state).  `erase` commutes with `bind`, `if` and the index loop, and undoes `raisedAt`; `evalLoc`
is `eval` with the node's own steps wrapped in `raisedAt`, so each clause is that composition.
-/
namespace ExprModel
namespace Spec
open SML

theorem erase_apply {α : Type} (m : SML α) (σ : SState) : m.erase σ = match m σ with
      | (.ok a, s') => (.ok a, s')
      | (.error e, s') => (.error e.1, s') := rfl

theorem erase_pure {α : Type} (a : α) : (pure a : SML α).erase = pure a := rfl

theorem erase_bind {α β : Type} (m : SML α) (f : α → SML β) : (m >>= f).erase = m.erase >>= fun a => (f a).erase := by
  funext σ
  rw [erase_apply, SML.bind_apply, Spec.SM.bind_apply, erase_apply]
  cases hm : m σ with
  | mk r σ1 => cases r <;> simp only [erase_apply]

theorem erase_raisedAt {α : Type} (l : Loc) (t : SM α) : (raisedAt l t).erase = t := by
  funext σ
  rw [erase_apply, raisedAt_apply]
  cases ht : t σ with
  | mk r σ1 => cases r <;> rfl

theorem erase_bind_eq {α β : Type} {m : SML α} {f : α → SML β} {m' : SM α} {f' : α → SM β}
    (hm : m.erase = m') (hf : ∀ a, (f a).erase = f' a) : (m >>= f).erase = m' >>= f' := by
  rw [erase_bind, hm, funext hf]

theorem erase_ite_eq {α : Type} {p : Prop} [Decidable p] {a b : SML α} {a' b' : SM α}
    (ha : a.erase = a') (hb : b.erase = b') : (if p then a else b).erase = if p then a' else b' := by
  split
  · exact ha
  · exact hb

theorem erase_loopIdxL_eq {α : Type} {body : Nat → α → SML (α ⊕ Val)} {body' : Nat → α → SM (α ⊕ Val)}
    (hb : ∀ i a, (body i a).erase = body' i a) :
    ∀ (fuel i : Nat) (acc : α), (loopIdxL body fuel i acc).erase = loopIdx body' fuel i acc
  | 0, _, _ => rfl
  | fuel + 1, i, acc => by
    rw [loopIdxL, loopIdx]
    refine erase_bind_eq (hb i acc) fun r => ?_
    cases r with
    | inl a => exact erase_loopIdxL_eq hb fuel (i + 1) a
    | inr v => rfl

/-- the right-hand side is the shape of the seven clauses `eval_builtin_<name>` -/
theorem erase_loopL {c : SCfg} {ctx : Ctx} {a b : Node} (l : Loc) {α : Type}
    {post : Val → Nat → α → Val → SML (α ⊕ Val)} {post' : Val → Nat → α → Val → SM (α ⊕ Val)} (acc0 : α)
    (fin : Int → α ⊕ Val → SM Val) (ha : (evalLoc c ctx a).erase = eval c ctx a)
    (hb : ∀ coll (i : Nat), (evalLoc c ((coll, (i : Int)) :: ctx) b).erase = eval c ((coll, (i : Int)) :: ctx) b)
    (hp : ∀ coll i acc x, (post coll i acc x).erase = post' coll i acc x) :
    (Refine.loopL c ctx a b l post acc0 fin).erase =
      (eval c ctx a >>= fun coll => SM.lift (lengthV coll) >>= fun n =>
        loopIdx (fun i acc => eval c ((coll, (i : Int)) :: ctx) b >>= post' coll i acc) n.toNat 0 acc0 >>= fin n) :=
  erase_bind_eq ha fun coll => erase_bind_eq (erase_raisedAt _ _) fun _ =>
    erase_bind_eq (erase_loopIdxL_eq (fun i acc => erase_bind_eq (hb coll i) (hp coll i acc)) _ _ _)
      fun _ => erase_raisedAt _ _

theorem evalLoc_erase_bad (c : SCfg) (ctx : Ctx) (m : Meta) (name : String) (args : List Node)
    (h2 : args.length ≠ 2) (h1 : name = "len" → args.length ≠ 1) :
    (evalLoc c ctx (.builtin m name args)).erase = eval c ctx (.builtin m name args) := by
  rw [evalLoc_builtin_bad c ctx m name args h2 h1, eval_builtin_bad c ctx m name args h2 h1]
  exact erase_raisedAt _ _

mutual
theorem evalLoc_erase (c : SCfg) : (n : Node) → ∀ ctx, (evalLoc c ctx n).erase = eval c ctx n
  | .nil _, _ => rfl
  | .ident .., _ => erase_raisedAt _ _
  | .int .., _ => rfl
  | .float .., _ => rfl
  | .bool .., _ => rfl
  | .str .., _ => rfl
  | .const .., _ => rfl
  | .pointer _, _ => erase_raisedAt _ _
  | .unary _ _ x, ctx => erase_bind_eq (evalLoc_erase c x ctx) fun _ => erase_raisedAt _ _
  | .binary _ _ l r, ctx =>
    erase_ite_eq
      (erase_bind_eq (evalLoc_erase c l ctx) fun _ => erase_bind_eq (erase_raisedAt _ _) fun _ =>
        erase_ite_eq (evalLoc_erase c r ctx) rfl)
      (erase_ite_eq
        (erase_bind_eq (evalLoc_erase c l ctx) fun _ => erase_bind_eq (erase_raisedAt _ _) fun _ =>
          erase_ite_eq rfl (evalLoc_erase c r ctx))
        (erase_bind_eq (evalLoc_erase c l ctx) fun _ => erase_bind_eq (evalLoc_erase c r ctx) fun _ =>
          erase_raisedAt _ _))
  | .matches _ _ l r, ctx =>
    erase_bind_eq (evalLoc_erase c l ctx) fun _ => erase_ite_eq (erase_raisedAt _ _)
      (erase_bind_eq (evalLoc_erase c r ctx) fun _ => erase_raisedAt _ _)
  | .prop _ x _ _, ctx => erase_bind_eq (evalLoc_erase c x ctx) fun _ => erase_raisedAt _ _
  | .index _ x i, ctx =>
    erase_bind_eq (evalLoc_erase c x ctx) fun _ => erase_bind_eq (evalLoc_erase c i ctx) fun _ =>
      erase_raisedAt _ _
  | .slice m x f t, ctx => by
    have hf : (match f with
        | some f => evalLoc c ctx f
        | none => pure (.int .int 0)).erase = boundOr c ctx (pure (.int .int 0)) f := by
      cases f with
      | none => rfl
      | some f => exact evalLoc_erase c f ctx
    have ht : ∀ a, (match t with
        | some t => evalLoc c ctx t
        | none => raisedAt m.loc (do pure (.int .int (← SM.lift (lengthV a))))).erase =
          boundOr c ctx (do pure (.int .int (← SM.lift (lengthV a)))) t := fun a => by
      cases t with
      | none => exact erase_raisedAt _ _
      | some t => exact evalLoc_erase c t ctx
    rw [Refine.evalLoc_slice, eval_slice]
    exact erase_bind_eq (evalLoc_erase c x ctx) fun a => erase_ite_eq
      (erase_bind_eq (ht a) fun _ => erase_bind_eq hf fun _ => erase_raisedAt _ _)
      (erase_bind_eq hf fun _ => erase_bind_eq (ht a) fun _ => erase_raisedAt _ _)
  | .method _ x _ args _, ctx =>
    erase_bind_eq (evalLoc_erase c x ctx) fun _ => erase_bind_eq (evalListLoc_erase c args ctx) fun _ =>
      erase_raisedAt _ _
  | .func _ _ args _, ctx => erase_bind_eq (evalListLoc_erase c args ctx) fun _ => erase_raisedAt _ _
  | .builtin _ _ [], _ => evalLoc_erase_bad _ _ _ _ _ (by decide) (fun _ => by decide)
  | .builtin _ name [a], ctx => by
    by_cases hn : name = "len"
    · subst hn
      exact erase_bind_eq (evalLoc_erase c a ctx) fun _ => erase_raisedAt _ _
    · exact evalLoc_erase_bad _ _ _ _ _ (by simp) (fun h => absurd h hn)
  | .builtin m name [a, b], ctx => by
    have loop : ∀ {α : Type} {post : Val → Nat → α → Val → SML (α ⊕ Val)} {post' : Val → Nat → α → Val → SM (α ⊕ Val)}
        (acc0 : α) (fin : Int → α ⊕ Val → SM Val), (∀ coll i acc x, (post coll i acc x).erase = post' coll i acc x) →
        (Refine.loopL c ctx a b m.loc post acc0 fin).erase = _ :=
      fun acc0 fin => erase_loopL m.loc acc0 fin (evalLoc_erase c a ctx) fun coll i => evalLoc_erase c b _
    cases hn : builtinNames.contains name with
    | false =>
      rw [Refine.evalLoc_builtin_unknown c ctx m name a b hn, eval_builtin_unknown c ctx m name a b hn]
      exact erase_raisedAt _ _
    | true =>
      rcases builtinNames_cases hn with rfl | rfl | rfl | rfl | rfl | rfl | rfl
      · rw [Refine.evalLoc_all, eval_builtin_all]
        exact loop _ _ fun _ _ _ _ => erase_raisedAt _ _
      · rw [Refine.evalLoc_none, eval_builtin_none]
        exact loop _ _ fun _ _ _ _ => erase_raisedAt _ _
      · rw [Refine.evalLoc_any, eval_builtin_any]
        exact loop _ _ fun _ _ _ _ => erase_raisedAt _ _
      · rw [Refine.evalLoc_one, eval_builtin_one]
        exact loop _ _ fun _ _ _ _ => erase_raisedAt _ _
      · rw [Refine.evalLoc_filter, eval_builtin_filter]
        exact loop _ _ fun _ _ _ _ => erase_raisedAt _ _
      · rw [Refine.evalLoc_bmap, eval_builtin_map]
        exact loop _ _ fun _ _ _ _ => rfl
      · rw [Refine.evalLoc_count, eval_builtin_count]
        exact loop _ _ fun _ _ _ _ => erase_raisedAt _ _
  | .builtin _ _ (_ :: _ :: _ :: _), _ => evalLoc_erase_bad _ _ _ _ _ (by simp) (fun _ => by simp)
  | .closure _ x, ctx => evalLoc_erase c x ctx
  | .cond _ cnd a b, ctx =>
    erase_bind_eq (evalLoc_erase c cnd ctx) fun _ => erase_bind_eq (erase_raisedAt _ _) fun _ =>
      erase_ite_eq (evalLoc_erase c a ctx) (evalLoc_erase c b ctx)
  | .array _ xs, ctx => erase_bind_eq (evalListLoc_erase c xs ctx) fun _ => erase_raisedAt _ _
  | .map _ ps, ctx => erase_bind_eq (evalListLoc_erase c ps ctx) fun _ => erase_raisedAt _ _
  | .pair .., _ => erase_raisedAt _ _
theorem evalListLoc_erase (c : SCfg) : (ns : List Node) → ∀ ctx, (evalListLoc c ctx ns).erase = evalList c ctx ns
  | [], _ => rfl
  | n :: rest, ctx => by
    have ihn := evalLoc_erase c n ctx
    have ihr := evalListLoc_erase c rest ctx
    cases n
    case pair m k v =>
      exact erase_bind_eq (evalLoc_erase c k ctx) fun _ => erase_bind_eq (evalLoc_erase c v ctx) fun _ =>
        erase_bind_eq ihr fun _ => rfl
    all_goals exact erase_bind_eq ihn fun _ => erase_bind_eq ihr fun _ => rfl
end

def dropLoc {α : Type} : Except LErr α × SState → R α × SState
  | (.ok a, s) => (.ok a, s)
  | (.error e, s) => (.error e.1, s)

theorem erase_dropLoc {α : Type} (m : SML α) (σ : SState) : m.erase σ = dropLoc (m σ) := rfl

theorem dropLoc_eq_error {α : Type} {p : Except LErr α × SState} {e : ErrClass} {σ' : SState}
    (h : dropLoc p = (.error e, σ')) : ∃ l, p = (.error (e, l), σ') := by
  obtain ⟨r, s⟩ := p
  cases r with
  | ok a => cases h
  | error el => cases h; exact ⟨el.2, rfl⟩

theorem dropLoc_eq_ok {α : Type} {p : Except LErr α × SState} {a : α} {σ' : SState}
    (h : dropLoc p = (.ok a, σ')) : p = (.ok a, σ') := by
  obtain ⟨r, s⟩ := p
  cases r with
  | ok b =>
    cases h
    rfl
  | error el => cases h

theorem evalLoc_dropLoc (c : SCfg) (ctx : Ctx) (n : Node) (σ : SState) : dropLoc (evalLoc c ctx n σ) = eval c ctx n σ :=
  congrFun (evalLoc_erase c n ctx) σ

theorem evalLoc_of_ok {c : SCfg} {ctx : Ctx} {n : Node} {σ σ' : SState} {v : Val}
    (h : eval c ctx n σ = (.ok v, σ')) : evalLoc c ctx n σ = (.ok v, σ') :=
  dropLoc_eq_ok ((evalLoc_dropLoc c ctx n σ).trans h)

theorem _root_.ExprModel.Refine.evalListLoc_of_ok {c : SCfg} {ctx : Ctx} {ns : List Node} {σ σ' : SState} {vs : List Val}
    (h : evalList c ctx ns σ = (.ok vs, σ')) : evalListLoc c ctx ns σ = (.ok vs, σ') :=
  dropLoc_eq_ok ((congrFun (evalListLoc_erase c ns ctx) σ).trans h)

theorem evalLoc_of_error {c : SCfg} {ctx : Ctx} {n : Node} {σ σ' : SState} {e : ErrClass}
    (h : eval c ctx n σ = (.error e, σ')) : ∃ l, evalLoc c ctx n σ = (.error (e, l), σ') :=
  dropLoc_eq_error ((evalLoc_dropLoc c ctx n σ).trans h)

theorem eval_of_evalLoc_error {c : SCfg} {ctx : Ctx} {n : Node} {σ σ' : SState} {e : ErrClass} {l : Loc}
    (h : evalLoc c ctx n σ = (.error (e, l), σ')) : eval c ctx n σ = (.error e, σ') := by
  rw [← evalLoc_dropLoc, h]
  rfl

theorem _root_.ExprModel.Refine.eval_of_evalLoc_ok {sc : SCfg} {ctx : Ctx} {n : Node} {σ σ' : SState} {v : Val}
    (h : evalLoc sc ctx n σ = (.ok v, σ')) : eval sc ctx n σ = (.ok v, σ') := by
  rw [← evalLoc_dropLoc, h]; rfl

theorem runLoc_none (c : SCfg) (n : Node) : runLoc c none n = evalLoc c [] n {} := by
  unfold runLoc
  cases evalLoc c [] n {} with
  | mk r s => cases r <;> rfl

theorem runLoc_dropLoc (c : SCfg) (cast : Option Nat) (n : Node) : dropLoc (runLoc c cast n) = run c cast n := by
  unfold runLoc run
  rw [← evalLoc_dropLoc c [] n {}]
  cases hl : evalLoc c [] n {} with
  | mk r s =>
    cases r with
    | error e => rfl
    | ok v =>
      cases cast with
      | none => rfl
      | some t =>
        simp only [dropLoc]
        cases castV t v <;> rfl

end Spec
end ExprModel
