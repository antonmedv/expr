import ExprModel.Proofs.LexLayout
import ExprModel.Proofs.LexNumber
/-
Number tokens (C12; as spellings, for the print/parse round trip C11).  `scanNumber_ok` follows `scanNumber` through
its stages on a text cut accordingly; from it decimal / exponent and `0x` spellings are read back as one Number token
whatever follows (`Spells`), hence also alone in the source.
-/
namespace ExprModel.Lex

/-- `scanNumber` on a text cut at the places where its stages stop: after the optional prefix the digits `pre` of
the class `D` are left, the fraction ends before `tl2`, the exponent before `rest`, and no alphanumeric rune
follows -/
theorem scanNumber_ok {cc : CharClass} {T : LexTables} {s : LState} {text D pre tl tl2 rest : List Char}
    (hD : (numberDigits T s text).1 = D) (hpre : (numberDigits T s text).2.2 = pre ++ tl)
    (hin : ∀ x ∈ pre, D.contains x = true) (htl : ∀ c, tl.head? = some c → D.contains c = false)
    (hF : ∀ s1, ∃ s2, numberFraction T D s1 tl = some (s2, tl2))
    (hE : ∀ s2, (numberExponent T D s2 tl2).2 = rest)
    (hrest : ∀ x, rest.head? = some x → cc.isAlphaNumeric x = false) :
    ∃ s', scanNumber cc T s text = (true, s', rest) := by
  have har : (acceptRun D (numberDigits T s text).2.1 (numberDigits T s text).2.2).2 = tl := by
    rw [hpre]; exact acceptRunP_span (fun c => D.contains c) pre tl hin htl _
  rw [scanNumber_eq, hD, har]
  obtain ⟨s2, hB⟩ := hF (acceptRun D (numberDigits T s text).2.1 (numberDigits T s text).2.2).1
  exact numberTail_ok hB (hE s2) hrest

/-- what may follow a number: no alphanumeric rune (`scanNumber` would reject the number) and no `.` (a single one
would be read as the fraction point; that the lexer does stop before `..` is not used) -/
def IntFollow (cc : CharClass) (rest : List Char) : Prop :=
  ∀ x, rest.head? = some x → cc.isAlphaNumeric x = false ∧ x ≠ '.'

theorem IntFollow.not_mem {cc : CharClass} {rest : List Char} (hok : IntFollow cc rest) {v : List Char}
    (hv : ∀ x, v.contains x = true → cc.isAlphaNumeric x = true) :
    ∀ x, rest.head? = some x → v.contains x = false := by
  intro x hx
  cases hvx : v.contains x with
  | false => rfl
  | true => have := hv x hvx; rw [(hok x hx).1] at this; cases this

theorem IntFollow.no_dot {cc : CharClass} {rest : List Char} (hok : IntFollow cc rest) :
    ∀ x, rest.head? = some x → LexTables.std.dotC.contains x = false := by
  intro x hx; simp [LexTables.std, (hok x hx).2]

theorem intFollow_nil (cc : CharClass) : IntFollow cc [] := fun _ h => by cases h

theorem spells_number {cc : CharClass} (hcc : cc.AsciiExact) {c : Char} {cs : List Char} {ok : List Char → Prop}
    (hc : '0' ≤ c ∧ c ≤ '9')
    (h : ∀ (s : LState) (rest : List Char), ok rest →
      ∃ s1, scanNumber cc LexTables.std s (c :: (cs ++ rest)) = (true, s1, rest)) :
    Spells cc .number (String.ofList (c :: cs)) (c :: cs) ok := by
  refine spells_plain (by simp) (by decide) (fun h => by cases h) fun s L rest _ hok => ?_
  obtain ⟨s1, hs1⟩ := h (s.stay (c :: (cs ++ rest))) rest hok
  rw [List.cons_append, root_of_class (rootClass_digit hcc hc)]
  simp only [rootBranch, numberState, hs1]
  exact emit_tok _ _ _

structure FloatParts where
  d0 : Char
  /-- further digits and separators of the integer part -/
  ip : List Char
  frac : Option (List Char)
  /-- exponent letter, sign (empty, `+` or `-`), digits -/
  exp : Option (Char × List Char × List Char)

def FloatParts.fracText (p : FloatParts) : List Char :=
  match p.frac with
  | none => []
  | some fs => '.' :: fs

def FloatParts.expText (p : FloatParts) : List Char :=
  match p.exp with
  | none => []
  | some (e, sg, xs) => e :: (sg ++ xs)

def FloatParts.text (p : FloatParts) : List Char := p.d0 :: (p.ip ++ (p.fracText ++ p.expText))

/-- unfolds to the test `acceptRun LexTables.std.decDigits` makes, so a field of `WF` is a run hypothesis of
`acceptRunP_span` as it stands -/
def isDec (c : Char) : Bool := LexTables.std.decDigits.contains c

structure FloatParts.WF (p : FloatParts) : Prop where
  d0 : '0' ≤ p.d0 ∧ p.d0 ≤ '9'
  ip : ∀ x ∈ p.ip, isDec x = true
  frac : ∀ fs, p.frac = some fs → ∀ x ∈ fs, isDec x = true
  exp : ∀ e sg xs, p.exp = some (e, sg, xs) →
    (e = 'e' ∨ e = 'E') ∧ (sg = [] ∨ sg = ['+'] ∨ sg = ['-']) ∧ ∀ x ∈ xs, isDec x = true

/-- an exponent, when present, has at least one digit (otherwise a following `+`/`-` would be read as its sign) -/
def FloatParts.ExpDigits (p : FloatParts) : Prop := ∀ e sg xs, p.exp = some (e, sg, xs) → xs ≠ []

/-- what the lexer needs of `ExpDigits`: a bare exponent letter is not followed by a sign -/
def FloatParts.SignSafe (p : FloatParts) (rest : List Char) : Prop :=
  ∀ e, p.exp = some (e, [], []) → ∀ c, rest.head? = some c → LexTables.std.signs.contains c = false

theorem FloatParts.ExpDigits.signSafe {p : FloatParts} (h : p.ExpDigits) (rest : List Char) : p.SignSafe rest :=
  fun e he => absurd rfl (h e [] [] he)

theorem FloatParts.signSafe_nil (p : FloatParts) : p.SignSafe [] := fun _ _ _ hc => by cases hc

theorem FloatParts.WF.chars {p : FloatParts} (hp : p.WF) :
    ∀ c ∈ p.text, isDec c = true ∨ c ∈ ['.', 'e', 'E', '+', '-'] := by
  intro c hc
  simp only [FloatParts.text, List.mem_cons, List.mem_append] at hc
  rcases hc with rfl | hc | hc | hc
  · exact Or.inl (decDigits_contains hp.d0)
  · exact Or.inl (hp.ip c hc)
  · unfold FloatParts.fracText at hc
    cases hfr : p.frac with
    | none => simp [hfr] at hc
    | some fs =>
      simp only [hfr, List.mem_cons] at hc
      rcases hc with rfl | hc
      · exact Or.inr (by decide)
      · exact Or.inl (hp.frac fs hfr c hc)
  · unfold FloatParts.expText at hc
    cases hex : p.exp with
    | none => simp [hex] at hc
    | some q =>
      obtain ⟨e, sg, xs⟩ := q
      obtain ⟨h1, h2, h3⟩ := hp.exp _ _ _ hex
      simp only [hex, List.mem_cons, List.mem_append] at hc
      rcases hc with rfl | hc | hc
      · rcases h1 with rfl | rfl <;> exact Or.inr (by decide)
      · rcases h2 with rfl | rfl | rfl
        · cases hc
        · rw [List.mem_singleton.mp hc]; exact Or.inr (by decide)
        · rw [List.mem_singleton.mp hc]; exact Or.inr (by decide)
      · exact Or.inl (h3 c hc)

theorem tailHead_facts {c : Char} (h : c = '.' ∨ c = 'e' ∨ c = 'E') :
    isDec c = false ∧ LexTables.std.hexMark.contains c = false ∧ LexTables.std.octMark.contains c = false ∧
    LexTables.std.binMark.contains c = false := by
  rcases h with rfl | rfl | rfl <;> decide

theorem expText_head (p : FloatParts) (hp : p.WF) : ∀ c, p.expText.head? = some c → c = 'e' ∨ c = 'E' := by
  intro c hc
  unfold FloatParts.expText at hc
  cases he : p.exp with
  | none => simp [he] at hc
  | some t =>
    obtain ⟨e, sg, xs⟩ := t
    simp only [he, List.head?_cons, Option.some.injEq] at hc
    subst hc
    exact (hp.exp _ _ _ he).1

theorem tail_rest_head {cc : CharClass} (hcc : cc.AsciiExact) (p : FloatParts) (hp : p.WF) (rest : List Char)
    (hok : IntFollow cc rest) : ∀ c, (p.fracText ++ (p.expText ++ rest)).head? = some c →
      isDec c = false ∧ LexTables.std.hexMark.contains c = false ∧ LexTables.std.octMark.contains c = false ∧
      LexTables.std.binMark.contains c = false := by
  intro c hc
  unfold FloatParts.fracText at hc
  cases hf : p.frac with
  | some fs =>
    simp only [hf, List.cons_append, List.head?_cons, Option.some.injEq] at hc
    exact tailHead_facts (Or.inl hc.symm)
  | none =>
    simp only [hf, List.nil_append] at hc
    cases hx : p.expText with
    | cons t ts =>
      simp only [hx, List.cons_append, List.head?_cons, Option.some.injEq] at hc
      subst hc
      exact tailHead_facts (Or.inr (expText_head p hp t (by rw [hx]; rfl)))
    | nil =>
      simp only [hx, List.nil_append] at hc
      exact ⟨hok.not_mem (fun _ h => decDigits_alnum hcc h) c hc,
        hok.not_mem (fun _ h => marks_alnum hcc (Or.inl h)) c hc,
        hok.not_mem (fun _ h => marks_alnum hcc (Or.inr (Or.inl h))) c hc,
        hok.not_mem (fun _ h => marks_alnum hcc (Or.inr (Or.inr (Or.inl h)))) c hc⟩

theorem float_stageA {cc : CharClass} (hcc : cc.AsciiExact) (p : FloatParts) (hp : p.WF) (rest : List Char)
    (hok : IntFollow cc rest) (s : LState) :
    (numberDigits LexTables.std s (p.text ++ rest)).1 = LexTables.std.decDigits ∧
    ∃ pre, (numberDigits LexTables.std s (p.text ++ rest)).2.2 = pre ++ (p.fracText ++ (p.expText ++ rest)) ∧
      ∀ x ∈ pre, isDec x = true := by
  have htext : p.text ++ rest = p.d0 :: (p.ip ++ (p.fracText ++ (p.expText ++ rest))) := by
    simp [FloatParts.text, List.append_assoc]
  rw [htext]
  by_cases hz : LexTables.std.zero.contains p.d0 = true
  · rw [numberDigits_zero hz, numberPrefix_none LexTables.std (s.adv p.d0)
      (p.ip ++ (p.fracText ++ (p.expText ++ rest))) (by
      intro x hx
      cases hip : p.ip with
      | nil => rw [hip, List.nil_append] at hx; exact (tail_rest_head hcc p hp rest hok x hx).2
      | cons c2 cs2 =>
        rw [hip, List.cons_append, List.head?_cons] at hx
        cases hx
        exact dec_not_marks (hp.ip x (by rw [hip]; exact List.mem_cons_self)))]
    exact ⟨rfl, p.ip, rfl, hp.ip⟩
  · rw [numberDigits_nonzero hz]
    refine ⟨rfl, p.d0 :: p.ip, rfl, ?_⟩
    intro x hx
    rcases List.mem_cons.mp hx with rfl | hx
    · exact decDigits_contains hp.d0
    · exact hp.ip x hx

theorem exp_rest_head {cc : CharClass} (hcc : cc.AsciiExact) (p : FloatParts) (hp : p.WF) (rest : List Char)
    (hok : IntFollow cc rest) : ∀ c, (p.expText ++ rest).head? = some c → isDec c = false ∧ c ≠ '.' := by
  intro c hc
  cases hx : p.expText with
  | nil =>
    rw [hx, List.nil_append] at hc
    exact ⟨hok.not_mem (fun _ h => decDigits_alnum hcc h) c hc, (hok c hc).2⟩
  | cons t ts =>
    rw [hx] at hc
    simp only [List.cons_append, List.head?_cons, Option.some.injEq] at hc
    subst hc
    rcases expText_head p hp t (by rw [hx]; rfl) with rfl | rfl <;> exact ⟨by decide, by decide⟩

theorem float_stageB {cc : CharClass} (hcc : cc.AsciiExact) (p : FloatParts) (hp : p.WF) (rest : List Char)
    (hok : IntFollow cc rest) (s : LState) :
    ∃ s2, numberFraction LexTables.std LexTables.std.decDigits s (p.fracText ++ (p.expText ++ rest)) =
      some (s2, p.expText ++ rest) := by
  have hth := exp_rest_head hcc p hp rest hok
  unfold FloatParts.fracText
  cases hf : p.frac with
  | none =>
    exact ⟨_, numberFraction_none _ _ s (p.expText ++ rest) fun x hx => by simp [LexTables.std, (hth x hx).2]⟩
  | some fs =>
    have hne : ¬ (fs ++ (p.expText ++ rest)).head? = some '.' := by
      intro h
      cases hfs : fs with
      | nil => rw [hfs, List.nil_append] at h; exact (hth '.' h).2 rfl
      | cons f fr =>
        rw [hfs, List.cons_append, List.head?_cons] at h
        have := hp.frac fs hf f (by rw [hfs]; exact List.mem_cons_self)
        cases h
        revert this; decide
    show ∃ s2, numberFraction _ _ s ('.' :: (fs ++ (p.expText ++ rest))) = some (s2, p.expText ++ rest)
    rw [numberFraction_dot (by decide), if_neg hne]
    exact ⟨_, congrArg some (Prod.ext rfl (acceptRunP_span isDec fs (p.expText ++ rest) (hp.frac fs hf)
      (fun c hc => (hth c hc).1) _))⟩

theorem float_stageC {cc : CharClass} (hcc : cc.AsciiExact) (p : FloatParts) (hp : p.WF) (rest : List Char)
    (hok : IntFollow cc rest) (hx : p.SignSafe rest) (s : LState) :
    (numberExponent LexTables.std LexTables.std.decDigits s (p.expText ++ rest)).2 = rest := by
  have hrest : ∀ c, rest.head? = some c → isDec c = false := hok.not_mem fun _ h => decDigits_alnum hcc h
  unfold FloatParts.expText
  cases he : p.exp with
  | none =>
    show (numberExponent _ _ s rest).2 = rest
    rw [numberExponent_none _ _ s rest (hok.not_mem fun _ h => marks_alnum hcc (Or.inr (Or.inr (Or.inr h))))]
  | some q =>
    obtain ⟨e, sg, xs⟩ := q
    obtain ⟨h1, h2, h3⟩ := hp.exp _ _ _ he
    have hE : LexTables.std.expMark.contains e = true := by rcases h1 with rfl | rfl <;> decide
    show (numberExponent _ _ s (e :: (sg ++ xs ++ rest))).2 = rest
    rw [numberExponent_mark hE]
    -- the optional sign: a digit is no sign, and a bare exponent letter is not followed by one
    have hsigns : (accept LexTables.std.signs (s.adv e) (sg ++ xs ++ rest)).2.2 = xs ++ rest := by
      rcases h2 with rfl | rfl | rfl
      · rw [List.nil_append, accept_no]
        cases xs with
        | nil => exact hx e he
        | cons x xr =>
          intro y hy
          cases hy
          have hs : ∀ y ∈ LexTables.std.decDigits, LexTables.std.signs.contains y = false := by decide
          exact hs x (List.contains_iff_mem.mp (h3 x List.mem_cons_self))
      · rw [List.cons_append, List.cons_append, accept_cons, if_pos (by decide)]; rfl
      · rw [List.cons_append, List.cons_append, accept_cons, if_pos (by decide)]; rfl
    rw [hsigns]
    exact acceptRunP_span _ xs rest h3 hrest _

theorem scanNumber_float {cc : CharClass} (hcc : cc.AsciiExact) (p : FloatParts) (hp : p.WF)
    (rest : List Char) (hok : IntFollow cc rest) (hx : p.SignSafe rest) (s : LState) :
    ∃ s', scanNumber cc LexTables.std s (p.text ++ rest) = (true, s', rest) := by
  obtain ⟨hdig, pre, hrest, hpre⟩ := float_stageA hcc p hp rest hok s
  exact scanNumber_ok hdig hrest hpre (fun c hc => (tail_rest_head hcc p hp rest hok c hc).1)
    (float_stageB hcc p hp rest hok) (float_stageC hcc p hp rest hok hx) (fun x hx => (hok x hx).1)

theorem spells_float_of {cc : CharClass} (hcc : cc.AsciiExact) (p : FloatParts) (hp : p.WF) :
    Spells cc .number (String.ofList p.text) p.text (fun rest => IntFollow cc rest ∧ p.SignSafe rest) :=
  spells_number hcc hp.d0 fun s rest hok => by
    have := scanNumber_float hcc p hp rest hok.1 hok.2 s
    rwa [FloatParts.text, List.cons_append] at this

theorem spells_float {cc : CharClass} (hcc : cc.AsciiExact) (p : FloatParts) (hp : p.WF) (hx : p.ExpDigits) :
    Spells cc .number (String.ofList p.text) p.text (IntFollow cc) :=
  (spells_float_of hcc p hp).mono fun rest h => ⟨h, hx.signSafe rest⟩

theorem spells_decDigits {cc : CharClass} (hcc : cc.AsciiExact) (c : Char) (cs : List Char)
    (hc : '0' ≤ c ∧ c ≤ '9') (hcs : ∀ x ∈ cs, isDec x = true) :
    Spells cc .number (String.ofList (c :: cs)) (c :: cs) (IntFollow cc) := by
  have h := spells_float hcc ⟨c, cs, none, none⟩ ⟨hc, hcs, fun _ h => (nomatch h), fun _ _ _ h => (nomatch h)⟩
    (fun _ _ _ h => nomatch h)
  have ht : (⟨c, cs, none, none⟩ : FloatParts).text = c :: cs := by
    simp [FloatParts.text, FloatParts.fracText, FloatParts.expText]
  rwa [ht] at h

theorem spells_decimal {cc : CharClass} (hcc : cc.AsciiExact) (c : Char) (cs : List Char)
    (hc : '0' ≤ c ∧ c ≤ '9') (hcs : ∀ x ∈ cs, '0' ≤ x ∧ x ≤ '9') :
    Spells cc .number (String.ofList (c :: cs)) (c :: cs) (IntFollow cc) :=
  spells_decDigits hcc c cs hc fun x hx => decDigits_contains (hcs x hx)

theorem spells_hexInt {cc : CharClass} (hcc : cc.AsciiExact) (mark : Char) (body : List Char)
    (hm : LexTables.std.hexMark.contains mark = true) (hb : ∀ x ∈ body, LexTables.std.hexDigits.contains x = true) :
    Spells cc .number (String.ofList ('0' :: mark :: body)) ('0' :: mark :: body) (IntFollow cc) :=
  spells_number hcc (by decide) fun s rest hok => by
    have hnd : numberDigits LexTables.std s ('0' :: (mark :: body ++ rest)) = _ :=
      numberDigits_hex (by decide) hm s (body ++ rest)
    refine scanNumber_ok (pre := body) (tl := rest) (tl2 := rest) (by rw [hnd]) (by rw [hnd]) hb
      (hok.not_mem fun x hx => hexDigits_alnum hcc x (List.contains_iff_mem.mp hx))
      (fun s1 => ⟨_, numberFraction_none _ _ s1 rest hok.no_dot⟩)
      (fun s2 => by
        rw [numberExponent_none _ _ s2 rest (hok.not_mem fun _ h => marks_alnum hcc (Or.inr (Or.inr (Or.inr h))))])
      (fun x hx => (hok x hx).1)

theorem withSeps_cons (c : Char) (cs : List Char) (seps : List Nat) :
    withSeps (c :: cs) seps = c :: (List.replicate (seps.headD 0) '_' ++ withSeps cs seps.tail) := by
  cases seps <;> rfl

theorem withSeps_nil (cs : List Char) : withSeps cs [] = cs := by
  induction cs with
  | nil => rfl
  | cons c cs ih => simp [withSeps, ih]

theorem withSeps_all (p : Char → Bool) (hu : p '_' = true) (cs : List Char) (h : ∀ x ∈ cs, p x = true)
    (seps : List Nat) : ∀ x ∈ withSeps cs seps, p x = true := by
  induction cs generalizing seps with
  | nil => intro x hx; cases seps <;> simp [withSeps] at hx
  | cons c cs ih =>
    intro x hx
    rw [withSeps_cons] at hx
    simp only [List.mem_cons, List.mem_append, List.mem_replicate] at hx
    rcases hx with rfl | ⟨_, rfl⟩ | hx
    · exact h _ (by simp)
    · exact hu
    · exact ih (fun x hx => h x (by simp [hx])) _ x hx

theorem withSeps_decimal (ds : List Nat) (hne : ds ≠ []) (hd : ∀ d ∈ ds, d < 10) (seps : List Nat) :
    ∃ c cs, withSeps (ds.map decChar) seps = c :: cs ∧ ('0' ≤ c ∧ c ≤ '9') ∧ ∀ x ∈ cs, isDec x = true := by
  cases ds with
  | nil => exact absurd rfl hne
  | cons d0 dr =>
    have hall : ∀ x ∈ withSeps ((d0 :: dr).map decChar) seps, isDec x = true :=
      withSeps_all _ (by decide) _ (by
        intro x hx
        obtain ⟨d, hdm, rfl⟩ := List.mem_map.mp hx
        exact decDigits_contains (decChar_digit d (hd d hdm))) seps
    rw [List.map_cons, withSeps_cons] at hall ⊢
    exact ⟨_, _, rfl, decChar_digit d0 (hd d0 (by simp)), fun x hx => hall x (List.mem_cons_of_mem _ hx)⟩

theorem withSeps_hex (ds : List (Nat × Bool)) (hd : ∀ p ∈ ds, p.1 < 16) (k : Nat) (seps : List Nat) :
    ∀ x ∈ List.replicate k '_' ++ withSeps (hexChars ds) seps, LexTables.std.hexDigits.contains x = true := by
  intro x hx
  simp only [List.mem_append, List.mem_replicate] at hx
  rcases hx with ⟨_, rfl⟩ | hx
  · decide
  · exact withSeps_all _ (by decide) _ (by
      intro y hy
      obtain ⟨p, hp, rfl⟩ := mem_hexChars hy
      exact hexChar_in_hexDigits p.1 (hd p hp) p.2) seps x hx

end ExprModel.Lex
