import ExprModel.Proofs.OptSim
import ExprModel.Proofs.OptPipeline
/-
C02: the congruence theorem `walk_sim`.  A node-local rewrite whose result simulates the node it replaces, in every
context, is preserved by the bottom-up traversal `Opt.walk` (ast.Walk with an `Exit`-only visitor); through OptPipeline,
by the repetition loops and the sequence of passes (`optimizeWith_sim_of`).
-/
namespace ExprModel
namespace OptProofs
open Spec Opt

variable {c : SCfg}

mutual
theorem walk_sim (ws : Bool) (rule : Rule) (hrule : ∀ N st, Sim c (rule N st).1 N) :
    (n : Node) → reOK n = true → ∀ st, Sim c (walk ws rule n st).1 n
  | .nil _, _, st | .ident .., _, st | .int .., _, st | .float .., _, st | .bool .., _, st | .str .., _, st
  | .const .., _, st | .pointer _, _, st => by simp only [walk]; exact hrule _ _
  | .unary m op x, h, st => by
    simp only [walk]
    simp only [reOK] at h
    exact (hrule _ _).trans (sim_unary m op (walk_sim ws rule hrule x h st))
  | .binary m op l r, h, st => by
    simp only [walk]
    simp only [reOK, Bool.and_eq_true] at h
    exact (hrule _ _).trans (sim_binary m op (walk_sim ws rule hrule l h.1 _) (walk_sim ws rule hrule r h.2 _))
  | .matches m hre l r, h, st => by
    simp only [walk]
    simp only [reOK, Bool.and_eq_true, Bool.or_eq_true, Bool.not_eq_true'] at h
    have hr := walk_sim ws rule hrule r h.2 (walk ws rule l st).2
    refine (hrule _ _).trans (sim_matches m hre (walk_sim ws rule hrule l h.1.2 _) hr ?_)
    intro ht
    rcases h.1.1 with hf | hs
    · rw [ht] at hf; cases hf
    · exact patOf_of_lit hr hs
  | .prop m x name ns, h, st => by
    simp only [walk]
    simp only [reOK] at h
    exact (hrule _ _).trans (sim_prop m name ns (walk_sim ws rule hrule x h st))
  | .index m x i, h, st => by
    simp only [walk]
    simp only [reOK, Bool.and_eq_true] at h
    exact (hrule _ _).trans (sim_index m (walk_sim ws rule hrule x h.1 _) (walk_sim ws rule hrule i h.2 _))
  | .slice m x f t, h, st => by
    simp only [walk]
    simp only [reOK, Bool.and_eq_true] at h
    cases ws with
    | false =>
      simp only [Bool.false_eq_true, if_false]
      exact (hrule _ _).trans (sim_slice m (sim_refl c x) (walkOpt_sim false rule hrule f h.1.2 _)
        (walkOpt_sim false rule hrule t h.2 _))
    | true =>
      simp only [if_true]
      exact (hrule _ _).trans (sim_slice m (walk_sim true rule hrule x h.1.1 _) (walkOpt_sim true rule hrule f h.1.2 _)
        (walkOpt_sim true rule hrule t h.2 _))
  | .method m x name args ns, h, st => by
    simp only [walk]
    simp only [reOK, Bool.and_eq_true] at h
    exact (hrule _ _).trans (sim_method m name ns (walk_sim ws rule hrule x h.1 _) (walkList_sim ws rule hrule args h.2 _))
  | .func m name args fast, h, st => by
    simp only [walk]
    simp only [reOK] at h
    exact (hrule _ _).trans (sim_func m name fast (walkList_sim ws rule hrule args h _))
  | .builtin m name args, h, st => by
    simp only [walk]
    simp only [reOK] at h
    exact (hrule _ _).trans (sim_builtin m name (walkList_sim ws rule hrule args h _))
  | .closure m x, h, st => by
    simp only [walk]
    simp only [reOK] at h
    exact (hrule _ _).trans (sim_closure m (walk_sim ws rule hrule x h st))
  | .cond m a b d, h, st => by
    simp only [walk]
    simp only [reOK, Bool.and_eq_true] at h
    exact (hrule _ _).trans (sim_cond m (walk_sim ws rule hrule a h.1.1 _) (walk_sim ws rule hrule b h.1.2 _)
      (walk_sim ws rule hrule d h.2 _))
  | .array m xs, h, st => by
    simp only [walk]
    simp only [reOK] at h
    exact (hrule _ _).trans (sim_array m (walkList_sim ws rule hrule xs h _))
  | .map m ps, h, st => by
    simp only [walk]
    simp only [reOK] at h
    exact (hrule _ _).trans (sim_map m (walkList_sim ws rule hrule ps h _))
  | .pair m k v, h, st => by
    simp only [walk]
    simp only [reOK, Bool.and_eq_true] at h
    exact (hrule _ _).trans (sim_pair m (walk_sim ws rule hrule k h.1 _) (walk_sim ws rule hrule v h.2 _))
theorem walkList_sim (ws : Bool) (rule : Rule) (hrule : ∀ N st, Sim c (rule N st).1 N) :
    (ns : List Node) → reOKList ns = true → ∀ st, SimL c (walkList ws rule ns st).1 ns
  | [], _, st => by simp only [walkList]; exact .nil
  | n :: ns, h, st => by
    simp only [walkList]
    simp only [reOKList, Bool.and_eq_true] at h
    exact .cons (walk_sim ws rule hrule n h.1 _) (walkList_sim ws rule hrule ns h.2 _)
theorem walkOpt_sim (ws : Bool) (rule : Rule) (hrule : ∀ N st, Sim c (rule N st).1 N) :
    (o : Option Node) → reOKOpt o = true → ∀ st, SimO c (walkOpt ws rule o st).1 o
  | none, _, st => by simp only [walkOpt]; exact .none
  | some n, h, st => by
    simp only [walkOpt]
    simp only [reOKOpt] at h
    exact .some (walk_sim ws rule hrule n h _)
end

/-- a walk by a sound rule keeps "simulates `n`" (`reOK` of the walked tree comes along with `Sim`) -/
theorem walkKeeps_sim (ws : Bool) {rule : Rule} (hrule : ∀ N st, Sim c (rule N st).1 N) {n : Node} (hn : reOK n = true) :
    WalkKeeps ws (Sim c · n) (fun _ => True) rule :=
  fun n1 h1 => ⟨(walk_sim ws rule hrule n1 (h1.re hn) {}).trans h1, fun _ _ => trivial⟩

theorem guarded_sim (g : Guard) (p : Pass) (r : Rule)
    (h : ∀ N st, g p N = true → Sim c (r N st).1 N) : ∀ N st, Sim c (guarded g p r N st).1 N := by
  intro N st
  simp only [guarded]
  split
  · exact h N st ‹_›
  · exact sim_refl c N

theorem optimizeWith_sim_of (fl : Flags) (fns : ConstFns) (g : Guard)
    (hr : ∀ p N st, g p N = true → Sim c (passRule fl fns c.world p N st).1 N)
    (n n' : Node) (hn : reOK n = true) (h : optimizeWith g fl fns c.world n = .ok n') : Sim c n' n :=
  (optimizeWith_keeps g fl fns c.world (fun p => walkKeeps_sim _ (guarded_sim g p _ (hr p)) hn) n (sim_refl c n)).ok h

end OptProofs
end ExprModel
