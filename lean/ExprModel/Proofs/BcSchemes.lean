import ExprModel.Proofs.BcFrag
import ExprModel.Proofs.Emits
/-
Closure of `Frag` under the emit schemes of compiler.go.  Those without jumps are concatenations (`cons`, `snoc`,
`plains`, `scope`); one with jumps is a concatenation of sub-fragments, single jumps over a known piece of the
following code (`FragTo.jump`) and, for `emitLoop`, the loop shape (`FragTo.loop`).
-/
namespace ExprModel.Bc

theorem FragTo.cons {c : Array Val} {i : LInstr} {b post : List LInstr} (hi : FragTo c [i] (b ++ post))
    (hb : FragTo c b post) : FragTo c (i :: b) post := hi.append hb

theorem Frag.cons {c : Array Val} {i : LInstr} {b : List LInstr} (hi : Frag c [i]) (hb : Frag c b) : Frag c (i :: b) :=
  hi.append hb

theorem Frag.pop {c : Array Val} (l : Loc) : Frag c [li l .pop] := Frag.plain l .pop rfl

/-- `l; JumpIfTrue/False end; Pop; r; end:` -/
theorem Frag.andOr {c : Array Val} {cl cr : List LInstr} (l : Loc) (op : Op) (hop : op.argClass = .jumpFwd)
    (hl : Frag c cl) (hr : Frag c cr) : Frag c (cl ++ [li l op (1 + lsize cr), li l .pop] ++ cr) := by
  have hr' : Frag c (li l .pop :: cr) := (Frag.pop l).cons hr
  have hj : FragTo c [li l op (1 + lsize cr)] (li l .pop :: cr ++ []) :=
    FragTo.jump l hop (boundary_end _ _ (by rw [List.append_nil]; rfl))
  rw [List.append_assoc]
  exact ((hl.to _).append (hj.cons (hr'.to []))).closed

-- the offset arithmetic of the schemes on plain instruction lists: the target of `andOr`'s jump is the end of the code, and
-- a boundary of a loop body `b` is a boundary of the code around it
example (a b : List Instr) : instrBoundary (a ++ (⟨.jumpIfFalse, 1 + codeSize b⟩ :: ⟨.pop, 0⟩ :: b)) (codeSize a + 3 + (1 + codeSize b)) = true :=
  boundary_end _ _ (by simp [Instr.size, Op.hasArg]; omega)
example (a b : List Instr) (t : Nat) (ht : instrBoundary b t = true) :
    instrBoundary (a ++ (⟨.jumpIfFalse, 1 + codeSize b⟩ :: ⟨.pop, 0⟩ :: (b ++ [⟨.pop, 0⟩]))) (t + (codeSize a + 3 + 1)) = true :=
  boundary_skip a _ _ (by omega) (boundary_cons_of _ _ _ (by simp [Instr.size, Op.hasArg]; omega)
    (boundary_cons_of _ _ _ (by simp [Instr.size, Op.hasArg]; omega)
      (boundary_append_left b _ _ (by simpa [Instr.size, Op.hasArg, show t + (codeSize a + 3 + 1) - codeSize a - 3 - 1 = t by omega] using ht))))

/-- `c; JumpIfFalse otherwise; Pop; a; Jump end; otherwise: Pop; b; end:` -/
theorem Frag.cond {c : Array Val} {cc ca cb : List LInstr} (l : Loc) (hc : Frag c cc) (ha : Frag c ca) (hb : Frag c cb) :
    Frag c (cc ++ [li l .jumpIfFalse (1 + lsize ca + 3), li l .pop] ++ ca ++ [li l .jump (1 + lsize cb), li l .pop] ++ cb) := by
  have hb' : Frag c (li l .pop :: cb) := (Frag.pop l).cons hb
  have hjump : Frag c (li l .jump (1 + lsize cb) :: li l .pop :: cb) :=
    (FragTo.cons (FragTo.jump l rfl (boundary_end _ _ (by rw [List.append_nil]; rfl))) (hb'.to [])).closed
  have ha' : Frag c (li l .pop :: ca) := (Frag.pop l).cons ha
  have hjif : FragTo c [li l .jumpIfFalse (1 + lsize ca + 3)]
      ((li l .pop :: ca) ++ (li l .jump (1 + lsize cb) :: li l .pop :: cb) ++ []) := by
    refine FragTo.jump l rfl ((boundary_iff_prefix _ _).2 ⟨instrs (li l .pop :: ca ++ [li l .jump (1 + lsize cb)]),
      instrs (li l .pop :: cb), by simp, ?_⟩)
    simp only [instrs_append, instrs_cons, instrs_nil, li_instr, codeSize_append, codeSize_cons, codeSize_nil, lsize_eq,
      Instr.size, Op.hasArg, Bool.false_eq_true, ↓reduceIte]
  have := ((hc.to _).append (hjif.append ((ha'.append hjump).to []))).closed
  simpa only [List.append_assoc, List.cons_append, List.nil_append] using this

theorem Frag.of_emitCond {c : Array Val} {body : List LInstr} (l : Loc) (hb : Frag c body) : Frag c (emitCond l body) := by
  have := Frag.cond l (Frag.nil c) hb (Frag.nil c)
  rw [List.nil_append, List.append_nil] at this
  exact this

theorem FragTo.loop {c : Array Val} (l : Loc) {cond inner post : List LInstr} {back : Nat} (hc : Frag c cond)
    (hi : FragTo c inner (li l .jumpBackward back :: post)) (hback : back = lsize cond + 3 + lsize inner + 3) :
    FragTo c (cond ++ li l .jumpIfFalse (lsize inner + 3) :: (inner ++ [li l .jumpBackward back])) post where
  args := by simp [hc.args, hi.args, argOk, Op.argClass]
  canon := by simp [hc.canon, hi.canon, canonOk, Op.hasArg]
  jumps := by
    rw [instrs_append, instrs_cons, instrs_append]
    exact JumpsTo.loop hc.jumps hi.jumps hback
  nest := by
    rw [instrs_append, instrs_cons, instrs_append]
    exact hc.nest.append ((NestBal.plain (by decide) (by decide)).append
      (hi.nest.append (NestBal.plain (by decide) (by decide))))

theorem FragTo.of_emitLoop {c : Array Val} {body post : List LInstr} (l : Loc) {ci cs car c0 : Nat}
    (L : Refine.LoopC (Holds c) ci cs car c0)
    (hb : ∀ back, FragTo c body (li l .inc ci :: li l .jumpBackward back :: li l .pop :: post)) :
    FragTo c (emitLoop l ci cs car c0 body) post := by
  have hhead : Frag c [li l .len, li l .store cs, li l .store car, li l .push c0, li l .store ci] :=
    (Frag.plain l .len rfl).cons ((Frag.strOp L.size.str l .store rfl).cons
      ((Frag.strOp L.array.str l .store rfl).cons ((Frag.pushOp L.zero.any l).cons (Frag.strOp L.i.str l .store rfl))))
  have hcond : Frag c [li l .load ci, li l .load cs, li l .less] :=
    (Frag.strOp L.i.str l .load rfl).cons ((Frag.strOp L.size.str l .load rfl).cons (Frag.plain l .less rfl))
  have hloop := FragTo.loop l hcond
    (FragTo.cons ((Frag.pop l).to _) ((hb _).append ((Frag.strOp L.i.str l .inc rfl).to (_ :: li l .pop :: post)))) rfl
  have := (hhead.to _).append (hloop.append ((Frag.pop l).to post))
  simpa only [emitLoop, List.append_assoc, List.cons_append, List.nil_append] using this

theorem Frag.of_emitLoop {c : Array Val} {body : List LInstr} (l : Loc) {ci cs car c0 : Nat}
    (L : Refine.LoopC (Holds c) ci cs car c0) (hb : Frag c body) : Frag c (emitLoop l ci cs car c0 body) :=
  (FragTo.of_emitLoop l L fun _ => hb.to _).closed

/-- the loop of `all` / `none` / `any`: the body's last jump leaves the loop, over its rest and the final True/False
    (`hk`: the list is there for its size, see `Emits.all`; `FragTo.of_emitLoop` holds for every `back`) -/
theorem Frag.quantInner {c : Array Val} {cb pre : List LInstr} (l : Loc) {ci cs car c0 k : Nat}
    (L : Refine.LoopC (Holds c) ci cs car c0) (hb : Frag c cb) (hpre : Frag c pre)
    (op : Op) (hop : op.argClass = .jumpFwd) (fin : Op) (hfin : fin = .true_ ∨ fin = .false_)
    (hk : k = lsize [li l .pop, li l .inc ci, li l .jumpBackward 0, li l .pop, li l fin]) :
    Frag c (emitLoop l ci cs car c0 (cb ++ pre ++ [li l op k, li l .pop]) ++ [li l fin]) := by
  have hfin' : Frag c [li l fin] := by rcases hfin with rfl | rfl <;> exact Frag.plain l _ rfl
  refine ((FragTo.of_emitLoop l L fun back => ?_).append (hfin'.to [])).closed
  refine ((hb.append hpre).to _).append (FragTo.cons (FragTo.jump l hop (boundary_end _ _ ?_)) ((Frag.pop l).to _))
  rw [hk]
  rcases hfin with rfl | rfl <;> rfl

theorem Frag.scope {c : Array Val} {inner : List LInstr} (l : Loc) (h : Frag c inner) :
    Frag c ([li l .begin_] ++ inner ++ [li l .end_]) where
  args := by simp [h.args, argOk, Op.argClass, Op.hasArg]
  canon := by simp [h.canon, canonOk, Op.hasArg]
  jumps := by
    rw [instrs_append, instrs_append, List.append_assoc]
    exact ((JumpsTo.plain (by decide) (by decide) _).append
      ((h.jumps.to _).append (JumpsTo.plain (by decide) (by decide) []))).closed
  nest := by simpa using NestBal.scope h.nest

theorem Frag.snoc {c : Array Val} {a : List LInstr} (h : Frag c a) (l : Loc) (op : Op) (h0 : op.bare = true) :
    Frag c (a ++ [li l op]) := h.append (Frag.plain l op h0)

theorem Frag.plains {c : Array Val} (l : Loc) : ∀ (ops : List Op),
    (∀ o ∈ ops, o.bare = true) → Frag c (ops.map (fun o => li l o))
  | [], _ => Frag.nil c
  | o :: ops, h => by
    have := (Frag.plain (c := c) l o (h o (by simp))).append (Frag.plains l ops (fun o' h' => h o' (by simp [h'])))
    simpa using this

theorem quant_shape (ca loop : List LInstr) (x y z : LInstr) :
    ca ++ [x] ++ loop ++ [y, z] = ca ++ ([x] ++ (loop ++ [y]) ++ [z]) := by simp


/-- `a; Begin; emitLoop(b; [Not;] JumpIf… break; Pop); True/False; break: End` -/
theorem Frag.quant {c : Array Val} (l : Loc) {ca cb tl pre : List LInstr} {ci cs car c0 k : Nat} {op fin : Op}
    (htl : tl = pre ++ [li l op k, li l .pop]) (hk : k = lsize [li l .pop, li l .inc ci, li l .jumpBackward 0, li l .pop, li l fin])
    (hop : op.argClass = .jumpFwd) (hfin : fin = .true_ ∨ fin = .false_) (fa : Frag c ca) (fb : Frag c cb) (hpre : Frag c pre)
    (L : Refine.LoopC (Holds c) ci cs car c0) :
    Frag c (ca ++ [li l .begin_] ++ emitLoop l ci cs car c0 (cb ++ tl) ++ [li l fin, li l .end_]) := by
  rw [quant_shape, htl, ← List.append_assoc cb]
  exact fa.append (Frag.scope l (Frag.quantInner l L fb hpre op hop fin hfin hk))

theorem scope_shape (ca loop pre post tail : List LInstr) (b e : LInstr) :
    ca ++ (b :: pre) ++ loop ++ (post ++ e :: tail) = ca ++ ([b] ++ (pre ++ loop ++ post) ++ [e]) ++ tail := by simp

/-- `a; OpBegin; pre; emitLoop(body); post; OpEnd; tail` -/
theorem Frag.scopedLoop {c : Array Val} (l : Loc) {ca body pre post tail : List LInstr} {ci cs car c0 : Nat}
    (ha : Frag c ca) (L : Refine.LoopC (Holds c) ci cs car c0)
    (hbody : Frag c body) (hpre : Frag c pre) (hpost : Frag c post) (htail : Frag c tail) :
    Frag c (ca ++ (li l .begin_ :: pre) ++ emitLoop l ci cs car c0 body ++ (post ++ li l .end_ :: tail)) := by
  rw [scope_shape]
  exact (ha.append (Frag.scope l ((hpre.append (Frag.of_emitLoop l L hbody)).append hpost))).append htail

end ExprModel.Bc
