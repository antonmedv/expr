import ExprModel.Types.HasType
/-
The visitor's state (`fail`, `setPanic`, `orFail` against "no error and no panic recorded"), the visitor and the
compositional rules on literals and on empty argument lists, and `check` by cases on the state its visit ends in.
-/
namespace ExprModel

def CkGood (st : CState) : Prop := st.err = none ∧ st.panic = none

theorem fail_colls (st : CState) (loc : Loc) (c : CheckErrClass) : (st.fail loc c).colls = st.colls := by
  unfold CState.fail; split <;> rfl

theorem fail_panic (st : CState) (loc : Loc) (c : CheckErrClass) : (st.fail loc c).panic = st.panic := by
  unfold CState.fail; split <;> rfl

theorem fail_err_isSome (st : CState) (loc : Loc) (c : CheckErrClass) : (st.fail loc c).err.isSome := by
  unfold CState.fail; split
  · rfl
  · rename_i h; simp [h]

theorem fail_not_good (st : CState) (loc : Loc) (c : CheckErrClass) : ¬ CkGood (st.fail loc c) := by
  intro h
  have := fail_err_isSome st loc c
  rw [h.1] at this; cases this

theorem setPanic_colls (st : CState) (m : String) : (st.setPanic m).colls = st.colls := by
  unfold CState.setPanic; split <;> rfl

theorem setPanic_not_good (st : CState) (m : String) : ¬ CkGood (st.setPanic m) := by
  intro h
  unfold CState.setPanic at h
  split at h
  · cases h.2
  · rename_i hp; rw [h.2] at hp; cases hp

theorem good_colls_update {st : CState} {cs : List OTy} : CkGood { st with colls := cs } ↔ CkGood st := Iff.rfl

theorem orFail_ok (τ : OTy) (loc : Loc) (st : CState) : orFail (.ok τ) loc st = (τ, st) := rfl

theorem orFail_colls (r : Rule) (loc : Loc) (st : CState) : (orFail r loc st).2.colls = st.colls := by
  cases r with
  | ok t => rfl
  | error c => exact fail_colls st loc c

theorem toOption'_some {r : Rule} {τ : OTy} (h : Except.toOption' r = some τ) : r = .ok τ := by
  cases r with
  | ok t => cases h; rfl
  | error c => cases h

theorem setKd_kd (n : Node) (t : OTy) : (setKd n t).kd = t.kind := by
  cases n <;> rfl

variable (cfg : CheckCfg) (st : CState) (cs : List OTy) (m : Meta)

theorem visit_nil : visit cfg (.nil m) st = (setKd (.nil m) none, none, st) := by simp only [visit]
theorem visit_int (v : Int) : visit cfg (.int m v) st = (setKd (.int m v) intTy, intTy, st) := rfl
theorem visit_float (b : UInt64) : visit cfg (.float m b) st = (setKd (.float m b) floatTy, floatTy, st) := rfl
theorem visit_bool (b : Bool) : visit cfg (.bool m b) st = (setKd (.bool m b) boolTy, boolTy, st) := rfl
theorem visit_str (s : String) : visit cfg (.str m s) st = (setKd (.str m s) stringTy, stringTy, st) := rfl

theorem visitBound_none : visitBound cfg none st = (none, true, st) := by simp only [visitBound]
theorem visitList_nil : visitList cfg [] st = ([], st) := by simp only [visitList]
theorem checkArgs_nil (ins : List Ty) (variadic : Bool) (numIn offset i : Nat) :
    checkArgs cfg ins variadic numIn offset i [] st = ([], true, st) := by simp only [checkArgs]

theorem synth_nil : synth cfg cs (.nil m) = some none := by simp only [synth]
theorem synth_int (v : Int) : synth cfg cs (.int m v) = some intTy := rfl
theorem synth_float (b : UInt64) : synth cfg cs (.float m b) = some floatTy := rfl
theorem synth_bool (b : Bool) : synth cfg cs (.bool m b) = some boolTy := rfl
theorem synth_str (s : String) : synth cfg cs (.str m s) = some stringTy := rfl

theorem synthBound_none : synthBound cfg cs none = true := by simp only [synthBound]
theorem synthList_nil : synthList cfg cs [] = true := by simp only [synthList]
theorem synthArgs_nil (ins : List Ty) (variadic : Bool) (numIn offset i : Nat) :
    synthArgs cfg cs ins variadic numIn offset i [] = true := by simp only [synthArgs]

theorem check_cases (n : Node) :
    (∃ msg, (visit cfg n {}).2.2.panic = some msg ∧ check cfg n = .panic msg) ∨
    (∃ f, expectTest cfg.dt cfg.expect (visit cfg n {}).2.1 = some f ∧ check cfg n = f.result (visit cfg n {}).1) ∨
    (CkGood (visit cfg n {}).2.2 ∧ expectTest cfg.dt cfg.expect (visit cfg n {}).2.1 = none ∧
      check cfg n = .ok (visit cfg n {}).1 (visit cfg n {}).2.1) ∨
    (∃ e, (visit cfg n {}).2.2.err = some e ∧ check cfg n = .error (some e.1) e.2 (visit cfg n {}).1) := by
  unfold check CkGood
  generalize visit cfg n {} = v
  obtain ⟨n', t, st⟩ := v
  dsimp only
  cases hp : st.panic with
  | some msg => exact .inl ⟨msg, rfl, rfl⟩
  | none =>
    right
    cases he : st.err with
    | none =>
      cases hx : expectTest cfg.dt cfg.expect t with
      | none => exact .inr (.inl ⟨⟨rfl, rfl⟩, rfl, rfl⟩)
      | some f => exact .inl ⟨f, rfl, rfl⟩
    | some e =>
      cases hx : expectTest cfg.dt cfg.expect t with
      | none => exact .inr (.inr ⟨e, rfl, rfl⟩)
      | some f =>
        dsimp only
        split
        · exact .inl ⟨f, rfl, rfl⟩
        · exact .inr (.inr ⟨e, rfl, rfl⟩)

theorem check_ok_iff_visit (n n' : Node) (τ : OTy) :
    check cfg n = .ok n' τ ↔
      (visit cfg n {}).1 = n' ∧ (visit cfg n {}).2.1 = τ ∧ CkGood (visit cfg n {}).2.2 ∧
      expectTest cfg.dt cfg.expect τ = none := by
  rcases check_cases cfg n with ⟨msg, hp, e⟩ | ⟨f, hx, e⟩ | ⟨hg, hx, e⟩ | ⟨err, he, e⟩
  · rw [e]
    exact ⟨fun h => (nomatch h), fun ⟨_, _, hg, _⟩ => by rw [hg.2] at hp; cases hp⟩
  · rw [e]
    exact ⟨fun h => (by cases f <;> cases h), fun ⟨_, ht, _, hx'⟩ => by rw [ht, hx'] at hx; cases hx⟩
  · rw [e]
    exact ⟨fun h => by cases h; exact ⟨rfl, rfl, hg, hx⟩, fun ⟨h1, h2, _, _⟩ => by rw [h1, h2]⟩
  · rw [e]
    exact ⟨fun h => (nomatch h), fun ⟨_, _, hg, _⟩ => by rw [hg.1] at he; cases he⟩

end ExprModel
