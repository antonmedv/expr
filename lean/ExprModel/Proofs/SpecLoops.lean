import ExprModel.Proofs.SpecOps
/-
The `loopIdx` combinator of the reference evaluator is related to three canonical traversals over the index range
(`allM`, `anyM`: short-circuit; `seqIdx`: run every index, collect the outcomes), for each builtin by a lemma about
its loop on an arbitrary body; the three loops that accumulate are folds of the outcomes (`loopIdx_fold`, the one
induction, and a fact about lists each).
`map` comes in two forms, both read off `mapTail_seq`: `eval_map` keeps the charge of the model, the length `n` of the
collection, and is the one to compute with (C18); `mapTail_eq` replaces the charge by the number of results
collected — the shape `allocAfter _ k k` that an accounting argument needs (`cong_builtin2`) — at the price of `0 ≤ n`.
-/
namespace ExprModel
namespace Spec

def allM (p : Nat → SM Bool) : Nat → Nat → SM Bool
  | 0, _ => pure true
  | fuel + 1, i => do
    if ← p i then allM p fuel (i + 1) else pure false

def anyM (p : Nat → SM Bool) : Nat → Nat → SM Bool
  | 0, _ => pure false
  | fuel + 1, i => do
    if ← p i then pure true else anyM p fuel (i + 1)

def seqIdx {β} (g : Nat → SM β) : Nat → Nat → SM (List β)
  | 0, _ => pure []
  | fuel + 1, i => do
    let b ← g i
    let bs ← seqIdx g fuel (i + 1)
    pure (b :: bs)

def foldIdx {α β} (f : Nat → β → α → α) : Nat → List β → α → α
  | _, [], acc => acc
  | i, b :: bs, acc => foldIdx f (i + 1) bs (f i b acc)

theorem loopIdx_fold {α β} (g : Nat → SM β) (f : Nat → β → α → α) (fuel i : Nat) (acc : α) :
    loopIdx (fun i acc => do
        let t ← g i
        pure (Sum.inl (f i t acc))) fuel i acc
      = (do
        let ts ← seqIdx g fuel i
        pure (Sum.inl (foldIdx f i ts acc))) := by
  induction fuel generalizing i acc with
  | zero => simp [loopIdx, seqIdx, foldIdx]
  | succ n ih =>
    simp only [loopIdx, seqIdx, bind_assoc]
    congr 1; funext t
    simp only [pure_bind, ih, foldIdx]

theorem loopIdx_congr {α} (b1 b2 : Nat → α → SM (α ⊕ Val)) (fuel i : Nat) (acc : α)
    (h : ∀ j, i ≤ j → j < i + fuel → ∀ a, b1 j a = b2 j a) :
    loopIdx b1 fuel i acc = loopIdx b2 fuel i acc := by
  induction fuel generalizing i acc with
  | zero => simp [loopIdx]
  | succ n ih =>
    simp only [loopIdx]
    rw [h i (Nat.le_refl _) (by omega)]
    congr 1; funext r
    cases r with
    | inl a => exact ih (i + 1) a (fun j h1 h2 a => h j (by omega) (by omega) a)
    | inr v => rfl

theorem seqIdx_congr {β} (g1 g2 : Nat → SM β) (fuel i : Nat)
    (h : ∀ j, i ≤ j → j < i + fuel → g1 j = g2 j) :
    seqIdx g1 fuel i = seqIdx g2 fuel i := by
  induction fuel generalizing i with
  | zero => simp [seqIdx]
  | succ n ih =>
    simp only [seqIdx]
    rw [h i (Nat.le_refl _) (by omega), ih (i + 1) (fun j h1 h2 => h j (by omega) (by omega))]

theorem seqIdx_length {β} (g : Nat → SM β) (fuel i : Nat) (s s' : SState) (bs : List β)
    (h : seqIdx g fuel i s = (.ok bs, s')) : bs.length = fuel := by
  induction fuel generalizing i s s' bs with
  | zero => simp [seqIdx] at h; simp [← h.1]
  | succ n ih =>
    unfold seqIdx at h
    obtain ⟨b, s1, _, h⟩ := SM.bind_ok h
    obtain ⟨bs2, s2, h2, h⟩ := SM.bind_ok h
    simp only [SM.pure_apply, Prod.mk.injEq, Except.ok.injEq] at h
    rw [← h.1, List.length_cons, ih (i + 1) s1 s2 bs2 h2]

theorem seqIdx_bind_congr {β γ} (g : Nat → SM β) (fuel i : Nat) {f f' : List β → SM γ}
    (h : ∀ bs, bs.length = fuel → f bs = f' bs) : (seqIdx g fuel i >>= f) = (seqIdx g fuel i >>= f') := by
  funext s
  rw [SM.bind_apply, SM.bind_apply]
  rcases hs : seqIdx g fuel i s with ⟨r, s'⟩
  cases r with
  | error e => rfl
  | ok bs => exact congrFun (h bs (seqIdx_length g fuel i s s' bs hs)) s'

def predAt (c : SCfg) (ctx : Ctx) (coll : Val) (b : Node) (i : Nat) : SM Bool := do
  let v ← bodyAt c ctx coll b i
  asBool v

theorem allLoop_allM (body : Nat → SM Val) (fuel i : Nat) :
    (do match ← loopIdx (fun i (_ : Unit) => do
          if ← asBool (← body i) then pure (.inl ()) else pure (.inr (.bool false))) fuel i () with
        | .inl _ => pure (.bool true)
        | .inr v => pure v : SM Val)
      = (do
        let r ← allM (fun i => body i >>= asBool) fuel i
        pure (.bool r)) := by
  induction fuel generalizing i with
  | zero => rfl
  | succ n ih =>
    simp only [loopIdx, allM, bind_assoc]
    refine bind_congr fun v => bind_congr fun t => ?_
    cases t
    · rfl
    · exact ih (i + 1)

/-- `any` is `dflt = false`, `none` is `dflt = true` -/
theorem anyLoop_anyM (body : Nat → SM Val) (fuel i : Nat) (dflt : Bool) :
    (do match ← loopIdx (fun i (_ : Unit) => do
          if ← asBool (← body i) then pure (.inr (.bool !dflt)) else pure (.inl ())) fuel i () with
        | .inl _ => pure (.bool dflt)
        | .inr v => pure v : SM Val)
      = (do
        let r ← anyM (fun i => body i >>= asBool) fuel i
        pure (.bool (r != dflt))) := by
  induction fuel generalizing i with
  | zero => cases dflt <;> rfl
  | succ n ih =>
    simp only [loopIdx, anyM, bind_assoc]
    refine bind_congr fun v => bind_congr fun t => ?_
    cases t
    · exact ih (i + 1)
    · cases dflt <;> rfl

theorem eval_all (c : SCfg) (ctx : Ctx) (m : Meta) (xs b : Node) :
    eval c ctx (.builtin m "all" [xs, b]) = (do
      let coll ← eval c ctx xs
      let n ← SM.lift (lengthV coll)
      let r ← allM (predAt c ctx coll b) n.toNat 0
      pure (.bool r)) := by
  rw [Spec.eval_builtin_all]
  exact bind_congr fun coll => bind_congr fun n => allLoop_allM (bodyAt c ctx coll b) n.toNat 0

theorem eval_any (c : SCfg) (ctx : Ctx) (m : Meta) (xs b : Node) :
    eval c ctx (.builtin m "any" [xs, b]) = (do
      let coll ← eval c ctx xs
      let n ← SM.lift (lengthV coll)
      let r ← anyM (predAt c ctx coll b) n.toNat 0
      pure (.bool r)) := by
  rw [Spec.eval_builtin_any]
  refine bind_congr fun coll => bind_congr fun n => (anyLoop_anyM (bodyAt c ctx coll b) n.toNat 0 false).trans ?_
  simp only [Bool.bne_false]
  rfl

theorem eval_none (c : SCfg) (ctx : Ctx) (m : Meta) (xs b : Node) :
    eval c ctx (.builtin m "none" [xs, b]) = (do
      let coll ← eval c ctx xs
      let n ← SM.lift (lengthV coll)
      let r ← anyM (predAt c ctx coll b) n.toNat 0
      pure (.bool !r)) := by
  rw [Spec.eval_builtin_none]
  refine bind_congr fun coll => bind_congr fun n => (anyLoop_anyM (bodyAt c ctx coll b) n.toNat 0 true).trans ?_
  simp only [Bool.bne_true]
  rfl

def countTrue (bs : List Bool) : Int := (bs.count true : Nat)

theorem foldIdx_count (bs : List Bool) (i : Nat) (k : Int) :
    foldIdx (fun _ (t : Bool) (k : Int) => if t = true then k + 1 else k) i bs k = k + countTrue bs := by
  induction bs generalizing i k with
  | nil => simp [foldIdx, countTrue]
  | cons b bs ih =>
    cases b <;> simp [foldIdx, ih, countTrue] <;> omega

private theorem countLoop (p : Nat → SM Bool) (fuel i : Nat) (k : Int) :
    loopIdx (fun i (k : Int) => do
        let t ← p i
        if t = true then pure (Sum.inl (k + 1)) else pure (Sum.inl k)) fuel i k
      = (do
        let bs ← seqIdx p fuel i
        pure (Sum.inl (k + countTrue bs))) := by
  have h := loopIdx_fold p (fun _ (t : Bool) (k : Int) => if t = true then k + 1 else k) fuel i k
  simp only [foldIdx_count] at h
  rw [← h]
  congr 1; funext i k
  congr 1; funext t
  cases t <;> rfl

/-- the loop `one` and `count` share; `fin` is what each makes of the number counted -/
theorem countLoop_seq (body : Nat → SM Val) (fuel : Nat) (fin : Int → Val) :
    (do match ← loopIdx (fun i (k : Int) => do
          if ← asBool (← body i) then pure (.inl (k + 1)) else pure (.inl k)) fuel 0 (0 : Int) with
        | .inl k => pure (fin k)
        | .inr v => pure v)
      = (do
        let bs ← seqIdx (fun i => body i >>= asBool) fuel 0
        pure (fin (countTrue bs))) := by
  have h := countLoop (fun i => body i >>= asBool) fuel 0 0
  simp only [bind_assoc, Int.zero_add] at h
  rw [h]
  simp only [bind_assoc, pure_bind]

theorem eval_count (c : SCfg) (ctx : Ctx) (m : Meta) (xs b : Node) :
    eval c ctx (.builtin m "count" [xs, b]) = (do
      let coll ← eval c ctx xs
      let n ← SM.lift (lengthV coll)
      let bs ← seqIdx (predAt c ctx coll b) n.toNat 0
      pure (.int .int (countTrue bs))) := by
  rw [Spec.eval_builtin_count]
  exact bind_congr fun coll => bind_congr fun n => countLoop_seq (bodyAt c ctx coll b) n.toNat (.int .int)

theorem eval_one (c : SCfg) (ctx : Ctx) (m : Meta) (xs b : Node) :
    eval c ctx (.builtin m "one" [xs, b]) = (do
      let coll ← eval c ctx xs
      let n ← SM.lift (lengthV coll)
      let bs ← seqIdx (predAt c ctx coll b) n.toNat 0
      pure (.bool (countTrue bs == 1))) := by
  rw [Spec.eval_builtin_one]
  exact bind_congr fun coll => bind_congr fun n => countLoop_seq (bodyAt c ctx coll b) n.toNat fun k => .bool (k == 1)

theorem foldIdx_cons {β} (ts : List β) (i : Nat) (acc : List β) :
    foldIdx (fun _ (r : β) (acc : List β) => r :: acc) i ts acc = ts.reverse ++ acc := by
  induction ts generalizing i acc with
  | nil => simp [foldIdx]
  | cons t ts ih => simp [foldIdx, ih]

def mapTail (budget n : Int) (body : Nat → SM Val) : SM Val := do
  match ← loopIdx (fun i (acc : List Val) => do
      let r ← body i
      pure (.inl (r :: acc))) n.toNat 0 ([] : List Val) with
  | .inl acc =>
    SM.allocAfter budget n acc.length
    pure (.arr .iface acc.reverse)
  | .inr v => pure v

theorem mapTail_seq (budget n : Int) (body : Nat → SM Val) :
    mapTail budget n body = (do
      let vs ← seqIdx body n.toNat 0
      SM.allocAfter budget n vs.length
      pure (.arr .iface vs)) := by
  unfold mapTail
  have h := loopIdx_fold body (fun _ (r : Val) (acc : List Val) => r :: acc) n.toNat 0 []
  simp only [foldIdx_cons] at h
  rw [h]
  simp only [bind_assoc, pure_bind, List.append_nil, List.reverse_reverse, List.length_reverse]

theorem eval_map (c : SCfg) (ctx : Ctx) (m : Meta) (xs b : Node) :
    eval c ctx (.builtin m "map" [xs, b]) = (do
      let coll ← eval c ctx xs
      let n ← SM.lift (lengthV coll)
      let vs ← seqIdx (bodyAt c ctx coll b) n.toNat 0
      SM.allocAfter c.budget n vs.length
      pure (.arr .iface vs)) := by
  rw [Spec.eval_builtin_map]
  exact bind_congr fun coll => bind_congr fun n => mapTail_seq c.budget n (bodyAt c ctx coll b)

/-- the elements `#` ranges over (a string is indexed by bytes, each a `uint8`) -/
def elemsOf : Val → List Val
  | .arr _ xs => xs
  | .str s => (strBytes s).map fun b => Val.int .uint8 b.toNat
  | _ => []

def isSeq : Val → Bool
  | .arr _ _ => true
  | .str _ => true
  | _ => false

theorem lengthV_seq {v : Val} (h : isSeq v = true) : lengthV v = .ok ((elemsOf v).length : Nat) := by
  cases v <;> simp_all [isSeq, lengthV, elemsOf]

theorem fetchV_seq {v : Val} (h : isSeq v = true) (hl : (elemsOf v).length < 2 ^ 63) (j : Nat)
    (hj : j < (elemsOf v).length) :
    fetchV v (.int .int (j : Int)) false = .ok ((elemsOf v).getD j .nil) := by
  have hj' : inRange .int (j : Int) := by
    simp only [inRange, Kind.isSigned, Kind.bits, if_true]
    omega
  cases v <;> simp_all [isSeq, elemsOf]
  · simp [fetchV, toIntR_int' _ hj', hj]
  · simp [fetchV, toIntR_int' _ hj', hj, List.getD_eq_getElem?_getD]

def keep : List Val → List Bool → List Val
  | x :: xs, b :: bs => if b then x :: keep xs bs else keep xs bs
  | _, _ => []

theorem foldIdx_keep (elems : List Val) (bs : List Bool) (i : Nat) (acc : List Val) (h : i + bs.length ≤ elems.length) :
    foldIdx (fun j (t : Bool) (acc : List Val) => if t = true then elems.getD j .nil :: acc else acc) i bs acc
      = (keep (elems.drop i) bs).reverse ++ acc := by
  induction bs generalizing i acc with
  | nil => cases elems.drop i <;> rfl
  | cons b bs ih =>
    have hlt : i < elems.length := by simp only [List.length_cons] at h; omega
    rw [foldIdx, ih (i + 1) _ (by simp only [List.length_cons] at h; omega), List.drop_eq_getElem_cons hlt]
    cases b
    · rfl
    · simp [keep, List.getD_eq_getElem?_getD, hlt]

theorem filterLoop (coll : Val) (elems : List Val) (p : Nat → SM Bool)
    (hf : ∀ j, j < elems.length → fetchV coll (.int .int (j : Int)) false = .ok (elems.getD j .nil)) :
    loopIdx (fun i (acc : List Val) => do
        let t ← p i
        if t = true then do
          let el ← SM.lift (fetchV coll (.int .int (i : Int)) false)
          pure (Sum.inl (el :: acc))
        else pure (Sum.inl acc)) elems.length 0 []
      = (do
        let bs ← seqIdx p elems.length 0
        pure (Sum.inl (keep elems bs).reverse)) := by
  -- every fetch succeeds (`hf`), so the loop is a fold of the predicate's outcomes, like the loops of `count` and `map`
  have hfold := loopIdx_fold p (fun j (t : Bool) (acc : List Val) => if t = true then elems.getD j .nil :: acc else acc)
    elems.length 0 []
  refine (loopIdx_congr _ _ _ 0 [] fun j _ hj acc => bind_congr fun t => ?_).trans (hfold.trans ?_)
  · cases t
    · rfl
    · simp only [if_true, hf j (by omega), SM.lift_ok, pure_bind]
  · exact seqIdx_bind_congr p _ 0 fun bs hbs => by
      rw [foldIdx_keep elems bs 0 [] (by omega), List.drop_zero, List.append_nil]

/-- a collection value the property speaks about: array or string, of a length Go can represent -/
def SeqVal (v : Val) : Prop := isSeq v = true ∧ (elemsOf v).length < 2 ^ 63

def filterOn (c : SCfg) (coll : Val) (p : Nat → SM Bool) : SM Val := do
  let bs ← seqIdx p (elemsOf coll).length 0
  SM.allocAfter c.budget ((keep (elemsOf coll) bs).length : Nat) (keep (elemsOf coll) bs).length
  pure (.arr .iface (keep (elemsOf coll) bs))

def countOn (coll : Val) (p : Nat → SM Bool) : SM Val := do
  let bs ← seqIdx p (elemsOf coll).length 0
  pure (.int .int (countTrue bs))

theorem eval_filter_seq (c : SCfg) (ctx : Ctx) (m : Meta) (xs b : Node) (s : SState)
    (hseq : ∀ coll s', eval c ctx xs s = (.ok coll, s') → SeqVal coll) :
    eval c ctx (.builtin m "filter" [xs, b]) s = (do
      let coll ← eval c ctx xs
      filterOn c coll (predAt c ctx coll b)) s := by
  rw [Spec.eval_builtin_filter]
  rw [SM.bind_apply, SM.bind_apply]
  rcases h : eval c ctx xs s with ⟨r, s'⟩
  cases r with
  | error e => rfl
  | ok coll =>
    obtain ⟨hs, hl⟩ := hseq coll s' h
    simp only [lengthV_seq hs, SM.lift_ok, pure_bind, Int.toNat_natCast, filterOn]
    have := filterLoop coll (elemsOf coll) (predAt c ctx coll b) (fetchV_seq hs hl)
    simp only [predAt, bodyAt, bind_assoc] at this
    rw [this]
    simp only [bind_assoc, pure_bind, List.reverse_reverse, List.length_reverse]

theorem eval_count_seq (c : SCfg) (ctx : Ctx) (m : Meta) (xs b : Node) (s : SState)
    (hseq : ∀ coll s', eval c ctx xs s = (.ok coll, s') → SeqVal coll) :
    eval c ctx (.builtin m "count" [xs, b]) s = (do
      let coll ← eval c ctx xs
      countOn coll (predAt c ctx coll b)) s := by
  rw [eval_count, SM.bind_apply, SM.bind_apply]
  rcases h : eval c ctx xs s with ⟨r, s'⟩
  cases r with
  | error e => rfl
  | ok coll =>
    obtain ⟨hs, _⟩ := hseq coll s' h
    simp only [lengthV_seq hs, SM.lift_ok, pure_bind, Int.toNat_natCast, countOn]

theorem keep_length (xs : List Val) (bs : List Bool) (h : bs.length = xs.length) :
    ((keep xs bs).length : Int) = countTrue bs := by
  unfold countTrue
  congr 1
  induction xs generalizing bs with
  | nil =>
    cases bs with
    | nil => rfl
    | cons b bs => cases h
  | cons x xs ih =>
    cases bs with
    | nil => cases h
    | cons b bs =>
      have hk := ih bs (Nat.succ.inj h)
      cases b
      · exact hk.trans (List.count_cons_of_ne (by decide)).symm
      · exact (congrArg (· + 1) hk).trans List.count_cons_self.symm

theorem keep_sublist (xs : List Val) (bs : List Bool) : List.Sublist (keep xs bs) xs := by
  induction xs generalizing bs with
  | nil => cases bs <;> exact .slnil
  | cons x xs ih =>
    cases bs with
    | nil => exact List.nil_sublist _
    | cons b bs =>
      cases b
      · exact (ih bs).cons x
      · exact (ih bs).cons_cons x

theorem keep_eq_zip (xs : List Val) (bs : List Bool) :
    keep xs bs = ((xs.zip bs).filter (fun q => q.2)).map (fun q => q.1) := by
  induction xs generalizing bs with
  | nil => cases bs <;> simp [keep]
  | cons x xs ih =>
    cases bs with
    | nil => simp [keep]
    | cons b bs => cases b <;> simp [keep, ih]

theorem mapTail_eq (budget : Int) {n : Int} (hn : 0 ≤ n) (body : Nat → SM Val) :
    mapTail budget n body = (do
      let vs ← seqIdx body n.toNat 0
      SM.allocAfter budget vs.length vs.length
      pure (.arr .iface vs)) := by
  rw [mapTail_seq]
  refine seqIdx_bind_congr _ _ _ fun vs hvs => ?_
  rw [hvs, Int.toNat_of_nonneg hn]

theorem predAt_closure (c : SCfg) (ctx : Ctx) (coll : Val) (m : Meta) (x : Node) :
    predAt c ctx coll (.closure m x) = predAt c ctx coll x := by
  funext i; simp only [predAt, bodyAt, eval_closure]

theorem bodyAt_closure (c : SCfg) (ctx : Ctx) (coll : Val) (m : Meta) (x : Node) :
    bodyAt c ctx coll (.closure m x) = bodyAt c ctx coll x := by
  funext i; simp only [bodyAt, eval_closure]

theorem predAt_not (c : SCfg) (ctx : Ctx) (coll : Val) (m : Meta) (op : String) (h : isNotOp op) (p : Node) :
    predAt c ctx coll (.unary m op p) = (fun i => do
      let b ← predAt c ctx coll p i
      pure !b) := by
  funext i
  simp only [predAt, bodyAt, eval_not _ _ _ _ h, bind_assoc]
  congr 1; funext v
  cases v <;> first | rfl | (simp [notV, asBool])

theorem allM_eq_not_anyM_not (p : Nat → SM Bool) (fuel i : Nat) :
    allM p fuel i = (do
      let r ← anyM (fun i => do
        let b ← p i
        pure !b) fuel i
      pure !r) := by
  induction fuel generalizing i with
  | zero => simp [allM, anyM]
  | succ n ih =>
    simp only [allM, anyM, bind_assoc]
    congr 1; funext t
    cases t <;> simp [ih]

theorem seqIdx_succ_ok {β} (g : Nat → SM β) (n i : Nat) (s sk : SState) (bs : List β) :
    seqIdx g (n + 1) i s = (.ok bs, sk) ↔
      ∃ b s0 bs', g i s = (.ok b, s0) ∧ seqIdx g n (i + 1) s0 = (.ok bs', sk) ∧ bs = b :: bs' := by
  constructor
  · intro h
    unfold seqIdx at h
    obtain ⟨b, s0, hb, h⟩ := SM.bind_ok h
    obtain ⟨bs', s1, hs, h⟩ := SM.bind_ok h
    simp only [SM.pure_apply, Prod.mk.injEq, Except.ok.injEq] at h
    exact ⟨b, s0, bs', hb, by rw [hs, h.2], h.1.symm⟩
  · rintro ⟨b, s0, bs', hb, hs, rfl⟩
    simp only [seqIdx, SM.bind_apply, hb, hs, SM.pure_apply]

theorem seqIdx_snoc {β} (g : Nat → SM β) (n i : Nat) :
    seqIdx g (n + 1) i = (do
      let bs ← seqIdx g n i
      let b ← g (i + n)
      pure (bs ++ [b])) := by
  induction n generalizing i with
  | zero => simp [seqIdx]
  | succ n ih =>
    rw [seqIdx, ih (i + 1), seqIdx, Nat.add_right_comm i 1 n]
    simp only [bind_assoc, pure_bind, List.cons_append, Nat.add_assoc]

theorem seqIdx_error_iff {β} (g : Nat → SM β) (fuel i : Nat) (s s' : SState) (e : ErrClass) :
    seqIdx g fuel i s = (.error e, s') ↔
      ∃ k, k < fuel ∧ ∃ bs sk, seqIdx g k i s = (.ok bs, sk) ∧ g (i + k) sk = (.error e, s') := by
  induction fuel with
  | zero => simp [seqIdx]
  | succ n ih =>
    rw [seqIdx_snoc]
    constructor
    · intro h
      rcases SM.bind_cases h with ⟨_, h1, he⟩ | ⟨bs, sk, h1, h2⟩
      · cases he
        obtain ⟨k, hk, hr⟩ := ih.1 h1
        exact ⟨k, by omega, hr⟩
      · rcases SM.bind_cases h2 with ⟨_, h3, he⟩ | ⟨_, _, _, h4⟩
        · cases he
          exact ⟨n, by omega, bs, sk, h1, h3⟩
        · cases h4
    · rintro ⟨k, hk, bs, sk, hok, herr⟩
      by_cases hkn : k = n
      · subst hkn
        simp only [SM.bind_apply, hok, herr]
      · simp only [SM.bind_apply, ih.2 ⟨k, by omega, bs, sk, hok, herr⟩]

theorem seqIdx_get {β} (g : Nat → SM β) (fuel i : Nat) (s s' : SState) (bs : List β)
    (h : seqIdx g fuel i s = (.ok bs, s')) (k : Nat) (hk : k < fuel) :
    ∃ pre sk b sk', seqIdx g k i s = (.ok pre, sk) ∧ g (i + k) sk = (.ok b, sk') ∧ bs[k]? = some b := by
  induction fuel generalizing s' bs with
  | zero => omega
  | succ n ih =>
    rw [seqIdx_snoc] at h
    obtain ⟨pre, sk, hpre, h⟩ := SM.bind_ok h
    obtain ⟨b, sk', hb, h⟩ := SM.bind_ok h
    cases h
    have hl := seqIdx_length g n i s sk pre hpre
    by_cases hkn : k = n
    · subst hkn
      exact ⟨pre, sk, b, _, hpre, hb, by simp [hl]⟩
    · obtain ⟨pre', sk0, b', sk0', h1, h2, h3⟩ := ih sk pre hpre (by omega)
      exact ⟨pre', sk0, b', sk0', h1, h2, by rw [List.getElem?_append_left (by omega), h3]⟩

end Spec
end ExprModel
