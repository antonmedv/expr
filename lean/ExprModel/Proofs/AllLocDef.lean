import ExprModel.Syntax.Ast
/-
`Node.AllLoc P`: every node of a tree is located where `P` holds.  Each stage between the parser and the compiler is
shown to keep it for an arbitrary `P` (`ParserLocs`, `CheckerLocs`, `PatchLocs`, `OptLocs`, `CompileLocs`), so that what
holds of the token locations holds of every location reported downstream.
-/
namespace ExprModel

mutual
def Node.AllLoc (P : Loc → Prop) : Node → Prop
  | .nil m | .ident m _ _ | .int m _ | .float m _ | .bool m _ | .str m _ | .const m _ | .pointer m => P m.loc
  | .unary m _ x | .closure m x => P m.loc ∧ x.AllLoc P
  | .binary m _ l r | .matches m _ l r | .index m l r | .pair m l r => P m.loc ∧ l.AllLoc P ∧ r.AllLoc P
  | .prop m x _ _ => P m.loc ∧ x.AllLoc P
  | .slice m x a b => P m.loc ∧ x.AllLoc P ∧ Node.AllLocO P a ∧ Node.AllLocO P b
  | .method m x _ args _ => P m.loc ∧ x.AllLoc P ∧ Node.AllLocL P args
  | .func m _ args _ | .builtin m _ args | .array m args | .map m args => P m.loc ∧ Node.AllLocL P args
  | .cond m c a b => P m.loc ∧ c.AllLoc P ∧ a.AllLoc P ∧ b.AllLoc P
def Node.AllLocL (P : Loc → Prop) : List Node → Prop
  | [] => True
  | n :: ns => n.AllLoc P ∧ Node.AllLocL P ns
def Node.AllLocO (P : Loc → Prop) : Option Node → Prop
  | none => True
  | some n => n.AllLoc P
end

theorem Node.allLoc_root {P : Loc → Prop} : ∀ (n : Node), n.AllLoc P → P n.loc := by
  intro n h
  cases n <;> first | exact h | exact h.1

/-- `withMeta` with a located annotation (`ast.Patch`, the checker's `SetType`) -/
theorem Node.allLoc_withMeta {P : Loc → Prop} (n : Node) (m : Meta) (hm : P m.loc) (hn : n.AllLoc P) :
    (n.withMeta m).AllLoc P := by
  cases n <;> simp only [Node.withMeta, Node.AllLoc] at hn ⊢ <;> first | exact hm | exact ⟨hm, hn.2⟩

end ExprModel
