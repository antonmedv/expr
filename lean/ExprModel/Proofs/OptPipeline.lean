import ExprModel.Opt.Driver
/-
The pass structure of `optimizer.Optimize`, taken apart once: a property of trees that one walk of every pass
keeps is kept by the repetition loops (any limit) and by the five passes in sequence, and what holds of every
error a walk records holds of the error `Optimize` returns.
-/
namespace ExprModel
namespace OptProofs
open Opt

def passRule (fl : Flags) (fns : ConstFns) (w : World) : Pass → Rule
  | .inArray => inArrayRule fl
  | .fold => foldRule fl w
  | .constExpr => constExprRule fl fns w
  | .inRange => inRangeRule fl
  | .constRange => constRangeRule fl

/-- `optimizer.Optimize` filters nothing: it runs the rules themselves -/
theorem guarded_all (p : Pass) (r : Rule) : guarded Guard.all p r = r := rfl

/-- `ROK` of Proofs/Outcome.lean is the same on `Except ErrClass`; this file rests on the model alone -/
def ResTo (Q : Node → Prop) (E : Loc → Prop) : Except Loc Node → Prop
  | .ok n => Q n
  | .error l => E l

/-- one walk from the empty visitor `{}`, as `Optimize` starts every walk.  `E` is asked only of the error left at the
    END of the walk: `err` is overwritten by a later rejection, so a proof about all errors on the way has to thread
    its own invariant through the walk (`ErrIn` in `walk_allLoc`) -/
def WalkKeeps (ws : Bool) (Q : Node → Prop) (E : Loc → Prop) (rule : Rule) : Prop :=
  ∀ n, Q n → Q (walk ws rule n {}).1 ∧ ∀ l, (walk ws rule n {}).2.err = some l → E l

variable {Q : Node → Prop} {E : Loc → Prop}

theorem ResTo.bind {x : Except Loc Node} {f : Node → Except Loc Node} (hx : ResTo Q E x)
    (hf : ∀ n, Q n → ResTo Q E (f n)) : ResTo Q E (x >>= f) := by
  cases x with
  | error l => exact hx
  | ok n => exact hf n hx

theorem ResTo.ok {x : Except Loc Node} {n : Node} (hx : ResTo Q E x) (h : x = .ok n) : Q n := by
  subst h; exact hx

theorem ResTo.error {x : Except Loc Node} {l : Loc} (hx : ResTo Q E x) (h : x = .error l) : E l := by
  subst h; exact hx

theorem repeatPass_keeps {ws : Bool} {rule : Rule} (h : WalkKeeps ws Q E rule) :
    ∀ (k : Nat) (n : Node), Q n → ResTo Q E (repeatPass ws rule k n)
  | 0, _, hn => hn
  | k + 1, n, hn => by
    obtain ⟨hq, he⟩ := h n hn
    simp only [repeatPass]
    cases herr : (walk ws rule n {}).2.err with
    | some l => exact he l herr
    | none =>
      dsimp only
      split
      · exact repeatPass_keeps h k _ hq
      · exact hq

theorem optimizeWith_keeps (g : Guard) (fl : Flags) (fns : ConstFns) (w : World)
    (h : ∀ p, WalkKeeps fl.walkSliceNode Q E (guarded g p (passRule fl fns w p))) (n : Node) (hn : Q n) :
    ResTo Q E (optimizeWith g fl fns w n) := by
  have tail : ∀ n3, Q n3 → Q (walk fl.walkSliceNode (guarded g .constRange (constRangeRule fl))
      (walk fl.walkSliceNode (guarded g .inRange (inRangeRule fl)) n3 {}).1 {}).1 :=
    fun n3 h3 => (h .constRange _ (h .inRange n3 h3).1).1
  refine (repeatPass_keeps (h .fold) foldWalks _ (h .inArray n hn).1).bind fun n2 h2 => ?_
  dsimp only
  split
  · exact tail n2 h2
  · exact (repeatPass_keeps (h .constExpr) constExprWalks n2 h2).bind tail

end OptProofs
end ExprModel
