import ExprModel.Spec.EvalLoc
import ExprModel.Proofs.RefineTails
import ExprModel.Proofs.RefineGood
/-
The located evaluator by equations, parallel to SpecEqs: what a computation in `SML` (bind, `pure`, `raisedAt`)
does on a state, and one equation of `evalLoc` / `evalListLoc` per node kind.  The seven loop builtins are stated a
second time as instances of one located computation, `loopL`: the form in which the simulation, the failure classes
and the blame relations go through them.
-/
namespace ExprModel.Spec
open SML

theorem SML.bind_apply {α β : Type} (m : SML α) (f : α → SML β) (σ : SState) :
    (m >>= f) σ = match m σ with
      | (.ok a, σ1) => f a σ1
      | (.error e, σ1) => (.error e, σ1) := rfl

@[simp] theorem SML.pure_apply {α : Type} (a : α) (σ : SState) : (pure a : SML α) σ = (.ok a, σ) := rfl

theorem raisedAt_apply {α : Type} (l : Loc) (t : SM α) (σ : SState) : raisedAt l t σ = match t σ with
      | (.ok a, s') => (.ok a, s')
      | (.error e, s') => (.error (e, l), s') := rfl

theorem SML.bind_ok {α β : Type} {m : SML α} {f : α → SML β} {σ σ' : SState} {b : β} (h : (m >>= f) σ = (.ok b, σ')) :
    ∃ a σ1, m σ = (.ok a, σ1) ∧ f a σ1 = (.ok b, σ') := by
  rw [SML.bind_apply] at h
  cases hm : m σ with
  | mk r σ1 =>
    rw [hm] at h
    cases r with
    | error e => cases h
    | ok a => exact ⟨a, σ1, rfl, h⟩

theorem evalLoc_builtin_bad (c : SCfg) (ctx : Ctx) (m : Meta) (name : String) (args : List Node)
    (h2 : args.length ≠ 2) (h1 : name = "len" → args.length ≠ 1) :
    evalLoc c ctx (.builtin m name args) = raisedAt m.loc (SM.fail .badop) := by
  conv => lhs; unfold evalLoc
  split
  · exact absurd rfl (h1 rfl)
  · exact absurd rfl h2
  · rfl

end ExprModel.Spec

namespace ExprModel.Refine
open ExprModel
open ExprModel.Spec
open ExprModel.Spec.SML

theorem raisedAt_pure {α : Type} (l : Loc) (a : α) : raisedAt l (pure a : SM α) = pure a := rfl

theorem raisedAt_bind {α β : Type} (l : Loc) (t : SM α) (g : α → SM β) :
    raisedAt l (t >>= g) = raisedAt l t >>= fun a => raisedAt l (g a) := by
  funext σ
  rw [raisedAt_apply, SML.bind_apply, SM.bind_apply, raisedAt_apply]
  cases t σ with
  | mk r σ1 => cases r <;> simp only [raisedAt_apply]

section
variable (c : SCfg) (ctx : Ctx)

theorem evalLoc_nil (m) : evalLoc c ctx (.nil m) = pure .nil := rfl
theorem evalLoc_ident (m name nilsafe) :
    evalLoc c ctx (.ident m name nilsafe) = raisedAt m.loc (SM.lift (fetchV c.env (.str name) nilsafe)) := rfl
theorem evalLoc_int (m v) : evalLoc c ctx (.int m v) = pure (intConst m.kd v) := rfl
theorem evalLoc_float (m bits) : evalLoc c ctx (.float m bits) = pure (.f64 (Float.ofBits bits)) := rfl
theorem evalLoc_bool (m b) : evalLoc c ctx (.bool m b) = pure (.bool b) := rfl
theorem evalLoc_str (m s) : evalLoc c ctx (.str m s) = pure (.str s) := rfl
theorem evalLoc_const (m v) : evalLoc c ctx (.const m v) = pure v := rfl

theorem evalLoc_unary (m op x) : evalLoc c ctx (.unary m op x) = (do
    let v ← evalLoc c ctx x
    raisedAt m.loc (
      if op == "!" || op == "not" then SM.lift (notV v)
      else if op == "-" then SM.lift (negV v)
      else if op == "+" then pure v
      else SM.fail .badop)) := rfl

theorem evalLoc_binary (m op l r) : evalLoc c ctx (.binary m op l r) =
    if (op == "and" || op == "&&") = true then (do
      let a ← evalLoc c ctx l
      if ← raisedAt m.loc (asBool a) then evalLoc c ctx r else pure (.bool false))
    else if (op == "or" || op == "||") = true then (do
      let a ← evalLoc c ctx l
      if ← raisedAt m.loc (asBool a) then pure (.bool true) else evalLoc c ctx r)
    else (do
      let a ← evalLoc c ctx l
      let b ← evalLoc c ctx r
      raisedAt m.loc (binTail c op l r a b)) := rfl

theorem evalLoc_strict (m) {op : String} (h : isLogicOp op = false) (l r) : evalLoc c ctx (.binary m op l r) = (do
    let a ← evalLoc c ctx l
    let b ← evalLoc c ctx r
    raisedAt m.loc (binTail c op l r a b)) := by
  simp only [isLogicOp, Bool.or_eq_false_iff] at h
  rw [evalLoc_binary, h.1.1.1, h.1.1.2, h.1.2, h.2]
  rfl

theorem evalLoc_matches (m hasRe l r) : evalLoc c ctx (.matches m hasRe l r) = (do
    let a ← evalLoc c ctx l
    if hasRe = true then raisedAt m.loc (matchRe c (patOf r) a)
    else do
      let b ← evalLoc c ctx r
      raisedAt m.loc (matchDyn c a b)) := rfl

theorem evalLoc_prop (m x name nilsafe) : evalLoc c ctx (.prop m x name nilsafe) = (do
    let v ← evalLoc c ctx x
    raisedAt m.loc (SM.lift (fetchV v (.str name) nilsafe))) := rfl

theorem evalLoc_index (m x i) : evalLoc c ctx (.index m x i) = (do
    let a ← evalLoc c ctx x
    let b ← evalLoc c ctx i
    raisedAt m.loc (SM.lift (fetchV a b false))) := rfl

theorem evalLoc_slice (m x f t) : evalLoc c ctx (.slice m x f t) = (do
    let a ← evalLoc c ctx x
    let tb : SML Val := match t with
      | some t => evalLoc c ctx t
      | none => raisedAt m.loc (do pure (.int .int (← SM.lift (lengthV a))))
    let fb : SML Val := match f with
      | some f => evalLoc c ctx f
      | none => pure (.int .int 0)
    if c.sliceToFirst then tb >>= fun tv => fb >>= fun fv => raisedAt m.loc (SM.lift (sliceV a fv tv))
    else fb >>= fun fv => tb >>= fun tv => raisedAt m.loc (SM.lift (sliceV a fv tv))) := by
  cases f <;> cases t <;> rfl

theorem evalLoc_method (m x name args nilsafe) : evalLoc c ctx (.method m x name args nilsafe) = (do
    let obj ← evalLoc c ctx x
    let vs ← evalListLoc c ctx args
    raisedAt m.loc (if (nilsafe && obj.isNilLike) = true then pure .nil else callTail c.world obj name vs)) := rfl

theorem evalLoc_func (m name args fast) : evalLoc c ctx (.func m name args fast) = (do
    let vs ← evalListLoc c ctx args
    raisedAt m.loc (callTail c.world c.env name vs)) := rfl

theorem evalLoc_len (m a) : evalLoc c ctx (.builtin m "len" [a]) = (do
    let v ← evalLoc c ctx a
    raisedAt m.loc (do pure (.int .int (← SM.lift (lengthV v))))) := rfl

theorem evalLoc_builtin_all (m a b) : evalLoc c ctx (.builtin m "all" [a, b]) = (do
    let coll ← evalLoc c ctx a
    let n ← raisedAt m.loc (SM.lift (lengthV coll))
    let r ← loopIdxL (fun i (_ : Unit) => do
        let v ← evalLoc c ((coll, (i : Int)) :: ctx) b
        raisedAt m.loc (do if ← asBool v then pure (.inl ()) else pure (.inr (.bool false)))) n.toNat 0 ()
    raisedAt m.loc (match r with
      | .inl _ => pure (.bool true)
      | .inr v => pure v)) := rfl

theorem evalLoc_builtin_none (m a b) : evalLoc c ctx (.builtin m "none" [a, b]) = (do
    let coll ← evalLoc c ctx a
    let n ← raisedAt m.loc (SM.lift (lengthV coll))
    let r ← loopIdxL (fun i (_ : Unit) => do
        let v ← evalLoc c ((coll, (i : Int)) :: ctx) b
        raisedAt m.loc (do if ← asBool v then pure (.inr (.bool false)) else pure (.inl ()))) n.toNat 0 ()
    raisedAt m.loc (match r with
      | .inl _ => pure (.bool true)
      | .inr v => pure v)) := rfl

theorem evalLoc_builtin_any (m a b) : evalLoc c ctx (.builtin m "any" [a, b]) = (do
    let coll ← evalLoc c ctx a
    let n ← raisedAt m.loc (SM.lift (lengthV coll))
    let r ← loopIdxL (fun i (_ : Unit) => do
        let v ← evalLoc c ((coll, (i : Int)) :: ctx) b
        raisedAt m.loc (do if ← asBool v then pure (.inr (.bool true)) else pure (.inl ()))) n.toNat 0 ()
    raisedAt m.loc (match r with
      | .inl _ => pure (.bool false)
      | .inr v => pure v)) := rfl

theorem evalLoc_builtin_one (m a b) : evalLoc c ctx (.builtin m "one" [a, b]) = (do
    let coll ← evalLoc c ctx a
    let n ← raisedAt m.loc (SM.lift (lengthV coll))
    let r ← loopIdxL (fun i (k : Int) => do
        let v ← evalLoc c ((coll, (i : Int)) :: ctx) b
        raisedAt m.loc (do if ← asBool v then pure (.inl (k + 1)) else pure (.inl k))) n.toNat 0 (0 : Int)
    raisedAt m.loc (match r with
      | .inl k => pure (.bool (k == 1))
      | .inr v => pure v)) := rfl

theorem evalLoc_builtin_count (m a b) : evalLoc c ctx (.builtin m "count" [a, b]) = (do
    let coll ← evalLoc c ctx a
    let n ← raisedAt m.loc (SM.lift (lengthV coll))
    let r ← loopIdxL (fun i (k : Int) => do
        let v ← evalLoc c ((coll, (i : Int)) :: ctx) b
        raisedAt m.loc (do if ← asBool v then pure (.inl (k + 1)) else pure (.inl k))) n.toNat 0 (0 : Int)
    raisedAt m.loc (match r with
      | .inl k => pure (.int .int k)
      | .inr v => pure v)) := rfl

theorem evalLoc_builtin_filter (m a b) : evalLoc c ctx (.builtin m "filter" [a, b]) = (do
    let coll ← evalLoc c ctx a
    let n ← raisedAt m.loc (SM.lift (lengthV coll))
    let r ← loopIdxL (fun i (acc : List Val) => do
        let v ← evalLoc c ((coll, (i : Int)) :: ctx) b
        raisedAt m.loc (do
          if ← asBool v then do
            let el ← SM.lift (fetchV coll (.int .int i) false)
            pure (.inl (el :: acc))
          else pure (.inl acc))) n.toNat 0 ([] : List Val)
    raisedAt m.loc (match r with
      | .inl acc => do
        SM.allocAfter c.budget acc.length acc.length
        pure (.arr .iface acc.reverse)
      | .inr v => pure v)) := rfl

theorem evalLoc_builtin_map (m a b) : evalLoc c ctx (.builtin m "map" [a, b]) = (do
    let coll ← evalLoc c ctx a
    let n ← raisedAt m.loc (SM.lift (lengthV coll))
    let r ← loopIdxL (fun i (acc : List Val) => do
        let v ← evalLoc c ((coll, (i : Int)) :: ctx) b
        pure (.inl (v :: acc))) n.toNat 0 ([] : List Val)
    raisedAt m.loc (match r with
      | .inl acc => do
        SM.allocAfter c.budget n acc.length
        pure (.arr .iface acc.reverse)
      | .inr v => pure v)) := rfl

theorem evalLoc_builtin_unknown (m name a b) (h : builtinNames.contains name = false) :
    evalLoc c ctx (.builtin m name [a, b]) = raisedAt m.loc (SM.fail .badop) := by
  rw [evalLoc]
  simp only [h]
  rfl

theorem evalLoc_closure (m x) : evalLoc c ctx (.closure m x) = evalLoc c ctx x := rfl

theorem evalLoc_pointer (m) : evalLoc c ctx (.pointer m) = raisedAt m.loc (match ctx with
    | (coll, i) :: _ => SM.lift (fetchV coll (.int .int i) false)
    | [] => SM.fail .type_) := rfl

theorem evalLoc_cond (m cnd a b) : evalLoc c ctx (.cond m cnd a b) = (do
    let v ← evalLoc c ctx cnd
    if ← raisedAt m.loc (asBool v) then evalLoc c ctx a else evalLoc c ctx b) := rfl

theorem evalLoc_array (m xs) : evalLoc c ctx (.array m xs) = (do
    let vs ← evalListLoc c ctx xs
    raisedAt m.loc (do
      SM.allocAfter c.budget vs.length vs.length
      pure (.arr .iface vs))) := rfl

theorem evalLoc_map (m ps) : evalLoc c ctx (.map m ps) = (do
    let flat ← evalListLoc c ctx ps
    raisedAt m.loc (do
      let mp ← SM.lift (buildMap flat)
      SM.allocAfter c.budget ps.length ps.length
      pure (.map mp))) := rfl

theorem evalListLoc_nil : evalListLoc c ctx [] = pure [] := rfl

theorem evalListLoc_pair (m k v rest) : evalListLoc c ctx (.pair m k v :: rest) = (do
    let kv ← evalLoc c ctx k
    let vv ← evalLoc c ctx v
    let vs ← evalListLoc c ctx rest
    pure (kv :: vv :: vs)) := rfl

theorem evalListLoc_cons (n rest) (h : n.isPair = false) : evalListLoc c ctx (n :: rest) = (do
    let v ← evalLoc c ctx n
    let vs ← evalListLoc c ctx rest
    pure (v :: vs)) := by
  cases n
  case pair => cases h
  all_goals rfl

end

section
variable {ctx : Ctx}

theorem evalLoc_matches_re (sc : SCfg) (m : Meta) (l r : Node) : evalLoc sc ctx (.matches m true l r) = (do
    let a ← evalLoc sc ctx l
    raisedAt m.loc (SM.lift (matchR sc.world a (.str (patOf r))))) := by
  rw [evalLoc_matches]
  simp only [if_true, matchRe_lift]

theorem evalLoc_matches_dyn (sc : SCfg) (m : Meta) (l r : Node) : evalLoc sc ctx (.matches m false l r) = (do
    let a ← evalLoc sc ctx l
    let b ← evalLoc sc ctx r
    raisedAt m.loc (SM.lift (matchR sc.world a b))) := by
  rw [evalLoc_matches]
  simp only [Bool.false_eq_true, if_false, matchDyn_lift]

theorem evalListLoc_length (sc : SCfg) {L : Node → Prop} : ∀ (ns : List Node), GoodL L ns → ∀ σ vs σ',
    evalListLoc sc ctx ns σ = (.ok vs, σ') → vs.length = ns.length
  | [], _, σ, vs, σ', h => by cases h; rfl
  | n :: ns, hg, σ, vs, σ', h => by
    rw [evalListLoc_cons _ _ _ _ (good_not_pair hg.1)] at h
    obtain ⟨v, σ1, _, h⟩ := SML.bind_ok h
    obtain ⟨vs', σ2, hrv, h⟩ := SML.bind_ok h
    cases h
    rw [List.length_cons, List.length_cons, evalListLoc_length sc ns hg.2 _ _ _ hrv]

theorem evalListLoc_length_pairs (sc : SCfg) {L : Node → Prop} : ∀ (ns : List Node), GoodP L ns → ∀ σ vs σ',
    evalListLoc sc ctx ns σ = (.ok vs, σ') → vs.length = 2 * ns.length
  | [], _, σ, vs, σ', h => by cases h; rfl
  | n :: ns, hg, σ, vs, σ', h => by
    cases n <;> first | exact (hg : False).elim | skip
    rw [evalListLoc_pair] at h
    obtain ⟨kv, σ1, _, h⟩ := SML.bind_ok h
    obtain ⟨vv, σ2, _, h⟩ := SML.bind_ok h
    obtain ⟨vs', σ3, hrv, h⟩ := SML.bind_ok h
    cases h
    have := evalListLoc_length_pairs sc ns (hg : _ ∧ _ ∧ _).2.2 _ _ _ hrv
    simp only [List.length_cons, this]
    omega

end

/-- `post coll i acc x`: what the builtin does with the closure's value `x`; `fin n r`: with the loop's outcome
    (final accumulator or early exit) -/
def loopL (sc : SCfg) (ctx : Ctx) (a b : Node) (l : Loc) {α : Type} (post : Val → Nat → α → Val → SML (α ⊕ Val))
    (acc0 : α) (fin : Int → α ⊕ Val → SM Val) : SML Val := do
  let coll ← evalLoc sc ctx a
  let n ← raisedAt l (SM.lift (lengthV coll))
  let r ← loopIdxL (fun i acc => evalLoc sc ((coll, (i : Int)) :: ctx) b >>= post coll i acc) n.toNat 0 acc0
  raisedAt l (fin n r)

theorem loopIdxL_succ {α : Type} (body : Nat → α → SML (α ⊕ Val)) (fuel i : Nat) (acc : α) :
    loopIdxL body (fuel + 1) i acc = (body i acc >>= fun r => match r with
      | .inl acc' => loopIdxL body fuel (i + 1) acc'
      | .inr v => pure (.inr v)) := rfl

section
variable (sc : SCfg) (ctx : Ctx) (m : Meta) (a b : Node)

theorem evalLoc_all : evalLoc sc ctx (.builtin m "all" [a, b]) = loopL sc ctx a b m.loc
    (fun _ _ _ x => raisedAt m.loc (do if ← asBool x then pure (.inl ()) else pure (.inr (.bool false)))) ()
    (fun _ r => match r with
      | .inl _ => pure (.bool true)
      | .inr v => pure v) :=
  (evalLoc_builtin_all sc ctx m a b).trans rfl

theorem evalLoc_none : evalLoc sc ctx (.builtin m "none" [a, b]) = loopL sc ctx a b m.loc
    (fun _ _ _ x => raisedAt m.loc (do if ← asBool x then pure (.inr (.bool false)) else pure (.inl ()))) ()
    (fun _ r => match r with
      | .inl _ => pure (.bool true)
      | .inr v => pure v) :=
  (evalLoc_builtin_none sc ctx m a b).trans rfl

theorem evalLoc_any : evalLoc sc ctx (.builtin m "any" [a, b]) = loopL sc ctx a b m.loc
    (fun _ _ _ x => raisedAt m.loc (do if ← asBool x then pure (.inr (.bool true)) else pure (.inl ()))) ()
    (fun _ r => match r with
      | .inl _ => pure (.bool false)
      | .inr v => pure v) :=
  (evalLoc_builtin_any sc ctx m a b).trans rfl

def postCount (l : Loc) : Val → Nat → Int → Val → SML (Int ⊕ Val) :=
  fun _ _ k x => raisedAt l (do if ← asBool x then pure (.inl (k + 1)) else pure (.inl k))

theorem evalLoc_count : evalLoc sc ctx (.builtin m "count" [a, b]) = loopL sc ctx a b m.loc (postCount m.loc) (0 : Int)
    (fun _ r => match r with
      | .inl k => pure (.int .int k)
      | .inr v => pure v) :=
  (evalLoc_builtin_count sc ctx m a b).trans rfl

theorem evalLoc_one : evalLoc sc ctx (.builtin m "one" [a, b]) = loopL sc ctx a b m.loc (postCount m.loc) (0 : Int)
    (fun _ r => match r with
      | .inl k => pure (.bool (k == 1))
      | .inr v => pure v) :=
  (evalLoc_builtin_one sc ctx m a b).trans rfl

theorem evalLoc_filter : evalLoc sc ctx (.builtin m "filter" [a, b]) = loopL sc ctx a b m.loc
    (fun coll i (acc : List Val) x => raisedAt m.loc (do
      if ← asBool x then do
        let el ← SM.lift (fetchV coll (.int .int i) false)
        pure (.inl (el :: acc))
      else pure (.inl acc))) ([] : List Val)
    (fun _ r => match r with
      | .inl acc => do
        SM.allocAfter sc.budget acc.length acc.length
        pure (.arr .iface acc.reverse)
      | .inr v => pure v) :=
  (evalLoc_builtin_filter sc ctx m a b).trans rfl

theorem evalLoc_bmap : evalLoc sc ctx (.builtin m "map" [a, b]) = loopL sc ctx a b m.loc
    (fun _ _ (acc : List Val) x => pure (.inl (x :: acc))) ([] : List Val)
    (fun n r => match r with
      | .inl acc => do
        SM.allocAfter sc.budget n acc.length
        pure (.arr .iface acc.reverse)
      | .inr v => pure v) :=
  (evalLoc_builtin_map sc ctx m a b).trans rfl
end

end ExprModel.Refine
