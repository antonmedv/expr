import ExprModel.Proofs.RefinePool
/-
One description of what `compileNode` emits, generic in what an operand means.  `Emits C cfg n code`: `code` is the
instruction list of `n`, where `C k v` says that operand `k` stands for the constant `v`.  `compile_emits` is the one
traversal of `compileNode`: whatever `mkConst` / `mkRegexConst` establish (`PoolSpec`), the result satisfies `Emits (C K)`
in every later constant array `K`.  With `C K k v := K[k]? = some v` this is `Compiles K`; with the class of the constant
only it gives `Bc.Frag`; with nothing said of the operands, the locations of the instructions.
-/
namespace ExprModel.Refine
open ExprModel

structure LoopC (C : Nat → Val → Prop) (ci cs car c0 : Nat) : Prop where
  i : C ci (.str "i")
  size : C cs (.str "size")
  array : C car (.str "array")
  zero : C c0 (.int .int 0)

theorem LoopC.loopK {K : Array Val} {ci cs car c0 : Nat} (L : LoopC (fun k v => K[k]? = some v) ci cs car c0) :
    LoopK K ci cs car c0 :=
  ⟨L.i, L.size, L.array, L.zero⟩

mutual
inductive Emits (C : Nat → Val → Prop) (cfg : CompCfg) : Node → List LInstr → Prop
  | nilN (m) : Emits C cfg (.nil m) [li m.loc .nil_]
  | ident (m name ns k) : C k (.str name) →
      Emits C cfg (.ident m name ns) [li m.loc (if cfg.mapEnv then Op.fetchMap else if ns then .fetchNilSafe else .fetch) k]
  | int (m v k) : C k (intConst m.kd v) → Emits C cfg (.int m v) [li m.loc .push k]
  | float (m bits k) : C k (.f64 (Float.ofBits bits)) → Emits C cfg (.float m bits) [li m.loc .push k]
  | bool (m b) : Emits C cfg (.bool m b) [li m.loc (if b then .true_ else .false_)]
  | str (m s k) : C k (.str s) → Emits C cfg (.str m s) [li m.loc .push k]
  | constNil (m) : Emits C cfg (.const m .nil) [li m.loc .nil_]
  | const (m v k) : v ≠ .nil → C k v → Emits C cfg (.const m v) [li m.loc .push k]
  | not (m op x cx) : (op == "!" || op == "not") = true → Emits C cfg x cx → Emits C cfg (.unary m op x) (cx ++ [li m.loc .not_])
  | plus (m x cx) : Emits C cfg x cx → Emits C cfg (.unary m "+" x) cx
  | neg (m x cx) : Emits C cfg x cx → Emits C cfg (.unary m "-" x) (cx ++ [li m.loc .negate])
  | eq (m l r cl cr) : Emits C cfg l cl → Emits C cfg r cr →
      Emits C cfg (.binary m "==" l r) (cl ++ cr ++ [li m.loc (eqOpOf l r)])
  | or (m op l r cl cr) : (op == "or" || op == "||") = true → Emits C cfg l cl → Emits C cfg r cr →
      Emits C cfg (.binary m op l r) (cl ++ [li m.loc .jumpIfTrue (1 + lsize cr), li m.loc .pop] ++ cr)
  | and (m op l r cl cr) : (op == "and" || op == "&&") = true → Emits C cfg l cl → Emits C cfg r cr →
      Emits C cfg (.binary m op l r) (cl ++ [li m.loc .jumpIfFalse (1 + lsize cr), li m.loc .pop] ++ cr)
  | simple (m op l r cl cr ops) : (op == "==") = false → (op == "or" || op == "||") = false →
      (op == "and" || op == "&&") = false → binSimpleOp op = some ops → Emits C cfg l cl → Emits C cfg r cr →
      Emits C cfg (.binary m op l r) (cl ++ cr ++ ops.map (fun o => li m.loc o))
  | matchesRe (m l r cl k) : Emits C cfg l cl → C k (.regexp (patOf r)) →
      Emits C cfg (.matches m true l r) (cl ++ [li m.loc .matchesConst k])
  | matchesN (m l r cl cr) : Emits C cfg l cl → Emits C cfg r cr →
      Emits C cfg (.matches m false l r) (cl ++ cr ++ [li m.loc .matches_])
  | prop (m x name ns cx k) : Emits C cfg x cx → C k (.str name) →
      Emits C cfg (.prop m x name ns) (cx ++ [li m.loc (if ns then .propertyNilSafe else .property) k])
  | index (m x i cx ci) : Emits C cfg x cx → Emits C cfg i ci → Emits C cfg (.index m x i) (cx ++ ci ++ [li m.loc .index])
  | slice (m x f t cx ct cf) : Emits C cfg x cx → EmitsO C cfg t (· = [li m.loc .len]) ct →
      EmitsO C cfg f (fun cf => ∃ k, C k (.int .int 0) ∧ cf = [li m.loc .push k]) cf →
      Emits C cfg (.slice m x f t) (cx ++ ct ++ cf ++ [li m.loc .slice])
  | method (m x name args ns cx ca k) : Emits C cfg x cx → EmitsL C cfg args ca → C k (.call name args.length) →
      Emits C cfg (.method m x name args ns) (cx ++ ca ++ [li m.loc (if ns then .methodNilSafe else .method) k])
  | func (m name args fast ca k) : EmitsL C cfg args ca → C k (.call name args.length) →
      Emits C cfg (.func m name args fast) (ca ++ [li m.loc (if fast then .callFast else .call) k])
  | len (m a ca) : Emits C cfg a ca → Emits C cfg (.builtin m "len" [a]) (ca ++ [li m.loc .len, li m.loc .rot, li m.loc .pop])
  -- `all` / `none` / `any`: the operand of the jump that leaves the loop is the size of what it jumps over — the body's own
  -- `pop`, the tail of `emitLoop` behind the body (`inc`, `jumpBackward`, `pop`) and the final constant.  The list is
  -- written for its size alone: the operand 0 of its `jumpBackward` stands for the real offset, which has the same size.
  | all (m a b ca cb ci cs car c0) : Emits C cfg a ca → Emits C cfg b cb → LoopC C ci cs car c0 →
      Emits C cfg (.builtin m "all" [a, b]) (ca ++ [li m.loc .begin_] ++ emitLoop m.loc ci cs car c0
        (cb ++ [li m.loc .jumpIfFalse (lsize [li m.loc .pop, li m.loc .inc ci, li m.loc .jumpBackward 0, li m.loc .pop, li m.loc .true_]), li m.loc .pop])
        ++ [li m.loc .true_, li m.loc .end_])
  | noneB (m a b ca cb ci cs car c0) : Emits C cfg a ca → Emits C cfg b cb → LoopC C ci cs car c0 →
      Emits C cfg (.builtin m "none" [a, b]) (ca ++ [li m.loc .begin_] ++ emitLoop m.loc ci cs car c0
        (cb ++ [li m.loc .not_, li m.loc .jumpIfFalse (lsize [li m.loc .pop, li m.loc .inc ci, li m.loc .jumpBackward 0, li m.loc .pop, li m.loc .true_]), li m.loc .pop])
        ++ [li m.loc .true_, li m.loc .end_])
  | any (m a b ca cb ci cs car c0) : Emits C cfg a ca → Emits C cfg b cb → LoopC C ci cs car c0 →
      Emits C cfg (.builtin m "any" [a, b]) (ca ++ [li m.loc .begin_] ++ emitLoop m.loc ci cs car c0
        (cb ++ [li m.loc .jumpIfTrue (lsize [li m.loc .pop, li m.loc .inc ci, li m.loc .jumpBackward 0, li m.loc .pop, li m.loc .false_]), li m.loc .pop])
        ++ [li m.loc .false_, li m.loc .end_])
  | one (m a b ca cb ci cs car c0 cc c1) : Emits C cfg a ca → Emits C cfg b cb → LoopC C ci cs car c0 →
      C cc (.str "count") → C c1 (.int .int 1) →
      Emits C cfg (.builtin m "one" [a, b]) (ca ++ [li m.loc .begin_, li m.loc .push c0, li m.loc .store cc] ++
        emitLoop m.loc ci cs car c0 (cb ++ emitCond m.loc [li m.loc .inc cc]) ++
        [li m.loc .load cc, li m.loc .push c1, li m.loc .equal, li m.loc .end_])
  | filter (m a b ca cb ci cs car c0 cc) : Emits C cfg a ca → Emits C cfg b cb → LoopC C ci cs car c0 →
      C cc (.str "count") →
      Emits C cfg (.builtin m "filter" [a, b]) (ca ++ [li m.loc .begin_, li m.loc .push c0, li m.loc .store cc] ++
        emitLoop m.loc ci cs car c0 (cb ++ emitCond m.loc [li m.loc .inc cc, li m.loc .load car, li m.loc .load ci, li m.loc .index]) ++
        [li m.loc .load cc, li m.loc .end_, li m.loc .array])
  | mapB (m a b ca cb ci cs car c0) : Emits C cfg a ca → Emits C cfg b cb → LoopC C ci cs car c0 →
      Emits C cfg (.builtin m "map" [a, b])
        (ca ++ [li m.loc .begin_] ++ emitLoop m.loc ci cs car c0 cb ++ [li m.loc .load cs, li m.loc .end_, li m.loc .array])
  | count (m a b ca cb ci cs car c0 cc) : Emits C cfg a ca → Emits C cfg b cb → LoopC C ci cs car c0 →
      C cc (.str "count") →
      Emits C cfg (.builtin m "count" [a, b]) (ca ++ [li m.loc .begin_, li m.loc .push c0, li m.loc .store cc] ++
        emitLoop m.loc ci cs car c0 (cb ++ emitCond m.loc [li m.loc .inc cc]) ++ [li m.loc .load cc, li m.loc .end_])
  | closure (m x cx) : Emits C cfg x cx → Emits C cfg (.closure m x) cx
  | pointer (m car ci) : C car (.str "array") → C ci (.str "i") →
      Emits C cfg (.pointer m) [li m.loc .load car, li m.loc .load ci, li m.loc .index]
  -- `1 + lsize ca + 3`: over the `pop`, the branch `a` and the 3 bytes of the `jump` behind it
  | cond (m c a b cc ca cb) : Emits C cfg c cc → Emits C cfg a ca → Emits C cfg b cb →
      Emits C cfg (.cond m c a b) (cc ++ [li m.loc .jumpIfFalse (1 + lsize ca + 3), li m.loc .pop] ++ ca ++
        [li m.loc .jump (1 + lsize cb), li m.loc .pop] ++ cb)
  | array (m xs cx k) : EmitsL C cfg xs cx → C k (.int .int xs.length) →
      Emits C cfg (.array m xs) (cx ++ [li m.loc .push k, li m.loc .array])
  | map (m ps cx k) : EmitsL C cfg ps cx → C k (.int .int ps.length) →
      Emits C cfg (.map m ps) (cx ++ [li m.loc .push k, li m.loc .map])
  | pair (m k v ck cv) : Emits C cfg k ck → Emits C cfg v cv → Emits C cfg (.pair m k v) (ck ++ cv)
/-- an optional bound of a slice (`SliceNode` in compiler.go): the code of the bound when there is one, else any code
    that `d` admits; `d` describes what the compiler emits in its place (`OpLen` for `To`, `push 0` for `From`).
    A motive for `EmitsO` therefore takes its claim for every code admitted by `d` as a premise. -/
inductive EmitsO (C : Nat → Val → Prop) (cfg : CompCfg) : Option Node → (List LInstr → Prop) → List LInstr → Prop
  | none (d code) : d code → EmitsO C cfg none d code
  | some (t d ct) : Emits C cfg t ct → EmitsO C cfg (some t) d ct
inductive EmitsL (C : Nat → Val → Prop) (cfg : CompCfg) : List Node → List LInstr → Prop
  | nil : EmitsL C cfg [] []
  | cons (n ns c1 c2) : Emits C cfg n c1 → EmitsL C cfg ns c2 → EmitsL C cfg (n :: ns) (c1 ++ c2)
end

/-! `induction` does not work on mutual inductive predicates, and structural recursion over the derivation is accepted
but far dearer to check.  A fact about all emitted code is therefore proved by `apply Emits.rec (motive_1 := …)
(motive_2 := …) (motive_3 := …) (t := h)`, then one `case` per constructor (arguments, premises, induction hypotheses
in that order); the version for `EmitsL` follows by recursion over the list. -/

variable {Inv : Pool → Prop} {F : Val → Prop} {C : Array Val → Nat → Val → Prop}

theorem emits_binary (cfg : CompCfg) (m op l r p)
    (hl : ∀ p, PoolT Inv p (compileNode cfg l p) (fun code K => Emits (C K) cfg l code))
    (hr : ∀ p, PoolT Inv p (compileNode cfg r p) (fun code K => Emits (C K) cfg r code)) :
    PoolT Inv p (compileNode cfg (.binary m op l r) p) (fun code K => Emits (C K) cfg (.binary m op l r) code) := by
  have two : ∀ rest : List LInstr → List LInstr → List LInstr,
      (∀ K cl cr, Emits (C K) cfg l cl → Emits (C K) cfg r cr → Emits (C K) cfg (.binary m op l r) (rest cl cr)) →
      PoolT Inv p (do
          let (cl, p) ← compileNode cfg l p
          let (cr, p) ← compileNode cfg r p
          pure (rest cl cr, p))
        (fun code K => Emits (C K) cfg (.binary m op l r) code) := fun rest h =>
    .bind (hl p) fun cl p1 => .bind (hr p1) fun cr p2 => .pure fun K er el => h K cl cr el er
  rw [compileNode_binary]
  split
  · next h1 => cases eq_of_beq h1; exact two _ fun K cl cr el er => .eq _ _ _ _ _ el er
  · next h1 =>
    split
    · next h2 => exact two _ fun K cl cr el er => .or _ _ _ _ _ _ h2 el er
    · next h2 =>
      split
      · next h3 => exact two _ fun K cl cr el er => .and _ _ _ _ _ _ h3 el er
      · next h3 =>
        split
        · next ops hops =>
          exact two (fun cl cr => cl ++ cr ++ ops.map fun o => li m.loc o) fun K cl cr el er =>
            .simple _ _ _ _ _ _ _ (Bool.eq_false_iff.2 h1) (Bool.eq_false_iff.2 h2) (Bool.eq_false_iff.2 h3) hops el er
        · exact nofun

/-- the seven loop builtins, outside the mutual recursion, which is slow to check with these cases inside -/
theorem builtin2_emits (S : PoolSpec Inv F C) (cfg : CompCfg) {a b : Node} {p : Pool}
    (ha : ∀ p, PoolT Inv p (compileNode cfg a p) (fun code K => Emits (C K) cfg a code))
    (hb : ∀ p, PoolT Inv p (compileNode cfg b p) (fun code K => Emits (C K) cfg b code))
    (m : Meta) {name : String}
    (hn : name = "all" ∨ name = "none" ∨ name = "any" ∨ name = "one" ∨ name = "filter" ∨ name = "map" ∨ name = "count") :
    PoolT Inv p (compileNode cfg (.builtin m name [a, b]) p) (fun code K => Emits (C K) cfg (.builtin m name [a, b]) code) := by
  rcases hn with rfl | rfl | rfl | rfl | rfl | rfl | rfl
  · rw [compileNode_bi_all]
    refine .bind (ha p) fun ca p1 => .bind (S.const nofun) fun ci p2 => .bind (S.const nofun) fun cs p3 =>
      .bind (S.const nofun) fun car p4 => .bind (S.const nofun) fun c0 p5 => .bind (hb p5) fun cb p6 => ?_
    exact .pure fun K hb h0 har hs hi ha => .all _ _ _ _ _ _ _ _ _ ha hb ⟨hi, hs, har, h0⟩
  · rw [compileNode_bi_none]
    refine .bind (ha p) fun ca p1 => .bind (S.const nofun) fun ci p2 => .bind (S.const nofun) fun cs p3 =>
      .bind (S.const nofun) fun car p4 => .bind (S.const nofun) fun c0 p5 => .bind (hb p5) fun cb p6 => ?_
    exact .pure fun K hb h0 har hs hi ha => .noneB _ _ _ _ _ _ _ _ _ ha hb ⟨hi, hs, har, h0⟩
  · rw [compileNode_bi_any]
    refine .bind (ha p) fun ca p1 => .bind (S.const nofun) fun ci p2 => .bind (S.const nofun) fun cs p3 =>
      .bind (S.const nofun) fun car p4 => .bind (S.const nofun) fun c0 p5 => .bind (hb p5) fun cb p6 => ?_
    exact .pure fun K hb h0 har hs hi ha => .any _ _ _ _ _ _ _ _ _ ha hb ⟨hi, hs, har, h0⟩
  · rw [compileNode_bi_one]
    refine .bind (S.const nofun) fun cc p0 => .bind (ha p0) fun ca p1 => .bind (S.const nofun) fun c0 p2 =>
      .bind (S.const nofun) fun ci p3 => .bind (S.const nofun) fun cs p4 => .bind (S.const nofun) fun car p5 =>
      .bind (hb p5) fun cb p6 => .bind (S.const nofun) fun c1 p7 => ?_
    exact .pure fun K h1 hb har hs hi h0 ha hc => .one _ _ _ _ _ _ _ _ _ _ _ ha hb ⟨hi, hs, har, h0⟩ hc h1
  · rw [compileNode_bi_filter]
    refine .bind (S.const nofun) fun cc p0 => .bind (ha p0) fun ca p1 => .bind (S.const nofun) fun c0 p2 =>
      .bind (S.const nofun) fun ci p3 => .bind (S.const nofun) fun cs p4 => .bind (S.const nofun) fun car p5 =>
      .bind (hb p5) fun cb p6 => ?_
    exact .pure fun K hb har hs hi h0 ha hc => .filter _ _ _ _ _ _ _ _ _ _ ha hb ⟨hi, hs, har, h0⟩ hc
  · rw [compileNode_bi_map]
    refine .bind (ha p) fun ca p1 => .bind (S.const nofun) fun ci p2 => .bind (S.const nofun) fun cs p3 =>
      .bind (S.const nofun) fun car p4 => .bind (S.const nofun) fun c0 p5 => .bind (hb p5) fun cb p6 => ?_
    exact .pure fun K hb h0 har hs hi ha => .mapB _ _ _ _ _ _ _ _ _ ha hb ⟨hi, hs, har, h0⟩
  · rw [compileNode_bi_count]
    refine .bind (S.const nofun) fun cc p0 => .bind (ha p0) fun ca p1 => .bind (S.const nofun) fun c0 p2 =>
      .bind (S.const nofun) fun ci p3 => .bind (S.const nofun) fun cs p4 => .bind (S.const nofun) fun car p5 =>
      .bind (hb p5) fun cb p6 => ?_
    exact .pure fun K hb har hs hi h0 ha hc => .count _ _ _ _ _ _ _ _ _ _ ha hb ⟨hi, hs, har, h0⟩ hc

mutual
theorem compile_emits (S : PoolSpec Inv F C) (cfg : CompCfg) :
    ∀ (n : Node) (p : Pool), FloatsIn F n → PoolT Inv p (compileNode cfg n p) (fun code K => Emits (C K) cfg n code)
  | .nil m, p, _ => by rw [compileNode_nil]; exact .pure fun K => .nilN _
  | .bool m b, p, _ => by rw [compileNode_bool]; exact .pure fun K => .bool _ _
  | .ident m name nilsafe, p, _ => by
    rw [compileNode_ident]
    exact .bind (S.const nofun) fun k p1 => .pure fun K hk => .ident _ _ _ _ hk
  | .int m v, p, hfl => by
    rw [compileNode_int]
    exact .bind (S.const hfl) fun k p1 => .pure fun K hk => .int _ _ _ hk
  | .prop m x name nilsafe, p, hfl => by
    rw [compileNode_prop]
    refine .bind (compile_emits S cfg x p hfl) fun cx p1 => .bind (S.const nofun) fun k p2 => ?_
    exact .pure fun K hk hx => .prop _ _ _ _ _ _ hx hk
  | .float m bits, p, hfl => by
    rw [compileNode_float]
    exact .bind (S.const fun _ => hfl) fun k p1 => .pure fun K hk => .float _ _ _ hk
  | .str m s, p, _ => by
    rw [compileNode_str]
    exact .bind (S.const nofun) fun k p1 => .pure fun K hk => .str _ _ _ hk
  | .const m v, p, hfl => by
    by_cases hv : v = .nil
    · subst hv
      rw [compileNode_const_nil]
      exact .pure fun K => .constNil _
    · rw [compileNode_const _ _ hv]
      exact .bind (S.const hfl) fun k p1 => .pure fun K hk => .const _ _ _ hv hk
  | .unary m op x, p, hfl => by
    rw [compileNode_unary]
    refine .bind (compile_emits S cfg x p hfl) fun cx p1 => ?_
    dsimp only
    split
    · next h1 => exact .pure fun K hx => .not _ _ _ _ h1 hx
    · split
      · next h2 => cases eq_of_beq h2; exact .pure fun K hx => .plus _ _ _ hx
      · split
        · next h3 => cases eq_of_beq h3; exact .pure fun K hx => .neg _ _ _ hx
        · exact nofun
  | .binary m op l r, p, hfl => emits_binary cfg m op l r p (fun p => compile_emits S cfg l p hfl.1)
      (fun p => compile_emits S cfg r p hfl.2)
  | .index m x i, p, hfl => by
    rw [compileNode_index]
    refine .bind (compile_emits S cfg x p hfl.1) fun cx p1 => .bind (compile_emits S cfg i p1 hfl.2) fun ci p2 => ?_
    exact .pure fun K hi hx => .index _ _ _ _ _ hx hi
  | .closure m x, p, hfl => by
    rw [compileNode_closure]
    exact (compile_emits S cfg x p hfl).mono fun _ _ hx => .closure _ _ _ hx
  | .pointer m, p, _ => by
    rw [compileNode_pointer]
    refine .bind (S.const nofun) fun car p1 => .bind (S.const nofun) fun ci p2 => ?_
    exact .pure fun K hi har => .pointer _ _ _ har hi
  | .cond m c a b, p, hfl => by
    rw [compileNode_cond]
    refine .bind (compile_emits S cfg c p hfl.1) fun cc p1 => .bind (compile_emits S cfg a p1 hfl.2.1) fun ca p2 =>
      .bind (compile_emits S cfg b p2 hfl.2.2) fun cb p3 => ?_
    exact .pure fun K hb ha hc => .cond _ _ _ _ _ _ _ hc ha hb
  | .array m xs, p, hfl => by
    rw [compileNode_array]
    refine .bind (compileList_emits S cfg xs p hfl) fun cx p1 => .bind (S.const nofun) fun k p2 => ?_
    exact .pure fun K hk hx => .array _ _ _ _ hx hk
  | .map m ps, p, hfl => by
    rw [compileNode_map]
    refine .bind (compileList_emits S cfg ps p hfl) fun cx p1 => .bind (S.const nofun) fun k p2 => ?_
    exact .pure fun K hk hx => .map _ _ _ _ hx hk
  | .pair m k v, p, hfl => by
    rw [compileNode_pair]
    refine .bind (compile_emits S cfg k p hfl.1) fun ck p1 => .bind (compile_emits S cfg v p1 hfl.2) fun cv p2 => ?_
    exact .pure fun K hv hk => .pair _ _ _ _ _ hk hv
  | .method m x name args nilsafe, p, hfl => by
    rw [compileNode_method]
    refine .bind (compile_emits S cfg x p hfl.1) fun cx p1 => .bind (compileList_emits S cfg args p1 hfl.2) fun ca p2 =>
      .bind (S.const nofun) fun k p3 => ?_
    exact .pure fun K hk ha hx => .method _ _ _ _ _ _ _ _ hx ha hk
  | .func m name args fast, p, hfl => by
    rw [compileNode_func]
    refine .bind (compileList_emits S cfg args p hfl) fun ca p1 => .bind (S.const nofun) fun k p2 => ?_
    exact .pure fun K hk ha => .func _ _ _ _ _ _ ha hk
  | .matches m hasRe l r, p, hfl => by
    rw [compileNode_matches]
    cases hasRe
    · rw [if_neg Bool.false_ne_true]
      refine .bind (compile_emits S cfg l p hfl.1) fun cl p1 => .bind (compile_emits S cfg r p1 hfl.2) fun cr p2 => ?_
      exact .pure fun K hr hl => .matchesN _ _ _ _ _ hl hr
    · rw [if_pos rfl]
      refine .bind (compile_emits S cfg l p hfl.1) fun cl p1 => .bind S.re fun k p2 => ?_
      exact .pure fun K hk hl => .matchesRe _ _ _ _ _ hl hk
  | .slice m x (some f) (some t), p, hfl => by
    rw [compileNode_slice_ss]
    refine .bind (compile_emits S cfg x p hfl.1) fun cx p1 => .bind (compile_emits S cfg t p1 hfl.2.2) fun ct p2 =>
      .bind (compile_emits S cfg f p2 hfl.2.1) fun cf p3 => ?_
    exact .pure fun K hf ht hx => .slice _ _ _ _ _ _ _ hx (.some _ _ _ ht) (.some _ _ _ hf)
  | .slice m x (some f) none, p, hfl => by
    rw [compileNode_slice_sn]
    simp only [pure_bind]
    refine .bind (compile_emits S cfg x p hfl.1) fun cx p1 => .bind (compile_emits S cfg f p1 hfl.2.1) fun cf p2 => ?_
    exact .pure fun K hf hx => .slice _ _ _ _ _ _ _ hx (.none _ _ rfl) (.some _ _ _ hf)
  | .slice m x none (some t), p, hfl => by
    rw [compileNode_slice_ns]
    simp only [pure_bind]
    refine .bind (compile_emits S cfg x p hfl.1) fun cx p1 => .bind (compile_emits S cfg t p1 hfl.2.2) fun ct p2 =>
      .bind (S.const nofun) fun k p3 => ?_
    exact .pure fun K hk ht hx => .slice _ _ _ _ _ _ _ hx (.some _ _ _ ht) (.none _ _ ⟨k, hk, rfl⟩)
  | .slice m x none none, p, hfl => by
    rw [compileNode_slice_nn]
    simp only [pure_bind]
    refine .bind (compile_emits S cfg x p hfl.1) fun cx p1 => .bind (S.const nofun) fun k p2 => ?_
    exact .pure fun K hk hx => .slice _ _ _ _ _ _ _ hx (.none _ _ rfl) (.none _ _ ⟨k, hk, rfl⟩)
  | .builtin m name [], p, _ => by
    refine .of_ok fun r h => ?_
    rcases compileNode_builtin_ok h with ⟨_, _, h⟩ | ⟨_, _, _, h⟩ <;> cases h
  | .builtin m name [a], p, hfl => by
    refine .of_ok fun r h => ?_
    rcases compileNode_builtin_ok h with ⟨rfl, _, _⟩ | ⟨_, _, _, h⟩
    · rw [compileNode_bi_len]
      exact .bind (compile_emits S cfg a p hfl.1) fun ca p1 => .pure fun K ha => .len _ _ _ ha
    · cases h
  | .builtin m name [a, b], p, hfl => by
    refine .of_ok fun r h => ?_
    rcases compileNode_builtin_ok h with ⟨_, _, h⟩ | ⟨hn, _, _, _⟩
    · cases h
    · exact builtin2_emits S cfg (fun p => compile_emits S cfg a p hfl.1) (fun p => compile_emits S cfg b p hfl.2.1) m hn
  | .builtin m name (_ :: _ :: _ :: _), p, _ => by
    refine .of_ok fun r h => ?_
    rcases compileNode_builtin_ok h with ⟨_, _, h⟩ | ⟨_, _, _, h⟩ <;> cases h
theorem compileList_emits (S : PoolSpec Inv F C) (cfg : CompCfg) :
    ∀ (ns : List Node) (p : Pool), FloatsInL F ns → PoolT Inv p (compileList cfg ns p) (fun code K => EmitsL (C K) cfg ns code)
  | [], p, _ => by rw [compileList_nil]; exact .pure fun K => .nil
  | n :: ns, p, hfl => by
    rw [compileList_cons]
    refine .bind (compile_emits S cfg n p hfl.1) fun c1 p1 => .bind (compileList_emits S cfg ns p1 hfl.2) fun c2 p2 => ?_
    exact .pure fun K h2 h1 => .cons _ _ _ _ h1 h2
end

end ExprModel.Refine
