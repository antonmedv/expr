import ExprModel.Proofs.RefineBytes
import ExprModel.Proofs.SpecEqs
/-
C01: the relational reading of the compiler.  `Compiles K cfg n code`: `code` is what `compileNode`
emits for `n` when every constant it needs sits in the final constant array `K` at the operand used.
The pool threading of `compileNode` is dealt with once, in the traversal `compile_emits` (Emits.lean), whose result
RefinePoolMain reads as `Compiles K` (`compile_compiles`); the semantic proof works from `Compiles` only.
-/
namespace ExprModel.Refine
open ExprModel

structure LoopK (K : Array Val) (ci cs car c0 : Nat) : Prop where
  i : K[ci]? = some (.str "i")
  size : K[cs]? = some (.str "size")
  array : K[car]? = some (.str "array")
  zero : K[c0]? = some (.int .int 0)

def eqOpOf (l r : Node) : Op :=
  if l.kd == r.kd && l.kd == .num .int then Op.equalInt
  else if l.kd == r.kd && l.kd == .string then .equalString else .equal

/-- the code of the seven loop builtins around the collection code `ca` and the closure code `cb` -/
def BuiltinCode (K : Array Val) (l : Loc) (name : String) (ca cb : List LInstr) (ci cs car c0 : Nat)
    (code : List LInstr) : Prop :=
  (name = "all" ∧
    code = ca ++ [li l .begin_] ++ emitLoop l ci cs car c0
      (cb ++ [li l .jumpIfFalse (lsize [li l .pop, li l .inc ci, li l .jumpBackward 0, li l .pop, li l .true_]), li l .pop])
      ++ [li l .true_, li l .end_]) ∨
  (name = "none" ∧
    code = ca ++ [li l .begin_] ++ emitLoop l ci cs car c0
      (cb ++ [li l .not_, li l .jumpIfFalse (lsize [li l .pop, li l .inc ci, li l .jumpBackward 0, li l .pop, li l .true_]), li l .pop])
      ++ [li l .true_, li l .end_]) ∨
  (name = "any" ∧
    code = ca ++ [li l .begin_] ++ emitLoop l ci cs car c0
      (cb ++ [li l .jumpIfTrue (lsize [li l .pop, li l .inc ci, li l .jumpBackward 0, li l .pop, li l .false_]), li l .pop])
      ++ [li l .false_, li l .end_]) ∨
  (name = "one" ∧ ∃ cc c1, K[cc]? = some (.str "count") ∧ K[c1]? = some (.int .int 1) ∧
    code = ca ++ [li l .begin_, li l .push c0, li l .store cc] ++
      emitLoop l ci cs car c0 (cb ++ emitCond l [li l .inc cc]) ++
      [li l .load cc, li l .push c1, li l .equal, li l .end_]) ∨
  (name = "filter" ∧ ∃ cc, K[cc]? = some (.str "count") ∧
    code = ca ++ [li l .begin_, li l .push c0, li l .store cc] ++
      emitLoop l ci cs car c0 (cb ++ emitCond l [li l .inc cc, li l .load car, li l .load ci, li l .index]) ++
      [li l .load cc, li l .end_, li l .array]) ∨
  (name = "map" ∧
    code = ca ++ [li l .begin_] ++ emitLoop l ci cs car c0 cb ++ [li l .load cs, li l .end_, li l .array]) ∨
  (name = "count" ∧ ∃ cc, K[cc]? = some (.str "count") ∧
    code = ca ++ [li l .begin_, li l .push c0, li l .store cc] ++
      emitLoop l ci cs car c0 (cb ++ emitCond l [li l .inc cc]) ++
      [li l .load cc, li l .end_])

-- the clauses for `.closure` and `.pair` name a `Meta` they do not use
set_option linter.unusedVariables false in
mutual
def Compiles (K : Array Val) (cfg : CompCfg) : Node → List LInstr → Prop
  | .nil m, code => code = [li m.loc .nil_]
  | .ident m name nilsafe, code => ∃ k, K[k]? = some (.str name) ∧
      code = [li m.loc (if cfg.mapEnv then Op.fetchMap else if nilsafe then .fetchNilSafe else .fetch) k]
  | .int m v, code => ∃ k, K[k]? = some (intConst m.kd v) ∧ code = [li m.loc .push k]
  | .float m bits, code => ∃ k, K[k]? = some (.f64 (Float.ofBits bits)) ∧ code = [li m.loc .push k]
  | .bool m b, code => code = [li m.loc (if b then .true_ else .false_)]
  | .str m s, code => ∃ k, K[k]? = some (.str s) ∧ code = [li m.loc .push k]
  | .const m v, code => (v = .nil ∧ code = [li m.loc .nil_]) ∨ (v ≠ .nil ∧ ∃ k, K[k]? = some v ∧ code = [li m.loc .push k])
  | .unary m op x, code => ∃ cx, Compiles K cfg x cx ∧
      (if op == "!" || op == "not" then code = cx ++ [li m.loc .not_]
       else if op == "+" then code = cx
       else if op == "-" then code = cx ++ [li m.loc .negate]
       else False)
  | .binary m op l r, code => ∃ cl cr, Compiles K cfg l cl ∧ Compiles K cfg r cr ∧
      (if op == "==" then code = cl ++ cr ++ [li m.loc (eqOpOf l r)]
       else if op == "or" || op == "||" then code = cl ++ [li m.loc .jumpIfTrue (1 + lsize cr), li m.loc .pop] ++ cr
       else if op == "and" || op == "&&" then code = cl ++ [li m.loc .jumpIfFalse (1 + lsize cr), li m.loc .pop] ++ cr
       else match binSimpleOp op with
         | some ops => code = cl ++ cr ++ ops.map (fun o => li m.loc o)
         | none => False)
  | .matches m hasRe l r, code => ∃ cl, Compiles K cfg l cl ∧
      (if hasRe then ∃ k, K[k]? = some (.regexp (patOf r)) ∧ code = cl ++ [li m.loc .matchesConst k]
       else ∃ cr, Compiles K cfg r cr ∧ code = cl ++ cr ++ [li m.loc .matches_])
  | .prop m x name nilsafe, code => ∃ cx k, Compiles K cfg x cx ∧ K[k]? = some (.str name) ∧
      code = cx ++ [li m.loc (if nilsafe then .propertyNilSafe else .property) k]
  | .index m x i, code => ∃ cx ci, Compiles K cfg x cx ∧ Compiles K cfg i ci ∧ code = cx ++ ci ++ [li m.loc .index]
  | .slice m x f t, code => ∃ cx ct cf, Compiles K cfg x cx ∧
      CompilesO K cfg t (fun ct => ct = [li m.loc .len]) ct ∧
      CompilesO K cfg f (fun cf => ∃ k, K[k]? = some (.int .int 0) ∧ cf = [li m.loc .push k]) cf ∧
      code = cx ++ ct ++ cf ++ [li m.loc .slice]
  | .method m x name args nilsafe, code => ∃ cx ca k, Compiles K cfg x cx ∧ CompilesL K cfg args ca ∧
      K[k]? = some (.call name args.length) ∧
      code = cx ++ ca ++ [li m.loc (if nilsafe then .methodNilSafe else .method) k]
  | .func m name args fast, code => ∃ ca k, CompilesL K cfg args ca ∧ K[k]? = some (.call name args.length) ∧
      code = ca ++ [li m.loc (if fast then .callFast else .call) k]
  | .builtin m name args, code =>
    match args with
    | [a] => name = "len" ∧ ∃ ca, Compiles K cfg a ca ∧ code = ca ++ [li m.loc .len, li m.loc .rot, li m.loc .pop]
    | [a, b] => ∃ ca cb ci cs car c0, Compiles K cfg a ca ∧ Compiles K cfg b cb ∧ LoopK K ci cs car c0 ∧
        BuiltinCode K m.loc name ca cb ci cs car c0 code
    | _ => False
  | .closure m x, code => Compiles K cfg x code
  | .pointer m, code => ∃ car ci, K[car]? = some (.str "array") ∧ K[ci]? = some (.str "i") ∧
      code = [li m.loc .load car, li m.loc .load ci, li m.loc .index]
  | .cond m c a b, code => ∃ cc ca cb, Compiles K cfg c cc ∧ Compiles K cfg a ca ∧ Compiles K cfg b cb ∧
      code = cc ++ [li m.loc .jumpIfFalse (1 + lsize ca + 3), li m.loc .pop] ++ ca ++
             [li m.loc .jump (1 + lsize cb), li m.loc .pop] ++ cb
  | .array m xs, code => ∃ cx k, CompilesL K cfg xs cx ∧ K[k]? = some (.int .int xs.length) ∧
      code = cx ++ [li m.loc .push k, li m.loc .array]
  | .map m ps, code => ∃ cx k, CompilesL K cfg ps cx ∧ K[k]? = some (.int .int ps.length) ∧
      code = cx ++ [li m.loc .push k, li m.loc .map]
  | .pair m k v, code => ∃ ck cv, Compiles K cfg k ck ∧ Compiles K cfg v cv ∧ code = ck ++ cv
def CompilesO (K : Array Val) (cfg : CompCfg) : Option Node → (List LInstr → Prop) → List LInstr → Prop
  | some t, _, code => Compiles K cfg t code
  | none, d, code => d code
def CompilesL (K : Array Val) (cfg : CompCfg) : List Node → List LInstr → Prop
  | [], code => code = []
  | n :: ns, code => ∃ c1 c2, Compiles K cfg n c1 ∧ CompilesL K cfg ns c2 ∧ code = c1 ++ c2
end

/-! By `rfl`, stated once so that no importing file has to generate them. -/

theorem Compiles_nil (K : Array Val) (cfg : CompCfg) {m} (code : List LInstr) :
    Compiles K cfg (.nil m) code = (code = [li m.loc .nil_]) := rfl

theorem Compiles_ident (K : Array Val) (cfg : CompCfg) {m} {name} {nilsafe} (code : List LInstr) :
    Compiles K cfg (.ident m name nilsafe) code = (∃ k, K[k]? = some (.str name) ∧
      code = [li m.loc (if cfg.mapEnv then Op.fetchMap else if nilsafe then .fetchNilSafe else .fetch) k]) := rfl

theorem Compiles_int (K : Array Val) (cfg : CompCfg) {m} {v} (code : List LInstr) :
    Compiles K cfg (.int m v) code = (∃ k, K[k]? = some (intConst m.kd v) ∧ code = [li m.loc .push k]) := rfl

theorem Compiles_float (K : Array Val) (cfg : CompCfg) {m} {bits} (code : List LInstr) :
    Compiles K cfg (.float m bits) code = (∃ k, K[k]? = some (.f64 (Float.ofBits bits)) ∧ code = [li m.loc .push k]) := rfl

theorem Compiles_bool (K : Array Val) (cfg : CompCfg) {m} {b} (code : List LInstr) :
    Compiles K cfg (.bool m b) code = (code = [li m.loc (if b then .true_ else .false_)]) := rfl

theorem Compiles_str (K : Array Val) (cfg : CompCfg) {m} {s} (code : List LInstr) :
    Compiles K cfg (.str m s) code = (∃ k, K[k]? = some (.str s) ∧ code = [li m.loc .push k]) := rfl

theorem Compiles_const (K : Array Val) (cfg : CompCfg) {m} {v} (code : List LInstr) :
    Compiles K cfg (.const m v) code =
      ((v = .nil ∧ code = [li m.loc .nil_]) ∨ (v ≠ .nil ∧ ∃ k, K[k]? = some v ∧ code = [li m.loc .push k])) := rfl

theorem Compiles_unary (K : Array Val) (cfg : CompCfg) {m} {op} {x} (code : List LInstr) :
    Compiles K cfg (.unary m op x) code = (∃ cx, Compiles K cfg x cx ∧
      (if op == "!" || op == "not" then code = cx ++ [li m.loc .not_]
       else if op == "+" then code = cx
       else if op == "-" then code = cx ++ [li m.loc .negate]
       else False)) := rfl

theorem Compiles_binary (K : Array Val) (cfg : CompCfg) {m} {op} {l} {r} (code : List LInstr) :
    Compiles K cfg (.binary m op l r) code = (∃ cl cr, Compiles K cfg l cl ∧ Compiles K cfg r cr ∧
      (if op == "==" then code = cl ++ cr ++ [li m.loc (eqOpOf l r)]
       else if op == "or" || op == "||" then code = cl ++ [li m.loc .jumpIfTrue (1 + lsize cr), li m.loc .pop] ++ cr
       else if op == "and" || op == "&&" then code = cl ++ [li m.loc .jumpIfFalse (1 + lsize cr), li m.loc .pop] ++ cr
       else match binSimpleOp op with
         | some ops => code = cl ++ cr ++ ops.map (fun o => li m.loc o)
         | none => False)) := rfl

theorem Compiles_matches (K : Array Val) (cfg : CompCfg) {m} {hasRe} {l} {r} (code : List LInstr) :
    Compiles K cfg (.matches m hasRe l r) code = (∃ cl, Compiles K cfg l cl ∧
      (if hasRe then ∃ k, K[k]? = some (.regexp (patOf r)) ∧ code = cl ++ [li m.loc .matchesConst k]
       else ∃ cr, Compiles K cfg r cr ∧ code = cl ++ cr ++ [li m.loc .matches_])) := rfl

theorem Compiles_prop (K : Array Val) (cfg : CompCfg) {m} {x} {name} {nilsafe} (code : List LInstr) :
    Compiles K cfg (.prop m x name nilsafe) code = (∃ cx k, Compiles K cfg x cx ∧ K[k]? = some (.str name) ∧
      code = cx ++ [li m.loc (if nilsafe then .propertyNilSafe else .property) k]) := rfl

theorem Compiles_index (K : Array Val) (cfg : CompCfg) {m} {x} {i} (code : List LInstr) :
    Compiles K cfg (.index m x i) code = (∃ cx ci, Compiles K cfg x cx ∧ Compiles K cfg i ci ∧ code = cx ++ ci ++ [li m.loc .index]) := rfl

theorem Compiles_slice (K : Array Val) (cfg : CompCfg) {m} {x} {f} {t} (code : List LInstr) :
    Compiles K cfg (.slice m x f t) code = (∃ cx ct cf, Compiles K cfg x cx ∧
      CompilesO K cfg t (fun ct => ct = [li m.loc .len]) ct ∧
      CompilesO K cfg f (fun cf => ∃ k, K[k]? = some (.int .int 0) ∧ cf = [li m.loc .push k]) cf ∧
      code = cx ++ ct ++ cf ++ [li m.loc .slice]) := rfl

theorem Compiles_method (K : Array Val) (cfg : CompCfg) {m} {x} {name} {args} {nilsafe} (code : List LInstr) :
    Compiles K cfg (.method m x name args nilsafe) code = (∃ cx ca k, Compiles K cfg x cx ∧ CompilesL K cfg args ca ∧
      K[k]? = some (.call name args.length) ∧
      code = cx ++ ca ++ [li m.loc (if nilsafe then .methodNilSafe else .method) k]) := rfl

theorem Compiles_func (K : Array Val) (cfg : CompCfg) {m} {name} {args} {fast} (code : List LInstr) :
    Compiles K cfg (.func m name args fast) code = (∃ ca k, CompilesL K cfg args ca ∧ K[k]? = some (.call name args.length) ∧
      code = ca ++ [li m.loc (if fast then .callFast else .call) k]) := rfl

theorem Compiles_builtin0 (K : Array Val) (cfg : CompCfg) (m : Meta) (name : String) (code : List LInstr) :
    Compiles K cfg (.builtin m name []) code = False := rfl
theorem Compiles_builtin1 (K : Array Val) (cfg : CompCfg) (m : Meta) (name : String) (a : Node) (code : List LInstr) :
    Compiles K cfg (.builtin m name [a]) code =
      (name = "len" ∧ ∃ ca, Compiles K cfg a ca ∧ code = ca ++ [li m.loc .len, li m.loc .rot, li m.loc .pop]) := rfl
theorem Compiles_builtin2 (K : Array Val) (cfg : CompCfg) (m : Meta) (name : String) (a b : Node) (code : List LInstr) :
    Compiles K cfg (.builtin m name [a, b]) code =
      (∃ ca cb ci cs car c0, Compiles K cfg a ca ∧ Compiles K cfg b cb ∧ LoopK K ci cs car c0 ∧
        BuiltinCode K m.loc name ca cb ci cs car c0 code) := rfl
theorem Compiles_builtin3 (K : Array Val) (cfg : CompCfg) (m : Meta) (name : String) (a b c : Node) (r : List Node)
    (code : List LInstr) : Compiles K cfg (.builtin m name (a :: b :: c :: r)) code = False := rfl

theorem Compiles_closure (K : Array Val) (cfg : CompCfg) {m} {x} (code : List LInstr) :
    Compiles K cfg (.closure m x) code = (Compiles K cfg x code) := rfl

theorem Compiles_pointer (K : Array Val) (cfg : CompCfg) {m} (code : List LInstr) :
    Compiles K cfg (.pointer m) code = (∃ car ci, K[car]? = some (.str "array") ∧ K[ci]? = some (.str "i") ∧
      code = [li m.loc .load car, li m.loc .load ci, li m.loc .index]) := rfl

theorem Compiles_cond (K : Array Val) (cfg : CompCfg) {m} {c} {a} {b} (code : List LInstr) :
    Compiles K cfg (.cond m c a b) code = (∃ cc ca cb, Compiles K cfg c cc ∧ Compiles K cfg a ca ∧ Compiles K cfg b cb ∧
      code = cc ++ [li m.loc .jumpIfFalse (1 + lsize ca + 3), li m.loc .pop] ++ ca ++
             [li m.loc .jump (1 + lsize cb), li m.loc .pop] ++ cb) := rfl

theorem Compiles_array (K : Array Val) (cfg : CompCfg) {m} {xs} (code : List LInstr) :
    Compiles K cfg (.array m xs) code = (∃ cx k, CompilesL K cfg xs cx ∧ K[k]? = some (.int .int xs.length) ∧
      code = cx ++ [li m.loc .push k, li m.loc .array]) := rfl

theorem Compiles_map (K : Array Val) (cfg : CompCfg) {m} {ps} (code : List LInstr) :
    Compiles K cfg (.map m ps) code = (∃ cx k, CompilesL K cfg ps cx ∧ K[k]? = some (.int .int ps.length) ∧
      code = cx ++ [li m.loc .push k, li m.loc .map]) := rfl

theorem Compiles_pair (K : Array Val) (cfg : CompCfg) {m} {k} {v} (code : List LInstr) :
    Compiles K cfg (.pair m k v) code = (∃ ck cv, Compiles K cfg k ck ∧ Compiles K cfg v cv ∧ code = ck ++ cv) := rfl

theorem CompilesO_some (K : Array Val) (cfg : CompCfg) (t : Node) (d : List LInstr → Prop) (code : List LInstr) :
    CompilesO K cfg (some t) d code = Compiles K cfg t code := rfl
theorem CompilesO_none (K : Array Val) (cfg : CompCfg) (d : List LInstr → Prop) (code : List LInstr) :
    CompilesO K cfg none d code = d code := rfl
theorem CompilesL_nil (K : Array Val) (cfg : CompCfg) (code : List LInstr) : CompilesL K cfg [] code = (code = []) := rfl
theorem CompilesL_cons (K : Array Val) (cfg : CompCfg) (n : Node) (ns : List Node) (code : List LInstr) :
    CompilesL K cfg (n :: ns) code = (∃ c1 c2, Compiles K cfg n c1 ∧ CompilesL K cfg ns c2 ∧ code = c1 ++ c2) := rfl

end ExprModel.Refine
