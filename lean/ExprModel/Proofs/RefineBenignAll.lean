import ExprModel.Proofs.RefineBenign
import ExprModel.Proofs.RefineCompiles
import ExprModel.Proofs.RefineGood
/-
C01/C05: the evaluation of a well-formed tree fails only with classes in `Q`, when `Q` holds the language's own classes,
what the environment reports, and `badop` unless the tree compiles (`eval_fails`).  C01 takes `Q := Benign`, C05
`Q := Ordinary`.
-/
namespace ExprModel.Refine
open ExprModel
open ExprModel.Spec

variable {Q : ErrClass → Prop}

theorem callTail_fails {w : World} (C : Classes Q w) (obj : Val) (name : String) (vs : List Val) :
    Fails Q (callTail w obj name vs) :=
  smok_callTail name vs (ErrsIn.rok (Fails.callMember C obj name vs))

/-- the tree uses only operators and builtins the evaluator knows, or `badop` is among the classes -/
def Known (Q : ErrClass → Prop) (K : Array Val) (cfg : CompCfg) (n : Node) : Prop :=
  Q .badop ∨ ∃ code, Compiles K cfg n code

def KnownL (Q : ErrClass → Prop) (K : Array Val) (cfg : CompCfg) (ns : List Node) : Prop :=
  Q .badop ∨ ∃ code, CompilesL K cfg ns code

mutual
theorem eval_fails {sc : SCfg} (C : Classes Q sc.world) {K : Array Val} {cfg : CompCfg} {L : Node → Prop} :
    ∀ (n : Node) (ctx : Ctx), Known Q K cfg n → Good L n → Fails Q (eval sc ctx n)
  | .nil m, ctx, _, _ => smok_pure trivial
  | .bool m b, ctx, _, _ => smok_pure trivial
  | .int m v, ctx, _, _ => smok_pure trivial
  | .float m b, ctx, _, _ => smok_pure trivial
  | .str m s, ctx, _, _ => smok_pure trivial
  | .const m v, ctx, _, _ => smok_pure trivial
  | .ident m name ns, ctx, _, _ => Fails.lift C.benign (lib_fetchV _ _ _)
  | .unary m op x, ctx, h, hg => by
    have hx : Known Q K cfg x := h.imp id fun ⟨_, cx, hx, _⟩ => ⟨cx, hx⟩
    rw [eval_unary]
    refine smok_bind (eval_fails C x ctx hx hg) fun v _ => ?_
    refine smok_ite (fun _ => Fails.lift C.benign (lib_notV v)) fun h1 =>
      smok_ite (fun _ => Fails.lift C.benign (lib_negV v)) fun h2 =>
      smok_ite (fun _ => smok_pure trivial) fun h3 => smok_fail (h.elim id fun ⟨_, cx, _, hc⟩ => ?_)
    simp [h1, h2, h3] at hc
  | .binary m op l r, ctx, h, hg => by
    have ihl := eval_fails C l ctx (h.imp id fun ⟨_, cl, cr, hl, _⟩ => ⟨cl, hl⟩) hg.1
    have ihr := eval_fails C r ctx (h.imp id fun ⟨_, cl, cr, _, hr, _⟩ => ⟨cr, hr⟩) hg.2
    by_cases h2 : (op == "or" || op == "||") = true
    · rw [eval_orOp _ _ _ h2]
      exact smok_bind ihl fun a _ => smok_bind (Fails.asBool C.benign a) fun t _ =>
        smok_ite (fun _ => smok_pure trivial) fun _ => ihr
    · by_cases h3 : (op == "and" || op == "&&") = true
      · rw [eval_andOp _ _ _ h3]
        exact smok_bind ihl fun a _ => smok_bind (Fails.asBool C.benign a) fun t _ =>
          smok_ite (fun _ => ihr) fun _ => smok_pure trivial
      · have hs : isLogicOp op = false := by
          rw [isLogicOp, Bool.or_assoc, Bool.eq_false_iff.2 h3, Bool.eq_false_iff.2 h2]
          rfl
        rw [eval_strict _ _ _ hs]
        refine smok_bind ihl fun a _ => smok_bind ihr fun b _ => ?_
        by_cases h1 : op = "=="
        · subst h1
          exact Fails.ofBinTailEq C.benign sc l r a b
        · cases hops : binSimpleOp op with
          | some ops => exact Fails.ofBinTail C.benign sc l r hops a b
          | none =>
            rw [binTail_unknown sc l r h1 hops]
            refine smok_fail (h.elim id fun ⟨_, cl, cr, _, _, hc⟩ => ?_)
            simp [h1, h2, h3, hops] at hc
  | .matches m true l r, ctx, h, hg => by
    rw [eval_matches]
    refine smok_bind (eval_fails C l ctx (h.imp id fun ⟨_, cl, hl, _⟩ => ⟨cl, hl⟩) hg.1) fun a _ => ?_
    rw [if_pos rfl, matchRe_lift]
    exact Fails.lift C.benign (lib_matchR _ _ _)
  | .matches m false l r, ctx, h, hg => by
    rw [eval_matches]
    refine smok_bind (eval_fails C l ctx (h.imp id fun ⟨_, cl, hl, _⟩ => ⟨cl, hl⟩) hg.1) fun a _ => ?_
    rw [if_neg Bool.false_ne_true]
    refine smok_bind (eval_fails C r ctx (h.imp id fun ⟨_, cl, _, cr, hr, _⟩ => ⟨cr, hr⟩) hg.2) fun b _ => ?_
    rw [matchDyn_lift]
    exact Fails.lift C.benign (lib_matchR _ _ _)
  | .prop m x name ns, ctx, h, hg => by
    rw [eval_prop]
    exact smok_bind (eval_fails C x ctx (h.imp id fun ⟨_, cx, k, hx, _⟩ => ⟨cx, hx⟩) hg) fun v _ =>
      Fails.lift C.benign (lib_fetchV _ _ _)
  | .index m x i, ctx, h, hg => by
    rw [eval_index]
    exact smok_bind (eval_fails C x ctx (h.imp id fun ⟨_, cx, ci, hx, _⟩ => ⟨cx, hx⟩) hg.1) fun a _ =>
      smok_bind (eval_fails C i ctx (h.imp id fun ⟨_, cx, ci, _, hi, _⟩ => ⟨ci, hi⟩) hg.2) fun b _ =>
        Fails.lift C.benign (lib_fetchV _ _ _)
  | .slice m x f t, ctx, h, hg => by
    have ihx := eval_fails C x ctx (h.imp id fun ⟨_, cx, ct, cf, hx, _⟩ => ⟨cx, hx⟩) hg.1
    have slice := fun a fv tv => Fails.lift (Q := Q) C.benign (lib_sliceV a fv tv)
    have ht : ∀ a, Fails Q (boundOr sc ctx (do pure (.int .int (← SM.lift (lengthV a)))) t) := fun a => by
      cases t with
      | none => exact smok_map (Fails.lift C.benign (lib_lengthV a))
      | some t => exact eval_fails C t ctx (h.imp id fun ⟨_, cx, ct, cf, _, ht, _⟩ => ⟨ct, ht⟩) hg.2.2
    have hf : Fails Q (boundOr sc ctx (pure (.int .int 0)) f) := by
      cases f with
      | none => exact smok_pure trivial
      | some f => exact eval_fails C f ctx (h.imp id fun ⟨_, cx, ct, cf, _, _, hf, _⟩ => ⟨cf, hf⟩) hg.2.1
    rw [eval_slice]
    exact smok_bind ihx fun a _ => smok_ite
      (fun _ => smok_bind (ht a) fun tv _ => smok_bind hf fun fv _ => slice a fv tv)
      fun _ => smok_bind hf fun fv _ => smok_bind (ht a) fun tv _ => slice a fv tv
  | .method m x name args ns, ctx, h, hg => by
    rw [eval_method]
    exact smok_bind (eval_fails C x ctx (h.imp id fun ⟨_, cx, ca, k, hx, _⟩ => ⟨cx, hx⟩) hg.1) fun obj _ =>
      smok_bind (evalList_fails C args ctx (h.imp id fun ⟨_, cx, ca, k, _, ha, _⟩ => ⟨ca, ha⟩) hg.2) fun vs _ =>
        smok_ite (fun _ => smok_pure trivial) fun _ => callTail_fails C obj name vs
  | .func m name args fast, ctx, h, hg => by
    rw [eval_func]
    exact smok_bind (evalList_fails C args ctx (h.imp id fun ⟨_, ca, k, ha, _⟩ => ⟨ca, ha⟩) hg) fun vs _ =>
      callTail_fails C _ name vs
  | .builtin m name [], ctx, h, hg => by
    rw [eval_builtin_bad sc ctx m name [] (by decide) (fun _ => by decide)]
    exact smok_fail (h.elim id fun ⟨_, hc⟩ => hc.elim)
  | .builtin m name [a], ctx, h, hg => by
    by_cases hn : name = "len"
    · subst hn
      rw [eval_len]
      exact smok_bind (eval_fails C a ctx (h.imp id fun ⟨_, _, ca, ha, _⟩ => ⟨ca, ha⟩) hg.2.1) fun v _ =>
        smok_map (Fails.lift C.benign (lib_lengthV v))
    · rw [eval_builtin_bad sc ctx m name [a] (by simp) (fun h' => absurd h' hn)]
      exact smok_fail (h.elim id fun ⟨_, hc, _⟩ => absurd hc hn)
  | .builtin m name [a, b], ctx, h, hg => by
    have iha := eval_fails C a ctx (h.imp id fun ⟨_, ca, cb, ci, cs, car, c0, ha, _⟩ => ⟨ca, ha⟩) hg.2.1
    have ihb := fun ctx' =>
      eval_fails C b ctx' (h.imp id fun ⟨_, ca, cb, ci, cs, car, c0, _, hb, _⟩ => ⟨cb, hb⟩) hg.2.2.1
    have hlen : ∀ coll, ErrsIn Q (lengthV coll) := fun coll => (lib_lengthV coll).mono fun e he => C.benign e he.benign
    have two : ∀ {α : Type} (p q : α ⊕ Val) (coll : Val) (i : Nat),
        Fails Q (do if ← asBool (← eval sc ((coll, (i : Int)) :: ctx) b) then pure p else pure q) :=
      fun p q coll i => smok_bind (ihb _) fun x _ => smok_bind (Fails.asBool C.benign x) fun t _ =>
        smok_ite (fun _ => smok_pure trivial) fun _ => smok_pure trivial
    by_cases hn : builtinNames.contains name = true
    · rcases Spec.builtinNames_cases hn with rfl | rfl | rfl | rfl | rfl | rfl | rfl
      · rw [eval_builtin_all]
        exact Fails.loop iha hlen (fun coll i _ => two _ _ coll i) fun n r => by cases r <;> exact smok_pure trivial
      · rw [eval_builtin_none]
        exact Fails.loop iha hlen (fun coll i _ => two _ _ coll i) fun n r => by cases r <;> exact smok_pure trivial
      · rw [eval_builtin_any]
        exact Fails.loop iha hlen (fun coll i _ => two _ _ coll i) fun n r => by cases r <;> exact smok_pure trivial
      · rw [eval_builtin_one]
        exact Fails.loop iha hlen (fun coll i k => two _ _ coll i) fun n r => by cases r <;> exact smok_pure trivial
      · rw [eval_builtin_filter]
        refine Fails.loop iha hlen (fun coll i acc => smok_bind (ihb _) fun x _ =>
          smok_bind (Fails.asBool C.benign x) fun t _ => smok_ite (fun _ => ?_) fun _ => smok_pure trivial) fun n r => ?_
        · exact smok_map (Fails.lift C.benign (lib_fetchV _ _ _))
        · cases r
          · exact smok_map (Fails.allocAfter C.benign _ _ _)
          · exact smok_pure trivial
      · rw [eval_builtin_map]
        refine Fails.loop iha hlen (fun coll i acc => smok_map (ihb _)) fun n r => ?_
        cases r
        · exact smok_map (Fails.allocAfter C.benign _ _ _)
        · exact smok_pure trivial
      · rw [eval_builtin_count]
        exact Fails.loop iha hlen (fun coll i k => two _ _ coll i) fun n r => by cases r <;> exact smok_pure trivial
    · rw [eval_builtin_unknown sc ctx m name a b (Bool.eq_false_iff.2 hn)]
      refine smok_fail (h.elim id fun ⟨_, ca, cb, ci, cs, car, c0, _, _, _, hc⟩ => absurd ?_ hn)
      rcases hc with ⟨rfl, _⟩ | ⟨rfl, _⟩ | ⟨rfl, _⟩ | ⟨rfl, _⟩ | ⟨rfl, _⟩ | ⟨rfl, _⟩ | ⟨rfl, _⟩ <;> decide
  | .builtin m name (a :: b :: d :: rest), ctx, h, hg => by
    rw [eval_builtin_bad sc ctx m name _ (by simp) (fun _ => by simp)]
    exact smok_fail (h.elim id fun ⟨_, hc⟩ => hc.elim)
  | .closure m x, ctx, h, hg => by
    rw [eval_closure]; exact eval_fails C x ctx h hg
  | .pointer m, ctx, _, _ => by
    rw [eval_pointer]
    cases ctx with
    | nil => exact Fails.type_ C.benign
    | cons hd tl => exact Fails.lift C.benign (lib_fetchV _ _ _)
  | .cond m cn a b, ctx, h, hg => by
    rw [eval_cond]
    exact smok_bind (eval_fails C cn ctx (h.imp id fun ⟨_, cc, ca, cb, hc, _⟩ => ⟨cc, hc⟩) hg.1) fun v _ =>
      smok_bind (Fails.asBool C.benign v) fun t _ => smok_ite
        (fun _ => eval_fails C a ctx (h.imp id fun ⟨_, cc, ca, cb, _, ha, _⟩ => ⟨ca, ha⟩) hg.2.1)
        fun _ => eval_fails C b ctx (h.imp id fun ⟨_, cc, ca, cb, _, _, hb, _⟩ => ⟨cb, hb⟩) hg.2.2
  | .array m xs, ctx, h, hg => by
    rw [eval_array]
    exact smok_bind (evalList_fails C xs ctx (h.imp id fun ⟨_, cx, k, hx, _⟩ => ⟨cx, hx⟩) hg) fun vs _ =>
      smok_map (Fails.allocAfter C.benign _ _ _)
  | .map m ps, ctx, h, hg => by
    rw [eval_mapLit]
    -- `buildMap` reports `underflow` on an odd number of values: the pairs yield an even one
    exact smok_bind (evalPairs_fails C ps ctx (h.imp id fun ⟨_, cx, k, hx, _⟩ => ⟨cx, hx⟩) hg) fun flat hlen =>
      smok_bind (Fails.lift C.benign (lib_buildMap_even flat hlen)) fun mp _ => smok_map (Fails.allocAfter C.benign _ _ _)
  | .pair m k v, ctx, h, hg => hg.elim
theorem evalList_fails {sc : SCfg} (C : Classes Q sc.world) {K : Array Val} {cfg : CompCfg} {L : Node → Prop} :
    ∀ (ns : List Node) (ctx : Ctx), KnownL Q K cfg ns → GoodL L ns → Fails Q (evalList sc ctx ns)
  | [], ctx, _, _ => smok_pure trivial
  | n :: ns, ctx, h, hg => by
    rw [evalList_cons _ _ _ _ (good_not_pair hg.1)]
    exact smok_bind (eval_fails C n ctx (h.imp id fun ⟨_, c1, c2, h1, _⟩ => ⟨c1, h1⟩) hg.1) fun v _ =>
      smok_map (evalList_fails C ns ctx (h.imp id fun ⟨_, c1, c2, _, h2, _⟩ => ⟨c2, h2⟩) hg.2)
theorem evalPairs_fails {sc : SCfg} (C : Classes Q sc.world) {K : Array Val} {cfg : CompCfg} {L : Node → Prop} :
    ∀ (ns : List Node) (ctx : Ctx), KnownL Q K cfg ns → GoodP L ns →
      SMOK Q (fun flat => flat.length % 2 = 0) (evalList sc ctx ns)
  | [], ctx, _, _ => smok_pure rfl
  | n :: ns, ctx, h, hg => by
    cases n <;> first | exact (hg : False).elim | skip
    rename_i m k v
    have hg' : Good L k ∧ Good L v ∧ GoodP L ns := hg
    rw [evalList_pair]
    exact smok_bind (eval_fails C k ctx (h.imp id fun ⟨_, c1, c2, ⟨ck, cv, hk, _⟩, _⟩ => ⟨ck, hk⟩) hg'.1) fun kv _ =>
      smok_bind (eval_fails C v ctx (h.imp id fun ⟨_, c1, c2, ⟨ck, cv, _, hv, _⟩, _⟩ => ⟨cv, hv⟩) hg'.2.1) fun vv _ =>
        smok_bind (evalPairs_fails C ns ctx (h.imp id fun ⟨_, c1, c2, _, h2, _⟩ => ⟨c2, h2⟩) hg'.2.2) fun vs hvs =>
          smok_pure (by rw [List.length_cons, List.length_cons]; omega)
end

-- `hs` is not used by the proof
set_option linter.unusedVariables false in
theorem evalList_benign {sc : SCfg} (hw : WorldOK sc.world) (hs : sc.sliceToFirst = true) {K : Array Val} {cfg : CompCfg}
    {L : Node → Prop} : ∀ (ns : List Node) (code : List LInstr) (ctx : Ctx), CompilesL K cfg ns code → GoodL L ns →
      SMBenign (evalList sc ctx ns) :=
  fun ns code ctx h hg => (evalList_fails (.ofWorldOK hw) ns ctx (.inr ⟨code, h⟩) hg).smBenign
set_option linter.unusedVariables false in
theorem evalPairs_benign {sc : SCfg} (hw : WorldOK sc.world) (hs : sc.sliceToFirst = true) {K : Array Val} {cfg : CompCfg}
    {L : Node → Prop} : ∀ (ns : List Node) (code : List LInstr) (ctx : Ctx), CompilesL K cfg ns code → GoodP L ns →
      SMBenign (evalList sc ctx ns) :=
  fun ns code ctx h hg =>
    Fails.smBenign (smok_mono (evalPairs_fails (.ofWorldOK hw) ns ctx (.inr ⟨code, h⟩) hg) fun _ _ => trivial)

theorem run_errsIn {sc : SCfg} {cast : Option Nat} {n : Node} (hev : Fails Q (eval sc [] n))
    (hc : ∀ t v, ErrsIn Q (castV t v)) : ErrsIn Q (Spec.run sc cast n).1 := by
  intro e h
  rw [Spec.run_eq] at h
  rcases hr : eval sc [] n {} with ⟨r, s⟩
  rw [hr] at h
  cases r with
  | error e' =>
    cases h
    exact hev.error hr
  | ok v =>
    cases cast with
    | none => cases h
    | some t => exact hc t v e h

end ExprModel.Refine
