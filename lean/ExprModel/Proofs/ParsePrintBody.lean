import ExprModel.Syntax.Printer
/-
The nodes printed as one token, the nodes that are never canonical, and names for the square and curly bracket
tokens the printer writes (`lbr`, `rbr`, `lbrace`, `rbrace`; Syntax/Printer names `lparen`, `rparen`, `comma`,
`colon`, `questAt`).  All hold by `rfl`; `body_nil` and
`canon_const` are proved by unfolding, which makes Lean generate the equation lemmas of `body` and `canon`
here, once, for every module downstream that rewrites with them.  Then what both directions (ParsePrint*,
ParserErasePrint) share of the printer: a map key as it is written (`keyP`) and the printing followed by its EOF
token (`printEof`).
-/
namespace ExprModel.Parser

variable {cfg : Cfg} {sh : NumShow} {pc : ParenChoice}

theorem body_nil (π : List Nat) (m : Nat) (fw : Token) (mt : Meta) :
    body cfg sh pc π m fw (.nil mt) = [tok .identifier "nil" mt.loc] := by simp only [body]
theorem body_bool (π : List Nat) (m : Nat) (fw : Token) (mt : Meta) (b : Bool) :
    body cfg sh pc π m fw (.bool mt b) = [tok .identifier (if b then "true" else "false") mt.loc] := by
  rfl
theorem body_int (π : List Nat) (m : Nat) (fw : Token) (mt : Meta) (v : Int) :
    body cfg sh pc π m fw (.int mt v) = [tok .number (sh.showInt v.toNat) mt.loc] := rfl
theorem body_float (π : List Nat) (m : Nat) (fw : Token) (mt : Meta) (b : UInt64) :
    body cfg sh pc π m fw (.float mt b) = [tok .number (sh.showFloat b) mt.loc] := rfl
theorem body_str (π : List Nat) (m : Nat) (fw : Token) (mt : Meta) (s : String) :
    body cfg sh pc π m fw (.str mt s) = [tok .string s mt.loc] := rfl
theorem body_ident (π : List Nat) (m : Nat) (fw : Token) (mt : Meta) (n : String) (ns : Bool) :
    body cfg sh pc π m fw (.ident mt n ns) = [tok .identifier n mt.loc] := rfl
theorem body_pointer (π : List Nat) (m : Nat) (fw : Token) (mt : Meta) :
    body cfg sh pc π m fw (.pointer mt) = [tok .operator "#" mt.loc] := rfl

theorem canon_const (d : Nat) (m : Meta) (v : Val) : canon cfg d (.const m v) = false := by simp only [canon]
theorem canon_closure (d : Nat) (m : Meta) (b : Node) : canon cfg d (.closure m b) = false := rfl
theorem canon_pair (d : Nat) (m : Meta) (k v : Node) : canon cfg d (.pair m k v) = false := rfl

def lbr (l : Loc) : Token := tok .bracket "[" l
def rbr : Token := tok .bracket "]"
def lbrace (l : Loc) : Token := tok .bracket "{" l
def rbrace : Token := tok .bracket "}"

@[simp] theorem tok_loc (k : TokKind) (v : String) (l : Loc) : (tok k v l).loc = l := rfl
@[simp] theorem tok_value (k : TokKind) (v : String) (l : Loc) : (tok k v l).value = v := rfl
@[simp] theorem lbr_loc (l : Loc) : (lbr l).loc = l := rfl
@[simp] theorem lbrace_loc (l : Loc) : (lbrace l).loc = l := rfl

variable (cfg sh pc) in
/-- the text of a map key: a branch `pairsP` (Syntax/Printer) has inline (`pairsP_last`, `pairsP_more`) -/
def keyP (π : List Nat) (j : Nat) (l : Loc) (k : Node) : List Token :=
  match k with
  | .str mk' s =>
    if mk'.loc = l ∧ pc ((2*j) :: π) = 0 then [tok .string s]
    else wrap (max (pc ((2*j) :: π)) 1) (body cfg sh pc ((2*j) :: π) 0 rparen k)
  | _ => wrap (max (pc ((2*j) :: π)) 1) (body cfg sh pc ((2*j) :: π) 0 rparen k)

theorem keyP_str {π : List Nat} {j : Nat} {l : Loc} {mk' : Meta} (s : String) (hl : mk'.loc = l)
    (hp : pc ((2*j) :: π) = 0) : keyP cfg sh pc π j l (.str mk' s) = [tok .string s] := by
  simp only [keyP]
  rw [if_pos ⟨hl, hp⟩]

theorem keyP_wrap {π : List Nat} {j : Nat} {l : Loc} {k : Node}
    (h : ¬ ∃ mk' s, k = .str mk' s ∧ mk'.loc = l ∧ pc ((2*j) :: π) = 0) :
    keyP cfg sh pc π j l k = wrap (max (pc ((2*j) :: π)) 1) (body cfg sh pc ((2*j) :: π) 0 rparen k) := by
  cases k with
  | str mk' s =>
    simp only [keyP]
    rw [if_neg (fun hc => h ⟨mk', s, rfl, hc.1, hc.2⟩)]
  | _ => rfl

theorem pairsP_last (π : List Nat) (j : Nat) (l : Loc) (pm : Meta) (k v : Node) :
    pairsP cfg sh pc π j l [.pair pm k v] =
      keyP cfg sh pc π j l k ++ colon :: pr cfg sh pc ((2*j+1) :: π) 0 rbrace v := by
  have h : pairsP cfg sh pc π j l [.pair pm k v] =
      (keyP cfg sh pc π j l k ++ colon :: pr cfg sh pc ((2*j+1) :: π) 0 rbrace v) ++ [] := by
    cases k <;> rfl
  rw [h, List.append_nil]

theorem pairsP_more (π : List Nat) (j : Nat) (l : Loc) (pm : Meta) (k v q : Node) (rest : List Node) :
    pairsP cfg sh pc π j l (.pair pm k v :: q :: rest) =
      keyP cfg sh pc π j l k ++ colon :: (pr cfg sh pc ((2*j+1) :: π) 0 comma v ++
        comma :: pairsP cfg sh pc π (j+1) l (q :: rest)) := by
  have h : pairsP cfg sh pc π j l (.pair pm k v :: q :: rest) =
      (keyP cfg sh pc π j l k ++ colon :: pr cfg sh pc ((2*j+1) :: π) 0 comma v) ++
        (comma :: pairsP cfg sh pc π (j+1) l (q :: rest)) := by
    cases k <;> rfl
  rw [h, List.append_assoc, List.cons_append]

def eofAt (l : Loc) : Token := { kind := .eof, value := "", loc := l }

variable (cfg sh pc) in
def printEof (l : Loc) (t : Node) : List Token := pr cfg sh pc [] 0 (eofAt l) t ++ [eofAt l]

theorem eofAt_default : eofAt {} = eofTok := rfl

variable (cfg sh pc) in
theorem printEof_default (t : Node) : printEof cfg sh pc {} t = print cfg sh pc t ++ [eofTok] := rfl

end ExprModel.Parser
