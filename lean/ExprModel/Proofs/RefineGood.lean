import ExprModel.Proofs.SpecEqs
/-
The well-formedness of a tree that C01's theorems assume.  `Good L n`: pair nodes occur exactly as the elements of
map literals, and a builtin not named `len` has two arguments of which the first, the collection, satisfies `L`
(`L := fun _ => False`: loop-free trees).  Everything but `L` is a fact about the shape of the tree
alone, which the parser delivers (Proofs/ParserGood.lean) without knowing the compiler or the VM; `L` is left open
here, and C01's instance `SmallColl c` (RefineLoop.lean) speaks of what the collection evaluates to.  SpecEqs is
imported for `Node.isPair` only.
-/
namespace ExprModel.Refine
open ExprModel

def LoopArgs (L : Node → Prop) : List Node → Prop
  | [a, _] => L a
  | _ => False

mutual
def Good (loops : Node → Prop) : Node → Prop
  | .nil _ | .ident .. | .int .. | .float .. | .bool .. | .str .. | .const .. | .pointer _ => True
  | .unary _ _ x => Good loops x
  | .binary _ _ l r => Good loops l ∧ Good loops r
  | .matches _ _ l r => Good loops l ∧ Good loops r
  | .prop _ x _ _ => Good loops x
  | .index _ x i => Good loops x ∧ Good loops i
  | .slice _ x f t => Good loops x ∧ GoodO loops f ∧ GoodO loops t
  | .method _ x _ args _ => Good loops x ∧ GoodL loops args
  | .func _ _ args _ => GoodL loops args
  | .builtin _ name args => (name = "len" ∨ LoopArgs loops args) ∧ GoodL loops args
  | .closure _ x => Good loops x
  | .cond _ c a b => Good loops c ∧ Good loops a ∧ Good loops b
  | .array _ xs => GoodL loops xs
  | .map _ ps => GoodP loops ps
  | .pair .. => False
def GoodO (loops : Node → Prop) : Option Node → Prop
  | none => True
  | some n => Good loops n
def GoodL (loops : Node → Prop) : List Node → Prop
  | [] => True
  | n :: ns => Good loops n ∧ GoodL loops ns
def GoodP (loops : Node → Prop) : List Node → Prop
  | [] => True
  | .pair _ k v :: ps => Good loops k ∧ Good loops v ∧ GoodP loops ps
  | _ :: _ => False
end

theorem good_not_pair {loops : Node → Prop} {n : Node} (h : Good loops n) : n.isPair = false := by
  cases n <;> first | rfl | exact h.elim

end ExprModel.Refine
