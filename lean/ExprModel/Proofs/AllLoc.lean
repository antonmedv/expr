import ExprModel.Proofs.Walk
import ExprModel.Proofs.AllLocDef
/-
`Node.AllLoc P` seen through the children view of `Walk/Spec.lean`: it is pointwise (`allLoc_iff`), so whatever rebuilds
a node around children that satisfy it keeps it.
`Proofs/OptLocs.lean` opens `Opt`, whose own `walk` / `walkList` would clash with the generic walker's names that come
with `Proofs/Walk.lean`; it and the stages that need the definition only import `AllLocDef` alone.
-/
namespace ExprModel

open Node

variable {P : Loc → Prop}

theorem Node.allLocL_iff (ns : List Node) : Node.AllLocL P ns ↔ ∀ c ∈ ns, c.AllLoc P := by
  induction ns with
  | nil => exact ⟨fun _ _ h => (nomatch h), fun _ => trivial⟩
  | cons n ns ih => rw [Node.AllLocL, ih, List.forall_mem_cons]

theorem Node.allLocO_iff (o : Option Node) : Node.AllLocO P o ↔ ∀ c ∈ o.toList, c.AllLoc P := by
  cases o with
  | none => exact ⟨fun _ _ h => (nomatch h), fun _ => trivial⟩
  | some n =>
    simp only [Node.AllLocO, Option.toList, List.forall_mem_cons, List.not_mem_nil, false_imp_iff, implies_true, and_true]

theorem Node.allLoc_iff (n : Node) : n.AllLoc P ↔ P n.loc ∧ ∀ c ∈ n.children, c.AllLoc P := by
  cases n <;>
    simp only [Node.AllLoc, Node.allLocL_iff, Node.allLocO_iff, children, loc, getMeta, List.forall_mem_cons,
      List.forall_mem_append, List.not_mem_nil, false_imp_iff, implies_true, and_true]

theorem Node.allLoc_mono {P Q : Loc → Prop} (h : ∀ l, P l → Q l) : ∀ (n : Node), n.AllLoc P → n.AllLoc Q := by
  intro n
  induction n using Node.induction_children with
  | step n ih =>
    rw [Node.allLoc_iff, Node.allLoc_iff]
    exact fun hn => ⟨h _ hn.1, fun c hc => ih c hc (hn.2 c hc)⟩

theorem Node.allLocL_mono {P Q : Loc → Prop} (h : ∀ l, P l → Q l) : ∀ (ns : List Node), Node.AllLocL P ns → Node.AllLocL Q ns := by
  intro ns
  rw [Node.allLocL_iff, Node.allLocL_iff]
  exact fun hns c hc => Node.allLoc_mono h c (hns c hc)

theorem Node.allLocO_mono {P Q : Loc → Prop} (h : ∀ l, P l → Q l) : ∀ (o : Option Node), Node.AllLocO P o → Node.AllLocO Q o
  | none, _ => True.intro
  | some n, hn => Node.allLoc_mono h n hn

theorem Node.allLoc_withChildren (n : Node) (ks : List Node) (h : ks.length = n.children.length)
    (hn : P n.loc) (hk : ∀ c ∈ ks, c.AllLoc P) : (n.withChildren ks).AllLoc P := by
  rw [Node.allLoc_iff, children_withChildren n ks h, loc, withChildren_getMeta]
  exact ⟨hn, hk⟩

theorem bottomUp_allLoc (g : Node → Node) (hg : ∀ n, n.AllLoc P → (g n).AllLoc P) (n : Node) :
    n.AllLoc P → (bottomUp g n).AllLoc P := by
  induction n using Node.induction_children with
  | step n ih =>
    intro h
    rw [Node.allLoc_iff] at h
    rw [bottomUp_eq]
    refine hg _ (Node.allLoc_withChildren n _ (List.length_map _) h.1 fun c hc => ?_)
    obtain ⟨d, hd, rfl⟩ := List.mem_map.1 hc
    exact ih d hd (h.2 d hd)

end ExprModel
