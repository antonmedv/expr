import ExprModel.Proofs.RefineGood
import ExprModel.Proofs.ParserCanonical
/-
What the parser returns satisfies the well-formedness `Refine.Good` that the compile-correctness theorems
of C01 assume about the tree: pair nodes exactly as the elements of map literals, closures as the second
argument of the loop builtins, `len` the only one-argument builtin.  The only part of `Good L` that is not a
fact about the parser is `L` itself (a run-time condition on the collection argument of a loop builtin);
it is collected by `LoopsOK L`.  This is a characterisation that stands by itself: the source-level theorems
(Props/C01, Props/C13Pipeline) take `Good` of the parsed tree as a hypothesis and do not call `parse_good`.
-/
namespace ExprModel.Parser
open ExprModel ExprModel.Refine

mutual
def LoopsOK (L : Node → Prop) : Node → Prop
  | .nil _ | .ident .. | .int .. | .float .. | .bool .. | .str .. | .const .. | .pointer _ => True
  | .unary _ _ x => LoopsOK L x
  | .binary _ _ l r => LoopsOK L l ∧ LoopsOK L r
  | .matches _ _ l r => LoopsOK L l ∧ LoopsOK L r
  | .prop _ x _ _ => LoopsOK L x
  | .index _ x i => LoopsOK L x ∧ LoopsOK L i
  | .slice _ x f t => LoopsOK L x ∧ LoopsOKO L f ∧ LoopsOKO L t
  | .method _ x _ args _ => LoopsOK L x ∧ LoopsOKL L args
  | .func _ _ args _ => LoopsOKL L args
  | .builtin _ name args => (name = "len" ∨ LoopArgs L args) ∧ LoopsOKL L args
  | .closure _ x => LoopsOK L x
  | .cond _ c a b => LoopsOK L c ∧ LoopsOK L a ∧ LoopsOK L b
  | .array _ xs => LoopsOKL L xs
  | .map _ ps => LoopsOKL L ps
  | .pair _ k v => LoopsOK L k ∧ LoopsOK L v
def LoopsOKO (L : Node → Prop) : Option Node → Prop
  | none => True
  | some n => LoopsOK L n
def LoopsOKL (L : Node → Prop) : List Node → Prop
  | [] => True
  | n :: ns => LoopsOK L n ∧ LoopsOKL L ns
end

variable (cfg : Cfg)

/-- the object of a postfix link: an identifier is `Good` as it stands, anything else when it is canonical -/
theorem good_of_base {L : Node → Prop} {d : Nat} {s : Bool} {x : Node}
    (ih : canon cfg d x = true → Good L x) (h : canonBaseWith (canon cfg d x) s x = true) : Good L x := by
  rcases canonBaseWith_split x with ⟨m, n, ns, rfl⟩ | hx
  · trivial
  · exact ih ((hx _ _).symm.trans h)

private theorem goodInd {L : Node → Prop} (hlen : ∀ n, cfg.tb.builtins.lookup n = some 1 → n = "len") :
    CanonInd cfg (fun t => LoopsOK L t → Good L t) (fun xs => LoopsOKL L xs → GoodL L xs)
      (fun o => LoopsOKO L o → GoodO L o) (fun ps => LoopsOKL L ps → GoodP L ps) where
  nil := fun _ _ => trivial
  bool := fun _ _ _ => trivial
  int := fun _ _ _ => trivial
  float := fun _ _ _ => trivial
  str := fun _ _ _ => trivial
  ident := fun _ _ _ _ => trivial
  pointer := fun _ _ => trivial
  unary := fun _ _ _ _ ih hl => ih hl
  binary := fun _ _ _ _ _ ihl ihr hl => ⟨ihl hl.1, ihr hl.2⟩
  «matches» := fun _ _ _ _ ihl ihr hl => ⟨ihl hl.1, ihr hl.2⟩
  cond := fun _ _ _ _ ihc iha ihb hl => ⟨ihc hl.1, iha hl.2.1, ihb hl.2.2⟩
  prop := fun _ _ _ _ ihx hl => ihx hl
  method := fun _ _ _ _ _ ihx ihas hl => ⟨ihx hl.1, ihas hl.2⟩
  index := fun _ _ _ ihx ihi hl => ⟨ihx hl.1, ihi hl.2⟩
  slice := fun _ _ _ _ ihx ihf iht hl => ⟨ihx hl.1, ihf hl.2.1, iht hl.2.2⟩
  func := fun _ _ _ _ ihas hl => ihas hl
  builtin1 := fun _ n _ h1 iha hl => ⟨Or.inl (hlen n h1), iha hl.2.1, trivial⟩
  builtin2 := fun _ _ _ _ _ iha ihb hl => ⟨hl.1, iha hl.2.1, ihb hl.2.2.1, trivial⟩
  array := fun _ _ ihxs hl => ihxs hl
  map := fun _ _ ihps hl => ihps hl
  lnil := fun _ => trivial
  lcons := fun _ _ iha ihas hl => ⟨iha hl.1, ihas hl.2⟩
  onone := fun _ => trivial
  osome := fun _ ihe hl => ihe hl
  pnil := fun _ => trivial
  pcons := fun _ _ _ _ ihk ihv ihps hl => ⟨ihk hl.1.1, ihv hl.1.2, ihps hl.2⟩

theorem good_of_canon {L : Node → Prop} (hlen : ∀ n, cfg.tb.builtins.lookup n = some 1 → n = "len") :
    (t : Node) → (d : Nat) → canon cfg d t = true → LoopsOK L t → Good L t :=
  (goodInd cfg hlen).node

theorem goodL_of_canon {L : Node → Prop} (hlen : ∀ n, cfg.tb.builtins.lookup n = some 1 → n = "len") :
    (xs : List Node) → (d : Nat) → canonList cfg d xs = true → LoopsOKL L xs → GoodL L xs :=
  (goodInd cfg hlen).list

theorem goodO_of_canon {L : Node → Prop} (hlen : ∀ n, cfg.tb.builtins.lookup n = some 1 → n = "len") :
    (o : Option Node) → (d : Nat) → canonOpt cfg d o = true → LoopsOKO L o → GoodO L o :=
  (goodInd cfg hlen).opt

theorem goodP_of_canon {L : Node → Prop} (hlen : ∀ n, cfg.tb.builtins.lookup n = some 1 → n = "len") :
    (ps : List Node) → (d : Nat) → (l : Loc) → canonPairs cfg d l ps = true → LoopsOKL L ps → GoodP L ps :=
  (goodInd cfg hlen).pairs

theorem parse_good {L : Node → Prop} (hy : ImgHyp cfg)
    (hlen : ∀ n, cfg.tb.builtins.lookup n = some 1 → n = "len")
    (ts : List Token) (hE : EofPlain ts) (t : Node) (h : parse cfg ts = .ok t) (hl : LoopsOK L t) : Good L t := by
  have hc := parseFuel_canonical cfg hy _ ts hE t (parseFuel_of_parse cfg h)
  exact good_of_canon cfg hlen t 0 hc hl

theorem gen_builtin_facts :
    (∀ n, Gen.parserTables.builtins.lookup n = some 1 → n = "len") ∧
    (∀ n ar, Gen.parserTables.builtins.lookup n = some ar → ar = 1 ∨ ar = 2) := by
  constructor
  · intro n h
    rcases gen_builtin_entry n 1 h with h1 | h2
    · exact h1.2
    · cases h2
  · intro n ar h
    exact (gen_builtin_entry n ar h).imp And.left id

/-- `parse_good` for a parser configuration with the generated tables, as `Api.Front.pcfg` is one; the lexer's
    output meets `EofPlain` (its only EOF token has the empty value). -/
theorem parse_good_gen {L : Node → Prop} (hT : cfg.tb = Gen.parserTables)
    (hnum : ∀ s v, cfg.num s = some (.int v) → 0 ≤ v ∧ v < 9223372036854775808)
    (hfloat : ∀ s b, cfg.num s = some (.float b) → floatLit b = true)
    (ts : List Token) (hE : EofPlain ts) (t : Node) (h : parse cfg ts = .ok t) (hl : LoopsOK L t) : Good L t :=
  parse_good cfg ⟨hnum, hfloat, by rw [hT]; exact gen_builtin_facts.2⟩ (by rw [hT]; exact gen_builtin_facts.1) ts hE t h hl

end ExprModel.Parser
