import ExprModel.Proofs.StepIp
import ExprModel.Proofs.LoopSteps
import ExprModel.Proofs.BcFrag
import ExprModel.Proofs.RefineTop
/-
C13: in a program produced by the compiler model every `ip` reached from 0 is an instruction boundary
(the offset of an opcode, or the end of the program).
-/
namespace ExprModel
open ExprModel.Bc ExprModel.Refine

theorem split_at_boundary (code : List LInstr) (k : Nat) (hb : instrBoundary (instrs code) k = true)
    (hk : k < lsize code) : ∃ pre i post, code = pre ++ i :: post ∧ lsize pre = k := by
  obtain ⟨p, q, hpq, hp⟩ := (boundary_iff_prefix _ _).1 hb
  obtain ⟨pre, rest, rfl, rfl, rfl⟩ := List.map_eq_append_iff.1 hpq
  cases rest with
  | nil => rw [List.append_nil] at hk; exact absurd hp (Nat.ne_of_gt hk)
  | cons i post => exact ⟨pre, i, post, rfl, hp⟩

variable {c : Cfg}

/-- split the code at the boundary `s.ip`; `step_ok_ip` says where the instruction `i` found there leaves `ip`; behind `i`
    is a boundary again, and a jump target is one because `JumpsClosed` holds `jumpOk` of `i` at its offset (`jumpsOk_at`) -/
theorem step_boundary {cp : Compiled} (hfit : FitsU16 cp.code) (hj : JumpsClosed (instrs cp.code))
    {s s' : VM} (hb : instrBoundary (instrs cp.code) s.ip = true) (hlt : s.ip < (progOf cp).code.size)
    (hstep : step c (progOf cp) s = .ok s') : instrBoundary (instrs cp.code) s'.ip = true := by
  obtain ⟨pre, i, post, hcode, hpre⟩ := split_at_boundary cp.code s.ip hb (by rw [← progOf_code_size]; exact hlt)
  have hat : CodeAt (lprogOf cp fun _ _ => True) s.ip (i :: post) :=
    ⟨pre, [], by simp [lprogOf, hcode], hpre, by
      intro x hx; exact hfit x (by rw [hcode]; simp only [List.mem_append]; exact Or.inr hx)⟩
  have hpost := step_ok_ip hat.bytes rfl hstep
  have hsplit : instrs cp.code = instrs pre ++ i.instr :: instrs post := by rw [hcode, instrs_append, instrs_cons]
  have hjump : jumpOk (instrBoundary (instrs cp.code)) s.ip i.instr = true := by
    have h : jumpsOk (instrBoundary (instrs cp.code)) 0 (instrs pre ++ i.instr :: instrs post) = true := by
      rw [← hsplit]
      exact hj
    rw [← hpre, lsize_eq, ← Nat.zero_add (codeSize (instrs pre))]
    exact jumpsOk_at h
  rcases hpost with h | ⟨hc, h⟩ | ⟨hc, hle, h⟩
  · rw [h, boundary_iff_prefix]
    exact ⟨instrs (pre ++ [i]), instrs post, by rw [hcode]; simp, by
      rw [← lsize_eq]; simp only [lsize_append, lsize_cons, lsize_nil, hpre]; omega⟩
  · have hs3 := Instr.size_of_jump (i := i.instr) (.inl hc)
    unfold jumpOk at hjump
    rw [hc] at hjump
    simp only at hjump
    rw [h]; rw [hs3] at hjump; exact hjump
  · have hs3 := Instr.size_of_jump (i := i.instr) (.inr hc)
    unfold jumpOk at hjump
    rw [hc] at hjump
    simp only [Bool.and_eq_true, decide_eq_true_eq] at hjump
    rw [h]; rw [hs3] at hjump; exact hjump.2

theorem steps_boundary {cp : Compiled} (hfit : FitsU16 cp.code) (hj : JumpsClosed (instrs cp.code))
    {s s1 : VM} (hst : Steps c (progOf cp) s s1) (hb : instrBoundary (instrs cp.code) s.ip = true) :
    instrBoundary (instrs cp.code) s1.ip = true :=
  steps_inv (I := fun s => instrBoundary (instrs cp.code) s.ip = true)
    (fun _ _ hb hlt hs => step_boundary hfit hj hb hlt hs) hst hb

end ExprModel
