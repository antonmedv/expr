import ExprModel.Proofs.RawSound
/-
For C16: the types table of an environment, pointwise (no iteration order), for both variants of the code
(`fieldsAt`, `StructEnv.entry`, `entries_get?`); what an entry has to do with Go's selector rule, for any variant
(`fieldsAt_sound`, `fieldsAt_complete`: `fieldsAt` is taken apart here only); the checker functions of the variant `asIs`
unfolded.
-/
namespace ExprModel.C16
open ExprModel Table

/-- the entry of `conf.FieldsFromStruct(t)` for `name`, for either variant of the code (fuel `t.depth + 1` as in
    `fieldsFromStruct`: there is no embedding level at or beyond the depth, `levelTys_eq_nil_of_depth_le`) -/
def fieldsAt (d : NDefects) (t : Ty) (name : String) : Option Tag :=
  if d.declOrderMerge then rawAt d (t.depth + 1) t name
  else if (rawAt d (t.depth + 1) t name).isSome then resolvedTag d t.deref name else none

theorem fieldsFromStruct_get? (d : NDefects) (σ : Table → Table) (hσ : IsOrder σ) (t : Ty) (name : String) :
    (fieldsFromStruct d σ t).get? name = fieldsAt d t name := by
  unfold fieldsFromStruct fieldsAt
  by_cases hd : d.declOrderMerge = true
  · simp only [hd, if_true]; exact fieldsRaw_get? d σ hσ _ t name
  · rw [if_neg hd, if_neg hd]
    rw [get?_filterMap_keys (fun n => resolvedTag d t.deref n)]
    simp only [Table.mem_keys_iff, fieldsRaw_get? d σ hσ]

/-- what the method loop does to the entry of one name -/
def methodsAt (ms : List (String × Ty)) (n : String) (base : Option Tag) : Option Tag :=
  ms.foldl (fun cur m => if m.1 = n then some { ty := some m.2, method := true } else cur) base

theorem addMethods_get? (t : Ty) (tbl : Table) (n : String) :
    (addMethods t tbl).get? n = methodsAt (methodSet t) n (tbl.get? n) := by
  unfold addMethods methodsAt
  generalize methodSet t = ms
  induction ms generalizing tbl with
  | nil => rfl
  | cons m r ih =>
    rw [List.foldl_cons, List.foldl_cons, ih, Table.get?_set]

/-- the value given to `expr.Env` is a struct or a pointer to a struct, whose embedded fields are
`E` / `*E` as Go requires -/
structure StructEnv (e : Env) (t dd : Ty) : Prop where
  hty : e.ty = some t
  hdd : dd = t.derefOnce
  hkind : dd.kind = RKind.struct
  hwf : EmbWF dd

theorem StructEnv.table {e : Env} {t dd : Ty} (h : StructEnv e t dd) (d : NDefects) (σ : Table → Table) :
    createTypesTable d σ e = some (addMethods t (fieldsFromStruct d σ dd)) := by
  unfold createTypesTable
  rw [h.hty]
  simp only [← h.hdd, h.hkind]

theorem StructEnv.fetchBase {e : Env} {t dd : Ty} (h : StructEnv e t dd) (d : NDefects) :
    t.fetchBase d = dd := by
  have hk : t.derefOnce.kind = .struct := h.hdd ▸ h.hkind
  rw [h.hdd]
  unfold Ty.fetchBase
  unfold Ty.derefOnce at hk ⊢
  split at hk
  · -- a pointer to the struct: one level is every level
    next u hc =>
    have hkp : t.kind = .ptr := by unfold Ty.kind; rw [hc]
    rw [hkp, hk, Ty.core_ptr_deref t u hc, Ty.deref_of_not_isPtr (Ty.isPtr_false_of_kind_struct hk)]
    split <;> rfl
  · rw [hk, Ty.deref_of_not_isPtr (Ty.isPtr_false_of_kind_struct hk)]
    split <;> rfl

theorem StructEnv.not_map {e : Env} {t dd : Ty} (h : StructEnv e t dd) :
    (t == Ty.map .string interfaceType) = false := by
  cases hb : t == Ty.map .string interfaceType with
  | false => rfl
  | true =>
    have : t = Ty.map .string interfaceType := by simpa using hb
    have hk := h.hkind
    rw [h.hdd, this] at hk
    simp [Ty.derefOnce, Ty.core, Ty.kind] at hk

/-- run time, struct environment: `fetch(env, name)` is `reflect`'s `FieldByName` + `CanInterface` -/
theorem StructEnv.fetchEnv {e : Env} {t dd : Ty} (h : StructEnv e t dd) (d : NDefects) (n : String) :
    fetchEnv d e n =
      match reflField dd n with
      | .found f => if f.exported then some (some f.ty) else none
      | _ => none := by
  obtain ⟨fs, hc⟩ := Ty.kind_struct_iff.1 h.hkind
  unfold ExprModel.fetchEnv
  rw [h.hty]
  simp only [h.not_map, h.fetchBase d, hc]
  unfold fetchTy
  simp only [h.fetchBase d, hc]
  cases reflField dd n with
  | found f => by_cases hx : f.exported = true <;> simp [hx]
  | ambiguous => rfl
  | notFound => rfl

theorem StructEnv.not_ptr {e : Env} {t dd : Ty} (h : StructEnv e t dd) : dd.isPtr = false :=
  Ty.isPtr_false_of_kind_struct h.hkind

theorem StructEnv.deref {e : Env} {t dd : Ty} (h : StructEnv e t dd) : dd.deref = dd :=
  Ty.deref_of_not_isPtr h.not_ptr

/-- Which `m`: the last of that name, where `methodByName` takes the first; nothing downstream depends on which. -/
theorem methodsAt_cases (ms : List (String × Ty)) (n : String) : ∀ base : Option Tag,
    (ms.find? (fun e => e.1 = n) = none ∧ methodsAt ms n base = base) ∨
    (∃ m ∈ ms, m.1 = n ∧ methodsAt ms n base = some { ty := some m.2, method := true }) := by
  unfold methodsAt
  induction ms with
  | nil => exact fun base => .inl ⟨rfl, rfl⟩
  | cons m r ih =>
    intro base
    rw [List.foldl_cons, List.find?_cons]
    rcases ih (if m.1 = n then some { ty := some m.2, method := true } else base) with ⟨hf, hr⟩ | ⟨m', hm', h⟩
    · by_cases hm : m.1 = n
      · exact .inr ⟨m, List.mem_cons_self, hm, by rw [hr, if_pos hm]⟩
      · exact .inl ⟨by rw [decide_eq_false hm]; exact hf, by rw [hr, if_neg hm]⟩
    · exact .inr ⟨m', List.mem_cons_of_mem _ hm', h⟩

theorem methodsAt_not_method {ms : List (String × Ty)} {n : String} {base : Option Tag} {g : Tag}
    (hg : methodsAt ms n base = some g) (hm : g.method = false) : base = some g := by
  rcases methodsAt_cases ms n base with ⟨_, hb⟩ | ⟨m, _, _, hg'⟩
  · rw [← hb, hg]
  · rw [hg] at hg'
    rw [Option.some.inj hg'] at hm
    cases hm

theorem methodByName_eq (t : Ty) (n : String) :
    methodByName t n = ((methodSet t).find? (fun e => e.1 = n)).map (·.2) := rfl

theorem StructEnv.entry {e : Env} {t dd : Ty} (h : StructEnv e t dd) (d : NDefects) (σ : Table → Table)
    (hσ : IsOrder σ) {tbl : Table} (ht : createTypesTable d σ e = some tbl) (n : String) :
    tbl.get? n = methodsAt (methodSet t) n (fieldsAt d dd n) := by
  rw [h.table] at ht
  cases ht
  rw [addMethods_get?, fieldsFromStruct_get? d σ hσ]

theorem StructEnv.entry_field {e : Env} {t dd : Ty} (h : StructEnv e t dd) (d : NDefects) (σ : Table → Table)
    (hσ : IsOrder σ) {tbl : Table} (ht : createTypesTable d σ e = some tbl) {n : String}
    (hnm : methodByName t n = none) : tbl.get? n = fieldsAt d dd n := by
  rw [h.entry d σ hσ ht]
  rcases methodsAt_cases (methodSet t) n (fieldsAt d dd n) with ⟨_, hb⟩ | ⟨m, hm, hn, _⟩
  · exact hb
  · rw [methodByName_eq, Option.map_eq_none_iff] at hnm
    exact absurd (decide_eq_true hn) (List.find?_eq_none.1 hnm m hm)

theorem identType_ok {d : NDefects} {tbl : Table} {n : String} {τ : Option Ty}
    (h : identType d tbl n = .ok τ) :
    ∃ g, tbl.get? n = some g ∧ g.ambiguous = false ∧ (g.method && !d.methodAsValue) = false ∧ g.ty = τ := by
  unfold identType at h
  cases hg : tbl.get? n with
  | none => rw [hg] at h; cases h
  | some g =>
    rw [hg] at h
    simp only [] at h
    by_cases ha : g.ambiguous = true
    · simp [ha] at h
    · by_cases hm : (g.method && !d.methodAsValue) = true
      · simp [ha, hm] at h
      · simp only [ha, hm] at h
        refine ⟨g, rfl, by simpa using ha, by simpa using hm, ?_⟩
        cases h; rfl

theorem identType_field (d : NDefects) {tbl : Table} {n : String} {τ : Option Ty}
    (h : tbl.get? n = some { ty := τ }) : identType d tbl n = .ok τ := by
  unfold identType
  rw [h]
  rfl

/-- under Go's rule (`declOrderMerge` off) an entry is what `reflect`'s `FieldByName` says of a name the variant collects -/
theorem fieldsAt_go {d : NDefects} (hd : d.declOrderMerge = false) {dd : Ty} (hdd : dd.deref = dd) {n : String}
    {g : Tag} (h : fieldsAt d dd n = some g) :
    g = { ambiguous := true } ∨
      ∃ f, reflField dd n = .found f ∧ accepts d f = true ∧ g = { ty := some f.ty } := by
  unfold fieldsAt at h
  rw [hd, if_neg Bool.false_ne_true, hdd] at h
  split at h
  · unfold resolvedTag at h
    cases hr : reflField dd n with
    | notFound => rw [hr] at h; cases h
    | ambiguous => rw [hr] at h; exact .inl (Option.some.inj h).symm
    | found f =>
      rw [hr] at h
      have h : (if accepts d f = true then some { ty := some f.ty } else none) = some g := h
      split at h
      · next hx => exact .inr ⟨f, rfl, hx, (Option.some.inj h).symm⟩
      · cases h
  · cases h

/-- **A non-ambiguous entry of `FieldsFromStruct`, in either variant, is the field Go's rule selects.**  The merge loop
    needs the conditions of `rawAt_sound` (`hwf`, `hmerge`); the code that asks `FieldByName` needs none of them. -/
theorem fieldsAt_sound (d : NDefects) {dd : Ty} (hwf : EmbWF dd) (hp : dd.isPtr = false) {n : String}
    (hmerge : d.declOrderMerge = true → NamesWF dd ∧ AllAccepted d dd n) {g : Tag}
    (h : fieldsAt d dd n = some g) (ha : g.ambiguous = false) :
    ∃ f, reflField dd n = .found f ∧ accepts d f = true ∧ g = { ty := some f.ty } := by
  by_cases hd : d.declOrderMerge = true
  · unfold fieldsAt at h
    rw [if_pos hd] at h
    exact rawAt_sound_reflField d n dd g hwf (hmerge hd).1 hp (hmerge hd).2 h ha
  · rcases fieldsAt_go (Bool.eq_false_iff.2 hd) (Ty.deref_of_not_isPtr hp) h with rfl | h
    · cases ha
    · exact h

/-- **Every field the variant enters and Go's rule resolves has an entry**, under Go's rule the field's own. -/
theorem fieldsAt_complete (d : NDefects) {dd : Ty} (hwf : EmbWF dd) (hp : dd.isPtr = false) {n : String} {f : Field}
    (hr : reflField dd n = .found f) (ha : accepts d f = true) :
    ∃ g, fieldsAt d dd n = some g ∧ (d.declOrderMerge = false → g = { ty := some f.ty }) := by
  have hraw := rawAt_isSome_of_found d hwf hp hr ha
  unfold fieldsAt
  by_cases hd : d.declOrderMerge = true
  · rw [if_pos hd]
    obtain ⟨g, hg⟩ := Option.isSome_iff_exists.1 hraw
    exact ⟨g, hg, fun h => absurd hd (by rw [h]; exact Bool.false_ne_true)⟩
  · rw [if_neg hd, if_pos hraw, Ty.deref_of_not_isPtr hp]
    unfold resolvedTag
    rw [hr]
    exact ⟨_, if_pos ha, fun _ => rfl⟩

theorem method_entry {e : Env} {t dd : Ty} (h : StructEnv e t dd) (d : NDefects) (σ : Table → Table)
    (hσ : IsOrder σ) {tbl : Table} (ht : createTypesTable d σ e = some tbl)
    (n : String) (hm : (methodByName t n).isSome) :
    ∃ g, tbl.get? n = some g ∧ g.method = true ∧ g.ambiguous = false := by
  rw [h.entry d σ hσ ht]
  rcases methodsAt_cases (methodSet t) n (fieldsAt d dd n) with ⟨hf, _⟩ | ⟨m, _, _, hg⟩
  · rw [methodByName_eq, hf] at hm; cases hm
  · exact ⟨_, hg, rfl, rfl⟩

theorem isFuncType_some {ty : Ty} {fn : Ty} (hp : ty.isPtr = false) (h : isFuncType (some ty) = some fn) :
    (ty.kind = .func ∧ fn = ty) ∨ ty.kind = .iface := by
  simp only [isFuncType, Ty.deref_of_not_isPtr hp] at h
  cases hk : ty.kind <;> rw [hk] at h <;> simp at h
  · exact Or.inr rfl
  · exact Or.inl ⟨rfl, h.symm⟩

theorem isFuncType_some_deref {ty : Ty} {fn : Ty} (h : isFuncType (some ty) = some fn) :
    ty.deref.kind = .func ∨ ty.deref.kind = .iface := by
  simp only [isFuncType] at h
  cases hk : ty.deref.kind <;> rw [hk] at h <;> simp at h
  · exact Or.inr rfl
  · exact Or.inl rfl

theorem fetchBase_asIs (t : Ty) : t.fetchBase .asIs = t.deref := rfl

theorem fieldType_asIs_succ (k : Nat) (t : Ty) (n : String) :
    fieldType .asIs (k + 1) t n =
      match t.deref.kind with
      | .iface => some interfaceType
      | .map => if (t.deref.mapKey?.map (stringKeyOk .asIs)).getD false then t.deref.elem? else none
      | .struct =>
        match reflField t.deref n with
        | .found f => if f.exported then some f.ty else none
        | _ => none
      | _ => none := by
  unfold fieldType
  simp only [NDefects.asIs, Bool.false_eq_true, if_false, Bool.false_or]
  cases t.deref.kind <;> rfl

theorem fetchFnTy_method {t : Ty} {n : String} {mt : Ty} (hm : methodByName t n = some mt) (d : NDefects)
    (entries : List (String × Option Ty)) : fetchFnTy d t entries n = some (mt, true) := by
  unfold fetchFnTy
  rw [hm]

/-- `FetchFn` on a struct, past the method set: an exported field that Go's rule resolves is handed to the call when it
    holds a function or an interface, directly or behind pointers (`derefFn`) -/
theorem fetchFnTy_asIs_field {t : Ty} {n : String} {f : Field} (entries : List (String × Option Ty))
    (hm : methodByName t n = none) (hs : t.derefOnce.kind = .struct)
    (hr : reflField t.derefOnce n = .found f) (hx : f.exported = true)
    (hk : f.ty.deref.kind = .func ∨ f.ty.deref.kind = .iface) :
    fetchFnTy .asIs t entries n = some (f.ty, false) := by
  obtain ⟨fs, hc⟩ := Ty.kind_struct_iff.1 hs
  unfold fetchFnTy
  simp only [hm, hc, hr, hx, NDefects.asIs]
  by_cases hk0 : f.ty.kind = .func
  · simp [hk0]
  · rcases hk with hk | hk
    · simp [hk0, hk]
    · simp [hk0, hk]

/-- accepted at top level: as an identifier, or (a method of the environment) as a function name.  The union does not
    depend on `d`: a method entry that `identType` turns down when `methodAsValue` is off is taken by the second
    disjunct (`acceptedTop_iff`). -/
def acceptedTop (d : NDefects) (tbl : Table) (n : String) : Prop :=
  (∃ τ, identType d tbl n = .ok τ) ∨ (∃ g, tbl.get? n = some g ∧ g.method = true ∧ g.ambiguous = false)

theorem acceptedTop_iff (d : NDefects) (tbl : Table) (n : String) :
    acceptedTop d tbl n ↔ ∃ g, tbl.get? n = some g ∧ g.ambiguous = false := by
  unfold acceptedTop identType
  cases hg : tbl.get? n with
  | none => simp
  | some g =>
    by_cases ha : g.ambiguous = true
    · simp [ha]
    · by_cases hm : g.method = true
      · simp [ha, hm]
      · simp [ha, hm]

/-- the tables the library builds are Go maps: their keys are unique (whatever `σ` does: `hσ` plays no part) -/
theorem createTypesTable_nodup (d : NDefects) (σ : Table → Table) (hσ : IsOrder σ) (e : Env) (tbl : Table)
    (ht : createTypesTable d σ e = some tbl) : NodupKeys tbl := by
  have hadd : ∀ (t : Ty) (b : Table), NodupKeys b → NodupKeys (addMethods t b) :=
    fun t _ hb => nodupKeys_foldl _ (fun _ _ h => nodupKeys_set h _ _) (methodSet t) hb
  unfold createTypesTable at ht
  cases hty : e.ty with
  | none => rw [hty] at ht; cases ht
  | some t =>
    rw [hty] at ht
    simp only [] at ht
    cases hk : t.derefOnce.kind <;> rw [hk] at ht <;> simp only [Option.some.injEq] at ht <;> subst ht <;>
      try exact nodupKeys_nil
    · -- map
      exact hadd _ _ (nodupKeys_foldl _ (fun _ _ h => nodupKeys_set h _ _) e.entries nodupKeys_nil)
    · -- struct
      apply hadd
      unfold fieldsFromStruct
      split
      · exact fieldsRaw_nodup d σ _ _
      · exact nodupKeys_filterMap _ _ (fieldsRaw_nodup d σ _ _)

/-- a map environment with distinct keys: the entry of `n` is the map's value under `n` -/
theorem entries_get? (entries : List (String × Option Ty)) (hnd : (entries.map (·.1)).Nodup) (n : String) :
    ∀ acc : Table, (entries.foldl (fun acc kv => acc.set kv.1 { ty := kv.2 }) acc).get? n =
      match entries.find? (fun kv => kv.1 = n) with
      | some kv => some { ty := kv.2 }
      | none => acc.get? n := by
  induction entries with
  | nil => intro acc; rfl
  | cons kv rest ih =>
    intro acc
    simp only [List.map_cons, List.nodup_cons] at hnd
    rw [List.foldl_cons, ih hnd.2, List.find?_cons]
    by_cases hk : kv.1 = n
    · have hnone : rest.find? (fun kv => kv.1 = n) = none := by
        rw [List.find?_eq_none]
        intro x hx hxn
        apply hnd.1
        have : x.1 = kv.1 := by rw [hk]; simpa using hxn
        rw [← this]
        exact List.mem_map_of_mem hx
      simp only [hk, decide_true, hnone, Table.get?_set, if_true]
    · simp only [hk, decide_false, Table.get?_set, if_false]

/-- the value given to `expr.Env` is a map with a usable string key type and distinct keys -/
structure MapEnv (e : Env) (t k v : Ty) : Prop where
  hty : e.ty = some t
  hcore : t.core = .map k v
  hkey : stringKeyOk .asIs k = true
  hnodup : (e.entries.map (·.1)).Nodup

end ExprModel.C16
