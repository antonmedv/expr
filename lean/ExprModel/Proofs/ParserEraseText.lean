import ExprModel.Syntax.Printer
/-
The accepted token lists are printings — definitions: the text of a token list up to the spellings the
grammar treats alike (`eraseText`), the corresponding text of a tree (`flat`), and the relation
"the parser consumed a prefix whose text is `w`" (`Cons`).
-/
namespace ExprModel.Parser

/-- parentheses and `#` are dropped (`.x` is `#.x`) -/
def keepTok (t : Token) : Bool := !(t.is .bracket "(" || t.is .bracket ")" || t.is .operator "#")

/-- `?.` is read as `.` (a plain link after `?.` is nil-safe anyway) -/
def nv (s : String) : String := if s == "?." then "." else s

/-- token kinds are forgotten: `{a: 1}` is `{"a": 1}` -/
def eraseText (ts : List Token) : List String := (ts.filter keepTok).map fun t => nv t.value

/-- no `?:` and no trailing comma -/
def altFree : List Token → Bool
  | a :: b :: rest =>
    !(a.is .operator "?" && b.is .operator ":") &&
    !(a.is .operator "," && (b.is .bracket "]" || b.is .bracket "}")) && altFree (b :: rest)
  | _ => true

def numbersPlain (cfg : Cfg) (sh : NumShow) (ts : List Token) : Prop :=
  ∀ t ∈ ts, t.kind = .number →
    (∃ n : Nat, cfg.num t.value = some (.int n) ∧ t.value = sh.showInt n) ∨
    (∃ b, cfg.num t.value = some (.float b) ∧ t.value = sh.showFloat b)

theorem eraseText_append (a b : List Token) : eraseText (a ++ b) = eraseText a ++ eraseText b := by
  simp [eraseText, List.filter_append]

theorem eraseText_cons_keep {t : Token} (h : keepTok t = true) (ts : List Token) :
    eraseText (t :: ts) = nv t.value :: eraseText ts := by
  simp [eraseText, h]

theorem eraseText_cons_drop {t : Token} (h : keepTok t = false) (ts : List Token) :
    eraseText (t :: ts) = eraseText ts := by
  simp [eraseText, h]

@[simp] theorem eraseText_nil : eraseText [] = [] := rfl

variable (sh : NumShow)

mutual
/-- The `eraseText` of the printed tree, computed on the tree (`flat_pr'`).  `nv` is applied to names, strings,
    operators and numbers alike because `eraseText` maps it over every kept token whatever its kind; a pointer
    contributes nothing because `keepTok` drops `#`. -/
def flat : Node → List String
  | .nil _ => ["nil"]
  | .bool _ b => [if b then "true" else "false"]
  | .int _ v => [nv (sh.showInt v.toNat)]
  | .float _ b => [nv (sh.showFloat b)]
  | .str _ s => [nv s]
  | .ident _ n _ => [nv n]
  | .pointer _ => []
  | .const _ _ => []
  | .unary _ op x => nv op :: flat x
  | .binary _ op l r => flat l ++ nv op :: flat r
  | .matches _ _ l r => flat l ++ "matches" :: flat r
  | .cond _ c a b => flat c ++ "?" :: (flat a ++ ":" :: flat b)
  | .prop _ x name _ => flat x ++ [".", nv name]
  | .method _ x name args _ => flat x ++ "." :: nv name :: flatL args
  | .index _ x i => flat x ++ "[" :: (flat i ++ ["]"])
  | .slice _ x fr to => flat x ++ "[" :: (flatO fr ++ ":" :: (flatO to ++ ["]"]))
  | .func _ name args _ => nv name :: flatL args
  | .builtin _ name args => nv name :: flatB args
  | .closure _ x => "{" :: (flat x ++ ["}"])
  | .array _ xs => "[" :: (flatL xs ++ ["]"])
  | .map _ ps => "{" :: (flatP ps ++ ["}"])
  | .pair _ k v => flat k ++ ":" :: flat v
def flatL : List Node → List String
  | [] => []
  | [a] => flat a
  | a :: b :: rest => flat a ++ "," :: flatL (b :: rest)
def flatB : List Node → List String
  | [a] => flat a
  | [a, c] => flat a ++ "," :: flat c
  | _ => []
def flatO : Option Node → List String
  | none => []
  | some e => flat e
def flatP : List Node → List String
  | [] => []
  | [p] => flat p
  | p :: q :: rest => flat p ++ "," :: flatP (q :: rest)
end

/-- a map literal's entries are laid out like any other list (`.pair` itself writes `key : value`) -/
theorem flatP_eq_flatL : ∀ ps : List Node, flatP sh ps = flatL sh ps
  | [] => by simp only [flatP, flatL]
  | [p] => by simp only [flatP, flatL]
  | p :: q :: rest => by simp only [flatP, flatL, flatP_eq_flatL (q :: rest)]

def noEof (ts : List Token) : Prop := ∀ t ∈ ts, t.kind ≠ .eof

/-- "consumed": `ts'` is what is left of `ts` after a prefix with text `w` and no EOF token (`split_at_eof` then
    finds the prefix to be everything before the final EOF) -/
def Cons (ts ts' : List Token) (w : List String) : Prop :=
  ∃ pre, ts = pre ++ ts' ∧ eraseText pre = w ∧ noEof pre

theorem Cons.refl (ts : List Token) : Cons ts ts [] := ⟨[], rfl, rfl, fun _ h => by cases h⟩

theorem Cons.trans {ts ts1 ts2 : List Token} {w1 w2 : List String} (h1 : Cons ts ts1 w1) (h2 : Cons ts1 ts2 w2) :
    Cons ts ts2 (w1 ++ w2) := by
  obtain ⟨p1, rfl, rfl, n1⟩ := h1
  obtain ⟨p2, rfl, rfl, n2⟩ := h2
  refine ⟨p1 ++ p2, by simp, eraseText_append _ _, ?_⟩
  intro t ht
  rcases List.mem_append.mp ht with h | h
  · exact n1 t h
  · exact n2 t h

theorem Cons.suffix {ts ts' : List Token} {w : List String} (h : Cons ts ts' w) : ts' <:+ ts := by
  obtain ⟨p, rfl, _, _⟩ := h; exact List.suffix_append _ _

theorem Cons.step_keep {t : Token} {ts1 : List Token} (hk : keepTok t = true) (he : t.kind ≠ .eof) :
    Cons (t :: ts1) ts1 [nv t.value] :=
  ⟨[t], rfl, by simp [eraseText_cons_keep hk], fun x hx => by simp at hx; subst hx; exact he⟩

theorem Cons.step_drop {t : Token} {ts1 : List Token} (hk : keepTok t = false) (he : t.kind ≠ .eof) :
    Cons (t :: ts1) ts1 [] :=
  ⟨[t], rfl, by simp [eraseText_cons_drop hk], fun x hx => by simp at hx; subst hx; exact he⟩

theorem Cons.cast {ts ts' : List Token} {w w' : List String} (h : Cons ts ts' w) (hw : w = w') : Cons ts ts' w' :=
  hw ▸ h

theorem altFree_suffix : ∀ (pre ts : List Token), altFree (pre ++ ts) = true → altFree ts = true
  | [], _, h => h
  | [a], ts, h => by
    cases ts with
    | nil => rfl
    | cons b rest =>
      simp only [List.singleton_append, altFree, Bool.and_eq_true] at h
      exact h.2
  | a :: b :: pre, ts, h => by
    have : altFree (b :: (pre ++ ts)) = true := by
      simp only [List.cons_append, altFree, Bool.and_eq_true] at h
      exact h.2
    exact altFree_suffix (b :: pre) ts this

end ExprModel.Parser
