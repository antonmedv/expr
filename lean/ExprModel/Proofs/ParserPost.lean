import ExprModel.Proofs.ParserZero
/-
`Post Q r`: a successful parser result `r` satisfies `Q`; nothing is claimed of an error.

Every fact about the parser has the same form: a predicate on results (`Post` at some `Q`: `LocGood` under a
premise on the input, `Bnd` together with `≠ .fuel`, `CanAt` and `EraAt` directly; for two runs side by side the
congruences `Sim`, `Le`), a structure `…At f` with one field per parser function
(`expr loop prim cond pexp ident clos arr arrL map mapL post args argsL`) proved by induction on the fuel, each case
following its function, and a corollary about `parseFuel` / `parse`.  The zero case of each induction rewrites
with `parser_zero` (ParserZero, imported here for the modules downstream).
-/
namespace ExprModel.Parser

theorem kind_of_is {t : Token} {k : TokKind} {v : String} (h : t.is k v = true) : t.kind = k ∧ t.value = v := by
  simpa [Token.is] using h

theorem binOp_lookup {cfg : Cfg} {t : Token} {x : Nat × Assoc} (h : binOp cfg t = some x) :
    t.kind = .operator ∧ cfg.tb.binary.lookup t.value = some x := by
  unfold binOp at h
  split at h
  · next hk => exact ⟨by simpa using hk, h⟩
  · cases h

theorem unOp_lookup {cfg : Cfg} {t : Token} {pu : Nat} (h : unOp cfg t = some pu) :
    t.kind = .operator ∧ (cfg.tb.unary.lookup t.value).isSome = true := by
  unfold unOp at h
  split at h
  · next hk =>
    refine ⟨by simpa using hk, ?_⟩
    cases hl : cfg.tb.unary.lookup t.value with
    | none => rw [hl] at h; cases h
    | some _ => rfl
  · cases h

def Post {α : Type} (Q : α → List Token → Prop) (r : Res α) : Prop := ∀ a ts, r = .ok a ts → Q a ts

namespace Post
variable {α β : Type} {Q : α → List Token → Prop}

theorem ok {a : α} {ts : List Token} (h : Q a ts) : Post Q (.ok a ts) := by
  intro a' ts' he; cases he; exact h

theorem err {e : Err} : Post Q (.err e) := by
  intro a' ts' he; cases he

theorem fuel : Post Q .fuel := by
  intro a' ts' he; cases he

theorem bind {Q1 : α → List Token → Prop} {Q : β → List Token → Prop} {A : Res α}
    {k : α → List Token → Res β} (h1 : Post Q1 A) (h2 : ∀ x ts1, Q1 x ts1 → Post Q (k x ts1)) :
    Post Q (A.bind k) := by
  cases A with
  | ok x ts1 => exact h2 x ts1 (h1 x ts1 rfl)
  | err e => exact err
  | fuel => exact fuel

theorem ite' {c : Prop} [Decidable c] {A B : Res α} (hA : c → Post Q A) (hB : ¬c → Post Q B) :
    Post Q (if c then A else B) := by
  split
  · next h => exact hA h
  · next h => exact hB h

theorem ite {c : Prop} [Decidable c] {A B : Res α} (hA : Post Q A) (hB : Post Q B) :
    Post Q (if c then A else B) :=
  ite' (fun _ => hA) (fun _ => hB)

theorem mono {Q' : α → List Token → Prop} {r : Res α} (h : Post Q r) (hq : ∀ a ts, Q a ts → Q' a ts) :
    Post Q' r := fun a ts he => hq a ts (h a ts he)

end Post

theorem post_next {ts : List Token} : Post (fun _ ts1 => ts = cur ts :: ts1) (next ts) := by
  unfold next
  split
  · exact Post.ok rfl
  · exact Post.err

theorem post_expect {k : TokKind} {v : String} {ts : List Token} :
    Post (fun _ ts1 => ts = cur ts :: ts1 ∧ (cur ts).is k v = true) (expect k v ts) := by
  unfold expect
  exact Post.ite' (fun h => post_next.mono (fun _ _ hq => ⟨hq, h⟩)) (fun _ => Post.err)

theorem post_sep {first : Bool} {ts : List Token} :
    Post (fun _ ts1 => (first = true ∧ ts1 = ts) ∨
        (first = false ∧ ts = cur ts :: ts1 ∧ (cur ts).is .operator "," = true))
      (if first = true then Res.ok () ts else expect .operator "," ts) := by
  split
  · next h => exact Post.ok (Or.inl ⟨h, rfl⟩)
  · next h =>
    refine post_expect.mono ?_
    intro _ ts1 ⟨he, hc⟩
    exact Or.inr ⟨by simpa using h, he, hc⟩

end ExprModel.Parser
