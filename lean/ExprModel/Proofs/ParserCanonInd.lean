import ExprModel.Syntax.Printer
/-
What `canon` says at a builtin, `canonBaseWith` at the object of a link, `canonList` and `canonPairs` of their
members; then induction over canonical trees: one case for each node kind `canon` admits, none for the shapes it
rejects (`CanonInd`).
-/
namespace ExprModel.Parser

variable (cfg : Cfg)

variable {cfg} in
/-- The one place `canon` is taken apart at a builtin: the arity in the table decides the shape of the argument
    list (`[a]`, or `[a, closure]` with the closure body one level deeper). -/
theorem canon_builtin {d : Nat} {mt : Meta} {name : String} {args : List Node}
    (h : canon cfg d (.builtin mt name args) = true) :
    inv mt = true ∧
    ((∃ a, args = [a] ∧ cfg.tb.builtins.lookup name = some 1 ∧ canon cfg d a = true) ∨
     (∃ a mc b, args = [a, .closure mc b] ∧ cfg.tb.builtins.lookup name = some 2 ∧ canon cfg d a = true ∧
        inv mc = true ∧ canon cfg (d+1) b = true)) := by
  unfold canon at h
  simp only [Bool.and_eq_true] at h
  refine ⟨h.1, ?_⟩
  have h2 := h.2
  split at h2
  · next ar a hl =>
    simp only [Bool.and_eq_true, beq_iff_eq] at h2
    exact .inl ⟨a, rfl, h2.1 ▸ hl, h2.2⟩
  · next ar a mc b hl =>
    simp only [Bool.and_eq_true, beq_iff_eq] at h2
    exact .inr ⟨a, mc, b, rfl, h2.1.1.1 ▸ hl, h2.1.1.2, h2.1.2, h2.2⟩
  · cases h2

theorem canon_builtin_nil (d : Nat) (m : Meta) (n : String) : canon cfg d (.builtin m n []) = false :=
  Bool.eq_false_iff.mpr fun h => by
    obtain ⟨_, ⟨_, he, _⟩ | ⟨_, _, _, he, _⟩⟩ := canon_builtin h <;> cases he

theorem canon_builtin_many (d : Nat) (m : Meta) (n : String) (a b c : Node) (r : List Node) :
    canon cfg d (.builtin m n (a :: b :: c :: r)) = false :=
  Bool.eq_false_iff.mpr fun h => by
    obtain ⟨_, ⟨_, he, _⟩ | ⟨_, _, _, he, _⟩⟩ := canon_builtin h <;> cases he

theorem canon_builtin_one {d : Nat} {m : Meta} {n : String} {a : Node} (h : canon cfg d (.builtin m n [a]) = true) :
    cfg.tb.builtins.lookup n = some 1 ∧ canon cfg d a = true := by
  obtain ⟨_, ⟨_, he, hl, hc⟩ | ⟨_, _, _, he, _⟩⟩ := canon_builtin h
  · cases he; exact ⟨hl, hc⟩
  · cases he

theorem canon_builtin_two {d : Nat} {m : Meta} {n : String} {a c : Node}
    (h : canon cfg d (.builtin m n [a, c]) = true) :
    ∃ mc b, c = .closure mc b ∧ canon cfg d a = true ∧ canon cfg (d+1) b = true := by
  obtain ⟨_, ⟨_, he, _⟩ | ⟨_, mc, b, he, _, ha, _, hb⟩⟩ := canon_builtin h
  · cases he
  · cases he; exact ⟨mc, b, rfl, ha, hb⟩

theorem canonBaseWith_split (x : Node) :
    (∃ m n ns, x = .ident m n ns) ∨ ∀ r s, canonBaseWith r s x = r := by
  cases x <;> first
    | exact Or.inr fun _ _ => rfl
    | exact Or.inl ⟨_, _, _, rfl⟩

section
variable {cfg}

/-- what `canonBaseWith` admits beyond `canon`: the nil-safe identifier -/
theorem canonBase_cases {d : Nat} {s : Bool} {x : Node} (h : canonBaseWith (canon cfg d x) s x = true) :
    canon cfg d x = true ∨ ∃ mi n, x = .ident mi n true := by
  cases x with
  | ident mi n ns =>
    cases ns
    · simp only [canonBaseWith, Bool.and_eq_true] at h
      exact .inl (show (inv mi && !false && !reserved n) = true by simp [h.1.1, h.1.2])
    · exact .inr ⟨mi, n, rfl⟩
  | _ => exact .inl h

theorem canonBase_weaken {r s : Bool} {x : Node} (h : canonBaseWith r s x = true) :
    canonBaseWith r true x = true := by
  cases x with
  | ident _ _ _ =>
    simp only [canonBaseWith, Bool.and_eq_true] at h ⊢
    exact ⟨h.1, by simp⟩
  | _ => exact h

theorem canonBase_of_canon {d : Nat} {x : Node} (h : canon cfg d x = true) :
    canonBaseWith (canon cfg d x) true x = true := by
  cases x with
  | ident mi n ns =>
    change (inv mi && !ns && !reserved n) = true at h
    simp only [Bool.and_eq_true] at h
    simp [canonBaseWith, h.1.1, h.2]
  | _ => exact h

theorem canonList_cons {d : Nat} {a : Node} {rest : List Node} :
    canonList cfg d (a :: rest) = true ↔ canon cfg d a = true ∧ canonList cfg d rest = true := by
  simp [canonList]

theorem canonList_mem {d : Nat} : ∀ {xs : List Node}, canonList cfg d xs = true → ∀ a ∈ xs, canon cfg d a = true
  | [], _, _, hx => nomatch hx
  | _ :: _, hc, x, hx => by
    obtain ⟨ha, hr⟩ := canonList_cons.mp hc
    rcases List.mem_cons.mp hx with rfl | hx
    · exact ha
    · exact canonList_mem hr x hx

theorem canonPairs_mem {d : Nat} {l : Loc} : ∀ {ps : List Node}, canonPairs cfg d l ps = true →
    ∀ p ∈ ps, ∃ k v, p = .pair (mk l) k v ∧ canon cfg d k = true ∧ canon cfg d v = true
  | [], _, _, hx => nomatch hx
  | p :: ps, hc, x, hx => by
    cases p with
    | pair pm k v =>
      simp only [canonPairs, Bool.and_eq_true, decide_eq_true_eq] at hc
      obtain ⟨⟨⟨hpm, hck⟩, hcv⟩, hcr⟩ := hc
      subst hpm
      rcases List.mem_cons.mp hx with rfl | hx
      · exact ⟨k, v, rfl, hck, hcv⟩
      · exact canonPairs_mem hcr x hx
    | _ => simp [canonPairs] at hc

end

/-- `P` for expressions, `PL` for argument and element lists, `PO` for slice bounds, `PP` for map entries.  The
    object of a link may be a nil-safe identifier, which `canon` rejects elsewhere: the identifier case is about
    all identifiers.  A case hands over, besides the induction hypotheses, only the table lookups: what `flatInd`
    and `goodInd` need of `canon` at a node. -/
structure CanonInd (P : Node → Prop) (PL : List Node → Prop) (PO : Option Node → Prop)
    (PP : List Node → Prop) : Prop where
  nil : ∀ m, P (.nil m)
  bool : ∀ m b, P (.bool m b)
  int : ∀ m v, P (.int m v)
  float : ∀ m b, P (.float m b)
  str : ∀ m s, P (.str m s)
  ident : ∀ m n ns, P (.ident m n ns)
  pointer : ∀ m, P (.pointer m)
  unary : ∀ m op x, (cfg.tb.unary.lookup op).isSome = true → P x → P (.unary m op x)
  binary : ∀ m op l r, (cfg.tb.binary.lookup op).isSome = true → P l → P r → P (.binary m op l r)
  «matches» : ∀ m h l r, P l → P r → P (.matches m h l r)
  cond : ∀ m c a b, P c → P a → P b → P (.cond m c a b)
  prop : ∀ m x name s, P x → P (.prop m x name s)
  method : ∀ m x name args s, P x → PL args → P (.method m x name args s)
  index : ∀ m x i, P x → P i → P (.index m x i)
  slice : ∀ m x fr to, P x → PO fr → PO to → P (.slice m x fr to)
  func : ∀ m n args fast, PL args → P (.func m n args fast)
  builtin1 : ∀ m n a, cfg.tb.builtins.lookup n = some 1 → P a → P (.builtin m n [a])
  builtin2 : ∀ m n a mc b, P a → P b → P (.builtin m n [a, .closure mc b])
  array : ∀ m xs, PL xs → P (.array m xs)
  map : ∀ m ps, PP ps → P (.map m ps)
  lnil : PL []
  lcons : ∀ a as, P a → PL as → PL (a :: as)
  onone : PO none
  osome : ∀ e, P e → PO (some e)
  pnil : PP []
  pcons : ∀ m k v ps, P k → P v → PP ps → PP (.pair m k v :: ps)

variable {cfg} {P : Node → Prop} {PL : List Node → Prop} {PO : Option Node → Prop} {PP : List Node → Prop}

namespace CanonInd

theorem base (H : CanonInd cfg P PL PO PP) {x : Node} {d : Nat} {s : Bool}
    (ih : canon cfg d x = true → P x) (h : canonBaseWith (canon cfg d x) s x = true) : P x := by
  rcases canonBaseWith_split x with ⟨m, n, ns, rfl⟩ | hx
  · exact H.ident m n ns
  · exact ih ((hx _ _).symm.trans h)

mutual
theorem node (H : CanonInd cfg P PL PO PP) : (t : Node) → (d : Nat) → canon cfg d t = true → P t
  | .nil m, _, _ => H.nil m
  | .bool m b, _, _ => H.bool m b
  | .int m v, _, _ => H.int m v
  | .float m b, _, _ => H.float m b
  | .str m s, _, _ => H.str m s
  | .ident m n ns, _, _ => H.ident m n ns
  | .pointer m, _, _ => H.pointer m
  | .const _ _, _, h | .closure _ _, _, h | .pair _ _ _, _, h => nomatch h
  | .unary m op x, d, h => by
    simp only [canon, Bool.and_eq_true] at h
    exact H.unary m op x h.1.2 (H.node x d h.2)
  | .binary m op l r, d, h => by
    simp only [canon, Bool.and_eq_true] at h
    exact H.binary m op l r h.1.1.1.2 (H.node l d h.1.2) (H.node r d h.2)
  | .matches m hs l r, d, h => by
    simp only [canon, Bool.and_eq_true] at h
    exact H.matches m hs l r (H.node l d h.1.2) (H.node r d h.2)
  | .cond m c a b, d, h => by
    simp only [canon, Bool.and_eq_true] at h
    exact H.cond m c a b (H.node c d h.1.1.2) (H.node a d h.1.2) (H.node b d h.2)
  | .prop m x name s, d, h => by
    simp only [canon, Bool.and_eq_true] at h
    exact H.prop m x name s (H.base (H.node x d) h.2)
  | .method m x name args s, d, h => by
    simp only [canon, Bool.and_eq_true] at h
    exact H.method m x name args s (H.base (H.node x d) h.1.2) (H.list args d h.2)
  | .index m x i, d, h => by
    simp only [canon, Bool.and_eq_true] at h
    exact H.index m x i (H.base (H.node x d) h.1.2) (H.node i d h.2)
  | .slice m x fr to, d, h => by
    simp only [canon, Bool.and_eq_true] at h
    exact H.slice m x fr to (H.base (H.node x d) h.1.1.2) (H.opt fr d h.1.2) (H.opt to d h.2)
  | .func m n args fast, d, h => by
    simp only [canon, Bool.and_eq_true] at h
    exact H.func m n args fast (H.list args d h.2)
  | .array m xs, d, h => by
    simp only [canon, Bool.and_eq_true] at h
    exact H.array m xs (H.list xs d h.2)
  | .map m ps, d, h => by
    simp only [canon, Bool.and_eq_true] at h
    exact H.map m ps (H.pairs ps d m.loc h.2)
  | .builtin m n [a], d, h =>
    H.builtin1 m n a (canon_builtin_one cfg h).1 (H.node a d (canon_builtin_one cfg h).2)
  | .builtin m n [a, .closure mc b], d, h => by
    obtain ⟨_, _, hc, ha, hb⟩ := canon_builtin_two cfg h
    cases hc
    exact H.builtin2 m n a mc b (H.node a d ha) (H.node b (d+1) hb)
  | .builtin m n [], d, h => by rw [canon_builtin_nil] at h; cases h
  | .builtin m n (_ :: _ :: _ :: _), d, h => by rw [canon_builtin_many] at h; cases h
  -- a second argument that is no closure, constructor by constructor: `cases hc` refutes `c = .closure _ _` only
  -- when the constructor of `c` is known, which a wildcard case would not tell
  | .builtin _ _ [_, .nil _], _, h | .builtin _ _ [_, .ident _ _ _], _, h
  | .builtin _ _ [_, .int _ _], _, h | .builtin _ _ [_, .float _ _], _, h
  | .builtin _ _ [_, .bool _ _], _, h | .builtin _ _ [_, .str _ _], _, h
  | .builtin _ _ [_, .const _ _], _, h | .builtin _ _ [_, .unary _ _ _], _, h
  | .builtin _ _ [_, .binary _ _ _ _], _, h | .builtin _ _ [_, .matches _ _ _ _], _, h
  | .builtin _ _ [_, .prop _ _ _ _], _, h | .builtin _ _ [_, .index _ _ _], _, h
  | .builtin _ _ [_, .slice _ _ _ _], _, h | .builtin _ _ [_, .method _ _ _ _ _], _, h
  | .builtin _ _ [_, .func _ _ _ _], _, h | .builtin _ _ [_, .builtin _ _ _], _, h
  | .builtin _ _ [_, .pointer _], _, h | .builtin _ _ [_, .cond _ _ _ _], _, h
  | .builtin _ _ [_, .array _ _], _, h | .builtin _ _ [_, .map _ _], _, h
  | .builtin _ _ [_, .pair _ _ _], _, h => by
    obtain ⟨_, _, hc, _⟩ := canon_builtin_two cfg h
    cases hc

theorem list (H : CanonInd cfg P PL PO PP) : (xs : List Node) → (d : Nat) → canonList cfg d xs = true → PL xs
  | [], _, _ => H.lnil
  | a :: as, d, h => by
    simp only [canonList, Bool.and_eq_true] at h
    exact H.lcons a as (H.node a d h.1) (H.list as d h.2)

theorem opt (H : CanonInd cfg P PL PO PP) : (o : Option Node) → (d : Nat) → canonOpt cfg d o = true → PO o
  | none, _, _ => H.onone
  | some e, d, h => H.osome e (H.node e d h)

theorem pairs (H : CanonInd cfg P PL PO PP) : (ps : List Node) → (d : Nat) → (l : Loc) →
    canonPairs cfg d l ps = true → PP ps
  | [], _, _, _ => H.pnil
  | .pair m k v :: ps, d, l, h => by
    simp only [canonPairs, Bool.and_eq_true] at h
    exact H.pcons m k v ps (H.node k d h.1.1.2) (H.node v d h.1.2) (H.pairs ps d l h.2)
  | .nil _ :: _, _, _, h | .ident _ _ _ :: _, _, _, h | .int _ _ :: _, _, _, h
  | .float _ _ :: _, _, _, h | .bool _ _ :: _, _, _, h | .str _ _ :: _, _, _, h
  | .const _ _ :: _, _, _, h | .unary _ _ _ :: _, _, _, h | .binary _ _ _ _ :: _, _, _, h
  | .matches _ _ _ _ :: _, _, _, h | .prop _ _ _ _ :: _, _, _, h | .index _ _ _ :: _, _, _, h
  | .slice _ _ _ _ :: _, _, _, h | .method _ _ _ _ _ :: _, _, _, h | .func _ _ _ _ :: _, _, _, h
  | .builtin _ _ _ :: _, _, _, h | .closure _ _ :: _, _, _, h | .pointer _ :: _, _, _, h
  | .cond _ _ _ _ :: _, _, _, h | .array _ _ :: _, _, _, h | .map _ _ :: _, _, _, h => nomatch h
end

end CanonInd

end ExprModel.Parser
