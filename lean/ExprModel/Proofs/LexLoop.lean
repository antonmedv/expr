import ExprModel.Proofs.LexPos
import ExprModel.Proofs.LexUnescape
import ExprModel.Proofs.LexRoot
/-
Token positions (C12), across tokens: one `root` step skips a blank, ends, or is a state function entered after the
first rune (`root_spec_of`: one case per class); of the main loop a successful run is `Laid`, and with more fuel than
runes no error is the fuel running out (`lexLoop_spec`).
-/
namespace ExprModel.Lex

def RootOK (cc : CharClass) (T : LexTables) (L : Loc) (rest : List Char) (st : Step) : Prop :=
  match st with
  | .skip s1 r1 => ∃ c, rest = c :: r1 ∧ cc.isSpace c = true ∧ Fresh s1 (Loc.adv L c) r1
  | .eof t => rest = [] ∧ t.kind = .eof
  | _ => ∃ c cs, rest = c :: cs ∧ cc.isSpace c = false ∧ StepOK cc T L [c] cs st

theorem RootOK.of_stepOK {cc : CharClass} {T L c cs st} (hsp : cc.isSpace c = false)
    (h : StepOK cc T L [c] cs st) : RootOK cc T L (c :: cs) st := by
  cases st with
  | tok t s1 r1 => exact ⟨c, cs, rfl, hsp, h⟩
  | fail e => exact ⟨c, cs, rfl, hsp, h⟩
  | skip _ _ => exact h.elim
  | eof _ => exact h.elim

/-- `hnot`, `hdec` are the only facts about the tables the position invariant needs -/
theorem root_spec_of (cc : CharClass) (T : LexTables) (hnot : T.notWord = "not")
    (hdec : ∀ c, '0' ≤ c ∧ c ≤ '9' → T.decDigits.contains c = true)
    (s : LState) (L : Loc) (rest : List Char) (h : Fresh s L rest) :
    RootOK cc T L rest (root cc T s rest) := by
  cases rest with
  | nil => exact ⟨rfl, rfl⟩
  | cons c cs =>
    have g0 : Good L [] s (c :: cs) := h.good
    have g1 : Good L [c] (s.adv c) cs := good_adv g0
    have gb : Good L [] (s.stay (c :: cs)) (c :: cs) := good_stay g0
    rw [root_cons]
    have hk := rootClass_holds cc T c
    generalize rootClass cc T c = k at hk
    -- every class but `space` is a token that starts with `c`; the arm is unfolded once here, not by every `exact` below
    cases k <;> simp only [rootBranch]
    case space => exact ⟨c, rfl, hk, fresh_ignore g1⟩
    case quote =>
      refine RootOK.of_stepOK hk ?_
      have hs := scanString_ok T c cs .normal _ _ g1
      cases hscan : scanString T c .normal (s.adv c) cs with
      | error e => rw [hscan] at hs; exact hs
      | ok o =>
        rw [hscan] at hs
        obtain ⟨s2, r2⟩ := o
        obtain ⟨w1, e, g2⟩ := hs
        simp only
        cases hun : unescape T s2.text with
        | error m => exact unescape_err _ _ _ hun
        | ok str =>
          exact ⟨w1, e, g2.start, by simp [mkTok],
            Or.inr (Or.inl ⟨rfl, str, by rw [← text_of_good g2]; exact hun, rfl⟩), fresh_ignore g2⟩
    case digit =>
      exact RootOK.of_stepOK hk.1 (stepOK_numberState (ext_scanNumber_digit (w := []) cc (hdec c hk.2) gb))
    case quest =>
      refine RootOK.of_stepOK hk ?_
      cases cs with
      | nil => exact stepOK_emit .operator (by decide) (good_stay g1)
      | cons c2 cs2 =>
        by_cases hdot : (c2 :: cs2).head? = some '.'
        · rw [if_pos hdot]; exact StepOK.cons (stepOK_nilsafeState (good_stay g1))
        · rw [if_neg hdot]; exact stepOK_emit .operator (by decide) (good_stay g1)
    case bracket => exact RootOK.of_stepOK hk (stepOK_emit .bracket (by decide) g1)
    case single => exact RootOK.of_stepOK hk (stepOK_emit .operator (by decide) g1)
    case dbl =>
      exact RootOK.of_stepOK hk
        (StepOK.of_ext (ext_accept T.dblSecond g1) fun w' g => stepOK_emit .operator (by decide) g)
    case dot => exact RootOK.of_stepOK hk (stepOK_dotState (w := []) cc gb)
    case word => exact RootOK.of_stepOK hk.1 (stepOK_identifierState (w := []) cc hnot hk.2 gb)
    case other => exact RootOK.of_stepOK hk (by decide : ("unrecognized" : String) ≠ "fuel")

theorem root_spec (cc : CharClass) (s : LState) (L : Loc) (rest : List Char) (h : Fresh s L rest) :
    RootOK cc LexTables.std L rest (root cc LexTables.std s rest) :=
  root_spec_of cc LexTables.std rfl (fun _ => decDigits_contains) s L rest h

theorem lexLoop_succ (cc : CharClass) (T : LexTables) (f : Nat) (s : LState) (rest : List Char) :
    lexLoop cc T (f + 1) s rest =
      match root cc T s rest with
      | .tok t s1 r1 => (lexLoop cc T f s1 r1).map (t :: ·)
      | .skip s1 r1 => lexLoop cc T f s1 r1
      | .eof t => .ok [t]
      | .fail e => .error e := by rw [lexLoop]; rfl

/-- The tokens lie in the input (which starts at location `L`) one after the other, separated by runs of white
space; each token's location is the position of the first character of its raw text; the last token is EOF, and its
location is not constrained (the lexer puts it at `prev`, the position of the last rune read). -/
inductive Laid (cc : CharClass) (T : LexTables) : Loc → List Char → List Token → Prop
  | eof (L : Loc) (trail : List Char) (t : Token) (hws : ∀ c ∈ trail, cc.isSpace c = true)
      (hk : t.kind = .eof) : Laid cc T L trail [t]
  | tok (L : Loc) (gap raw rest : List Char) (t : Token) (ts : List Token)
      (hws : ∀ c ∈ gap, cc.isSpace c = true) (hne : raw ≠ [])
      (hfirst : ∀ c, raw.head? = some c → cc.isSpace c = false)
      (hk : t.kind ≠ .eof) (hloc : t.loc = advLoc L gap) (htext : TextOf cc T t raw)
      (htail : Laid cc T (advLoc L (gap ++ raw)) rest ts) : Laid cc T L (gap ++ raw ++ rest) (t :: ts)

theorem Laid.cons_space {cc : CharClass} {T L c rest toks} (hc : cc.isSpace c = true)
    (h : Laid cc T (Loc.adv L c) rest toks) : Laid cc T L (c :: rest) toks := by
  generalize hL : Loc.adv L c = L' at h
  cases h with
  | eof _ _ t hws hk =>
    exact Laid.eof L (c :: rest) t (by intro x hx; simp at hx; rcases hx with rfl | hx; exact hc; exact hws x hx) hk
  | tok _ gap raw rest' t ts hws hne hfirst hk hloc htext htail =>
    subst hL
    have := Laid.tok (cc := cc) (T := T) L (c :: gap) raw rest' t ts
      (by intro x hx; simp at hx; rcases hx with rfl | hx; exact hc; exact hws x hx) hne hfirst hk
      (by simpa using hloc) htext (by simpa using htail)
    simpa using this

/-- the induction statement of `lexLoop_spec`.  An error is only known not to be "fuel" when the fuel exceeds the runes
left: each step but the last reads one, so `lexChars`' fuel `|input| + 1` suffices; with less, `lexLoop` does stop on
"fuel", and the clause is empty. -/
def LoopOK (cc : CharClass) (T : LexTables) (L : Loc) (rest : List Char) (fuel : Nat) :
    Except LexErr (List Token) → Prop
  | .ok toks => Laid cc T L rest toks
  | .error e => rest.length < fuel → e.2 ≠ "fuel"

theorem lexLoop_spec (cc : CharClass) (T : LexTables)
    (hroot : ∀ s L rest, Fresh s L rest → RootOK cc T L rest (root cc T s rest)) :
    ∀ (fuel : Nat) (s : LState) (L : Loc) (rest : List Char), Fresh s L rest →
      LoopOK cc T L rest fuel (lexLoop cc T fuel s rest) := by
  intro fuel
  induction fuel with
  | zero => intro s L rest _ h; exact absurd h (Nat.not_lt_zero _)
  | succ f ih =>
    intro s L rest hf
    have hr := hroot s L rest hf
    rw [lexLoop_succ]
    cases hstep : root cc T s rest with
    | tok t s1 r1 =>
      rw [hstep] at hr
      obtain ⟨c, cs, rfl, hsp, w1, rfl, hl, hk, ht, hfr⟩ := hr
      have ih' := ih s1 _ r1 hfr
      simp only
      cases hrec : lexLoop cc T f s1 r1 with
      | error e' =>
        rw [hrec] at ih'
        intro hlen
        refine ih' ?_
        rw [List.length_cons, List.length_append] at hlen
        omega
      | ok ts =>
        rw [hrec] at ih'
        -- with the empty gap, `[] ++ (c :: w1) ++ r1` and `advLoc L []` reduce to what `hr` speaks of
        exact Laid.tok L [] (c :: w1) r1 t ts (fun _ hx => nomatch hx) (List.cons_ne_nil c w1)
          (fun x hx => by cases hx; exact hsp) hk hl ht ih'
    | skip s1 r1 =>
      rw [hstep] at hr
      obtain ⟨c, e, hc, hfr⟩ := hr
      subst e
      have ih' := ih s1 _ r1 hfr
      simp only
      cases hrec : lexLoop cc T f s1 r1 with
      | error e' =>
        rw [hrec] at ih'
        intro hlen
        exact ih' (by rw [List.length_cons] at hlen; omega)
      | ok ts =>
        rw [hrec] at ih'
        exact Laid.cons_space hc ih'
    | eof t =>
      rw [hstep] at hr
      obtain ⟨e, hk⟩ := hr
      subst e
      exact Laid.eof L [] t (by simp) hk
    | fail e =>
      rw [hstep] at hr
      obtain ⟨_, _, _, _, hr⟩ := hr
      exact fun _ => hr

theorem lexLoop_laid (cc : CharClass) (fuel : Nat) (s : LState) (L : Loc) (rest : List Char) (toks : List Token)
    (hf : Fresh s L rest) (h : lexLoop cc LexTables.std fuel s rest = .ok toks) : Laid cc LexTables.std L rest toks := by
  have := lexLoop_spec cc LexTables.std (root_spec cc) fuel s L rest hf
  rwa [h] at this

theorem fresh_init (input : List Char) : Fresh {} ⟨1, 0⟩ input := ⟨rfl, rfl, fun _ => rfl⟩

theorem lexChars_laid (cc : CharClass) (input : List Char) (toks : List Token)
    (h : lexChars cc LexTables.std input = .ok toks) : Laid cc LexTables.std ⟨1, 0⟩ input toks :=
  lexLoop_laid cc _ _ _ _ _ (fresh_init input) h

theorem Laid.positions {cc : CharClass} {T L input toks} (h : Laid cc T L input toks) :
    ∀ t ∈ toks, t.kind ≠ .eof → ∃ pre raw post, input = pre ++ raw ++ post ∧ raw ≠ [] ∧
      (∀ c, raw.head? = some c → cc.isSpace c = false) ∧ t.loc = advLoc L pre ∧ TextOf cc T t raw := by
  induction h with
  | eof L trail t hws hk => intro t' ht' hk'; simp at ht'; subst ht'; exact absurd hk hk'
  | tok L gap raw rest t ts hws hne hfirst hk hloc htext htail ih =>
    intro t' ht' hk'
    simp only [List.mem_cons] at ht'
    rcases ht' with rfl | ht'
    · exact ⟨gap, raw, rest, rfl, hne, hfirst, hloc, htext⟩
    · obtain ⟨pre, raw', post, e, hne', hf', hl', htx'⟩ := ih t' ht' hk'
      exact ⟨gap ++ raw ++ pre, raw', post, by rw [e]; simp [List.append_assoc], hne', hf',
        by rw [hl']; simp [advLoc_append], htx'⟩

theorem Laid.last_eof {cc : CharClass} {T L input toks} (h : Laid cc T L input toks) :
    ∃ ts t, toks = ts ++ [t] ∧ t.kind = .eof ∧ ∀ x ∈ ts, x.kind ≠ .eof := by
  induction h with
  | eof L trail t hws hk => exact ⟨[], t, rfl, hk, by simp⟩
  | tok L gap raw rest t ts hws hne hfirst hk hloc htext htail ih =>
    obtain ⟨ts', t', e, hk', hall⟩ := ih
    exact ⟨t :: ts', t', by simp [e], hk', by
      intro x hx; simp only [List.mem_cons] at hx; rcases hx with rfl | hx; exact hk; exact hall x hx⟩

theorem lexLoop_no_fuel (cc : CharClass) (fuel : Nat) (s : LState) (L : Loc) (rest : List Char) (e : LexErr)
    (hl : rest.length < fuel) (hf : Fresh s L rest) (h : lexLoop cc LexTables.std fuel s rest = .error e) :
    e.2 ≠ "fuel" := by
  have := lexLoop_spec cc LexTables.std (root_spec cc) fuel s L rest hf
  rw [h] at this
  exact this hl

theorem lexChars_no_fuel (cc : CharClass) (input : List Char) (e : LexErr)
    (h : lexChars cc LexTables.std input = .error e) : e.2 ≠ "fuel" :=
  lexLoop_no_fuel cc _ _ _ _ _ (Nat.lt_succ_self _) (fresh_init input) h

end ExprModel.Lex
