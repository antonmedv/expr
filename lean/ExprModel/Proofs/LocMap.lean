import ExprModel.Api.LocMap
/-
For C13: the node-stack discipline of compile/emit on the abstract scripts of `Api/LocMap.lean` (`compile_spec`: the
writes are those of the reference `expScript`, the stack is left as found); the location table is sorted by offset, so
a lookup returns what was written there (`report_of_sorted`).  `Sorted`, `report` and `report_of_sorted` serve the
compiler model's own table as well (`locTable_sorted`, `Proofs/CompileLocs.lean`), whose instructions carry their location.
-/
namespace ExprModel.LocMap

mutual
theorem compile_spec : ∀ (s : Script) (st : St),
    compile s st = { pc := (expScript s st.pc).2, nodes := st.nodes, locs := st.locs ++ (expScript s st.pc).1 }
  | .node loc steps, st => by
    rw [compile, expScript]
    have := runSteps_spec loc steps { st with nodes := loc :: st.nodes } rfl
    simp only [this, List.tail_cons]
/-- `st.nodes.head? = some loc`: the top of the node stack is the node whose steps are being run -/
theorem runSteps_spec : ∀ (loc : Loc) (steps : List Step) (st : St), st.nodes.head? = some loc →
    runSteps steps st =
      { pc := (expSteps loc steps st.pc).2, nodes := st.nodes, locs := st.locs ++ (expSteps loc steps st.pc).1 }
  | loc, [], st, _ => by simp [runSteps, expSteps]
  | loc, s :: ss, st, h => by
    rw [runSteps, expSteps]
    have h1 := runStep_spec loc s st h
    rw [h1]
    have h2 := runSteps_spec loc ss
      { pc := (expStep loc s st.pc).2, nodes := st.nodes, locs := st.locs ++ (expStep loc s st.pc).1 } h
    rw [h2]
    simp [List.append_assoc]
theorem runStep_spec : ∀ (loc : Loc) (s : Step) (st : St), st.nodes.head? = some loc →
    runStep s st =
      { pc := (expStep loc s st.pc).2, nodes := st.nodes, locs := st.locs ++ (expStep loc s st.pc).1 }
  | loc, .emit k, st, h => by simp [runStep, emit, expStep, h]
  | loc, .sub s, st, _ => by rw [runStep, expStep]; exact compile_spec s st
end

def Sorted (lo : Nat) (xs : List (Nat × Loc)) (hi : Nat) : Prop :=
  lo ≤ hi ∧ (∀ p ∈ xs, lo ≤ p.1 ∧ p.1 < hi) ∧ xs.Pairwise (fun a b => a.1 < b.1)

theorem Sorted.append {a b c : Nat} {xs ys : List (Nat × Loc)} (h1 : Sorted a xs b) (h2 : Sorted b ys c) :
    Sorted a (xs ++ ys) c := by
  obtain ⟨l1, m1, p1⟩ := h1
  obtain ⟨l2, m2, p2⟩ := h2
  refine ⟨Nat.le_trans l1 l2, ?_, ?_⟩
  · intro p hp
    rcases List.mem_append.mp hp with h | h
    · have := m1 p h; omega
    · have := m2 p h; omega
  · rw [List.pairwise_append]
    refine ⟨p1, p2, ?_⟩
    intro x hx y hy
    have := m1 x hx; have := m2 y hy; omega

theorem Sorted.singleton {pc hi : Nat} (h : pc < hi) (l : Loc) : Sorted pc [(pc, l)] hi :=
  ⟨Nat.le_of_lt h, fun p hp => by rw [List.mem_singleton.1 hp]; exact ⟨Nat.le_refl _, h⟩, List.pairwise_singleton _ _⟩

mutual
theorem expScript_sorted : ∀ (s : Script) (pc : Nat), Sorted pc (expScript s pc).1 (expScript s pc).2
  | .node loc steps, pc => by rw [expScript]; exact expSteps_sorted loc steps pc
theorem expSteps_sorted : ∀ (loc : Loc) (steps : List Step) (pc : Nat),
    Sorted pc (expSteps loc steps pc).1 (expSteps loc steps pc).2
  | _, [], pc => by simp [expSteps, Sorted]
  | loc, s :: ss, pc => by
    rw [expSteps]
    exact (expStep_sorted loc s pc).append (expSteps_sorted loc ss _)
theorem expStep_sorted : ∀ (loc : Loc) (s : Step) (pc : Nat), Sorted pc (expStep loc s pc).1 (expStep loc s pc).2
  | loc, .emit k, pc => by rw [expStep]; exact Sorted.singleton (by omega) loc
  | _, .sub s, pc => by rw [expStep]; exact expScript_sorted s pc
end

theorem lookup_of_mem_distinct (xs : List (Nat × Loc)) (h : xs.Pairwise (fun a b => a.1 ≠ b.1)) (k : Nat) (l : Loc)
    (hm : (k, l) ∈ xs) : xs.lookup k = some l := by
  induction xs with
  | nil => cases hm
  | cons x xs ih =>
    obtain ⟨k', l'⟩ := x
    rw [List.pairwise_cons] at h
    rcases List.mem_cons.mp hm with e | e
    · cases e; simp [List.lookup]
    · have hne : k' ≠ k := h.1 (k, l) e
      have : (k == k') = false := by simpa using fun e => hne e.symm
      simp only [List.lookup, this]
      exact ih h.2 e

theorem report_of_sorted {xs : List (Nat × Loc)} (hs : xs.Pairwise (fun a b => a.1 < b.1)) {k : Nat} {l : Loc}
    (hm : (k, l) ∈ xs) : report xs k = l := by
  have hd : xs.reverse.Pairwise (fun a b => a.1 ≠ b.1) :=
    List.pairwise_reverse.2 (hs.imp fun hab => Nat.ne_of_gt hab)
  unfold report
  rw [lookup_of_mem_distinct _ hd k l (List.mem_reverse.2 hm)]

end ExprModel.LocMap
