import ExprModel.Proofs.ParserEraseText
import ExprModel.Proofs.ParserPost
/-
The accepted token lists are printings, the parser's side: by induction on the fuel, the text of the tokens
each parser function consumed is the `flat` text of the tree it returns (`EraAt`).
-/
namespace ExprModel.Parser

variable (cfg : Cfg) (sh : NumShow)

/-- `#` is no operator of the tables: `keepTok` drops every `#` token, so an operator `#` would vanish from the text -/
structure EraHyp (cfg : Cfg) : Prop where
  bin_hash : cfg.tb.binary.lookup "#" = none
  un_hash : cfg.tb.unary.lookup "#" = none

/-- the conditions on the input that the theorem is stated under, closed under taking suffixes -/
def Plain (ts : List Token) : Prop := altFree ts = true ∧ numbersPlain cfg sh ts

variable {cfg sh} in
theorem Plain.of_cons {ts ts' : List Token} {w : List String} (h : Plain cfg sh ts) (hc : Cons ts ts' w) :
    Plain cfg sh ts' := by
  obtain ⟨pre, rfl, _, _⟩ := hc
  exact ⟨altFree_suffix pre ts' h.1, fun t ht => h.2 t (List.mem_append_right _ ht)⟩

theorem keep_of_operator {t : Token} (hk : t.kind = .operator) (hv : t.value ≠ "#") : keepTok t = true := by
  simp [keepTok, Token.is, hk, hv]

theorem keep_of_plain_kind {t : Token} (h1 : t.kind ≠ .operator) (h2 : t.kind ≠ .bracket) : keepTok t = true := by
  simp [keepTok, Token.is, h1, h2]

theorem keep_of_value {t : Token} (h1 : t.value ≠ "(") (h2 : t.value ≠ ")") (h3 : t.value ≠ "#") : keepTok t = true := by
  simp [keepTok, Token.is, h1, h2, h3]

theorem cons_of_next {ts ts1 : List Token} (he : ts = cur ts :: ts1) (hk : keepTok (cur ts) = true)
    (hne : (cur ts).kind ≠ .eof) : Cons ts ts1 [nv (cur ts).value] := by
  have := Cons.step_keep (t := cur ts) (ts1 := ts1) hk hne
  rwa [← he] at this

theorem cons_of_next_drop {ts ts1 : List Token} (he : ts = cur ts :: ts1) (hk : keepTok (cur ts) = false)
    (hne : (cur ts).kind ≠ .eof) : Cons ts ts1 [] := by
  have := Cons.step_drop (t := cur ts) (ts1 := ts1) hk hne
  rwa [← he] at this

/-- a kept operator or bracket with a known spelling: `hk`, `hv` are decided for the literal `k`, `v` at each use.
    They fail for `(` and `)`, which are dropped: `cons_of_paren`. -/
theorem cons_of_is {ts ts1 : List Token} {k : TokKind} {v : String} (he : ts = cur ts :: ts1)
    (his : (cur ts).is k v = true) (hk : k = .operator ∨ k = .bracket := by decide)
    (hv : v ≠ "(" ∧ v ≠ ")" ∧ v ≠ "#" := by decide) : Cons ts ts1 [nv v] := by
  obtain ⟨hkind, hval⟩ := kind_of_is his
  rw [← hval] at hv ⊢
  exact cons_of_next he (keep_of_value hv.1 hv.2.1 hv.2.2) (by rw [hkind]; rcases hk with rfl | rfl <;> decide)

theorem cons_of_paren {ts ts1 : List Token} {v : String} (he : ts = cur ts :: ts1)
    (his : (cur ts).is .bracket v = true) (hv : v = "(" ∨ v = ")") : Cons ts ts1 [] := by
  obtain ⟨hkind, hval⟩ := kind_of_is his
  refine cons_of_next_drop he ?_ (by rw [hkind]; decide)
  rcases hv with rfl | rfl <;> simp [keepTok, Token.is, hkind, hval]

theorem altFree_quest_colon {ts ts1 : List Token} (he : ts = cur ts :: ts1)
    (h1 : (cur ts).is .operator "?" = true) (h2 : (cur ts1).is .operator ":" = true) : altFree ts = false := by
  cases ts1 with
  | nil => simp [cur, eofTok, Token.is] at h2
  | cons b rest =>
    rw [he]
    simp only [cur] at h2
    simp only [altFree, h1, h2, Bool.and_self, Bool.not_true, Bool.false_and]

theorem altFree_comma_close {ts ts1 : List Token} (he : ts = cur ts :: ts1)
    (h1 : (cur ts).is .operator "," = true)
    (h2 : (cur ts1).is .bracket "]" = true ∨ (cur ts1).is .bracket "}" = true) : altFree ts = false := by
  cases ts1 with
  | nil => rcases h2 with h2 | h2 <;> simp [cur, eofTok, Token.is] at h2
  | cons b rest =>
    rw [he]
    simp only [cur] at h2
    rcases h2 with h2 | h2 <;>
      simp only [altFree, h1, h2, Bool.and_self, Bool.or_true, Bool.true_or, Bool.not_true, Bool.and_false,
        Bool.false_and]

/-- the text of the elements a loop consumed: with the leading comma unless it started the list -/
def flatLb (b : Bool) (ns : List Node) : List String :=
  if b = true then flatL sh ns else
    match ns with
    | [] => []
    | _ :: _ => "," :: flatL sh ns

abbrev ConsumedText (ts : List Token) : Node → List Token → Prop := fun n ts' => Cons ts ts' (flat sh n)
/-- the tokens consumed from `ts` extend the text `u` read before them to the text of the result -/
abbrev AppendedText (ts : List Token) (u : List String) : Node → List Token → Prop :=
  fun n ts' => ∃ w, Cons ts ts' w ∧ flat sh n = u ++ w

variable {sh} in
theorem AppendedText.stop {ts : List Token} {n : Node} : Post (AppendedText sh ts (flat sh n)) (.ok n ts) :=
  Post.ok ⟨[], Cons.refl ts, (List.append_nil _).symm⟩

variable {sh} in
theorem AppendedText.after {ts tsk : List Token} {u u' w : List String} {r : Res Node} (hc : Cons ts tsk w)
    (hu : u' = u ++ w) (h : Post (AppendedText sh tsk u') r) : Post (AppendedText sh ts u) r :=
  h.mono fun _ _ ⟨w', hw', hfn⟩ => ⟨w ++ w', hc.trans hw', by rw [hfn, hu, List.append_assoc]⟩

variable {sh} in
theorem AppendedText.consumed {ts tsk : List Token} {node : Node} {r : Res Node} (hc : Cons ts tsk (flat sh node))
    (h : Post (AppendedText sh tsk (flat sh node)) r) : Post (ConsumedText sh ts) r :=
  h.mono fun _ _ ⟨_, hw, hfn⟩ => (hc.trans hw).cast hfn.symm

structure EraAt (f : Nat) : Prop where
  expr : ∀ {d p ts}, Plain cfg sh ts → Post (ConsumedText sh ts) (parseExpression cfg f d p ts)
  loop : ∀ {d p l ts}, Plain cfg sh ts → Post (AppendedText sh ts (flat sh l)) (exprLoop cfg f d p l ts)
  prim : ∀ {d ts}, Plain cfg sh ts → Post (ConsumedText sh ts) (parsePrimary cfg f d ts)
  cond : ∀ {d nd ts}, Plain cfg sh ts → Post (AppendedText sh ts (flat sh nd)) (parseConditional cfg f d nd ts)
  pexp : ∀ {d ts}, Plain cfg sh ts → Post (ConsumedText sh ts) (parsePrimaryExpression cfg f d ts)
  ident : ∀ {d tok ts}, Plain cfg sh ts →
    Post (AppendedText sh ts [nv tok.value]) (parseIdentifierExpression cfg f d tok ts)
  clos : ∀ {d ts}, Plain cfg sh ts → Post (ConsumedText sh ts) (parseClosure cfg f d ts)
  arr : ∀ {d ts}, Plain cfg sh ts → Post (ConsumedText sh ts) (parseArray cfg f d ts)
  arrL : ∀ {d b ts}, Plain cfg sh ts →
    Post (fun ns ts' => Cons ts ts' (flatLb sh b ns)) (arrayLoop cfg f d b ts)
  map : ∀ {d ts}, Plain cfg sh ts → Post (ConsumedText sh ts) (parseMap cfg f d ts)
  mapL : ∀ {d l b ts}, Plain cfg sh ts →
    Post (fun ps ts' => Cons ts ts' (flatLb sh b ps)) (mapLoop cfg f d l b ts)
  post : ∀ {d nd b ts}, Plain cfg sh ts → Post (AppendedText sh ts (flat sh nd)) (parsePostfix cfg f d nd b ts)
  args : ∀ {d ts}, Plain cfg sh ts → Post (fun as ts' => Cons ts ts' (flatL sh as)) (parseArguments cfg f d ts)
  argsL : ∀ {d b ts}, Plain cfg sh ts →
    Post (fun ns ts' => Cons ts ts' (flatLb sh b ns)) (argsLoop cfg f d b ts)

variable {cfg sh} in
theorem era_fin {f : Nat} (ih : EraAt cfg sh f) {ts : List Token} (hpl : Plain cfg sh ts) {d : Nat} {node : Node}
    {b : Bool} {tsk : List Token} (hc : Cons ts tsk (flat sh node)) :
    Post (ConsumedText sh ts) (parsePostfix cfg f d node b tsk) :=
  AppendedText.consumed hc (ih.post (hpl.of_cons hc))

theorem cons_sep {first : Bool} {ts ts1 : List Token}
    (h : (first = true ∧ ts1 = ts) ∨ (first = false ∧ ts = cur ts :: ts1 ∧ (cur ts).is .operator "," = true)) :
    Cons ts ts1 (if first = true then [] else [","]) := by
  rcases h with ⟨hf, rfl⟩ | ⟨hf, he, hc⟩
  · subst hf; exact Cons.refl _
  · subst hf
    have := cons_of_is he hc
    simpa [nv] using this

theorem flatLb_nil (b : Bool) : flatLb sh b [] = [] := by
  cases b <;> rfl
theorem flatLb_cons (b : Bool) (n : Node) (ns : List Node) :
    flatLb sh b (n :: ns) = (if b = true then [] else [","]) ++ flat sh n ++ flatLb sh false ns := by
  cases b <;> cases ns <;> simp [flatLb, flatL]
variable {cfg sh} in
theorem era_bound {f : Nat} (ih : EraAt cfg sh f) (d : Nat) (ts : List Token) (hpl : Plain cfg sh ts) :
    Post (fun (to : Option Node) ts' => Cons ts ts' (flatO sh to))
      (if (cur ts).is .bracket "]" = true then Res.ok none ts
       else (parseExpression cfg f d 0 ts).bind fun e ts' => .ok (some e) ts') := by
  refine Post.ite (Post.ok (Cons.refl ts)) (Post.bind (ih.expr hpl) ?_)
  intro e ts' he
  exact Post.ok he

theorem keep_of_nameOk {t : Token} (h : nameOk t = true) : keepTok t = true ∧ t.kind ≠ .eof := by
  unfold nameOk at h
  by_cases hid : t.kind = .identifier
  · exact ⟨keep_of_plain_kind (by rw [hid]; decide) (by rw [hid]; decide), by rw [hid]; decide⟩
  · have hop : t.kind = .operator ∧ isValidIdentifier t.value = true := by simpa [hid] using h
    refine ⟨keep_of_operator hop.1 ?_, by rw [hop.1]; decide⟩
    intro hv
    rw [hv] at hop
    exact absurd hop.2 (by decide)

theorem eraAt (hy : EraHyp cfg) : ∀ f, EraAt cfg sh f
  | 0 => by
    constructor <;> intros <;> simp only [parser_zero] <;> exact Post.fuel
  | f+1 => by
    have ih := eraAt hy f
    constructor
    · intro d p ts hpl
      rw [parseExpression]
      refine Post.bind (ih.prim hpl) ?_
      intro l ts1 hl
      refine Post.bind (ih.loop (hpl.of_cons hl)) ?_
      intro e ts2 ⟨w, hw, hfe⟩
      have h2 := (hl.trans hw).cast hfe.symm
      exact Post.ite (AppendedText.consumed h2 (ih.cond (hpl.of_cons h2))) (Post.ok h2)
    · intro d p l ts hpl
      rw [exprLoop]
      split
      · next q a hb =>
        obtain ⟨hk, hlk⟩ := binOp_lookup hb
        refine Post.ite ?_ AppendedText.stop
        refine Post.bind post_next ?_
        intro _ ts1 he
        have hkeep : keepTok (cur ts) = true :=
          keep_of_operator hk (by intro hv; rw [hv, hy.bin_hash] at hlk; cases hlk)
        have hc1 := cons_of_next he hkeep (by rw [hk]; decide)
        refine Post.bind (ih.expr (hpl.of_cons hc1)) ?_
        intro r ts2 hr
        have hc2 := hc1.trans hr
        have tail : ∀ node, flat sh node = flat sh l ++ nv (cur ts).value :: flat sh r →
            Post (AppendedText sh ts (flat sh l)) (exprLoop cfg f d p node ts2) :=
          fun node hnode => AppendedText.after hc2 hnode (ih.loop (hpl.of_cons hc2))
        refine Post.ite' (fun hm => ?_) (fun _ => tail _ rfl)
        have hv : (cur ts).value = "matches" := by simpa using hm
        have hmat : ∀ b, flat sh (.matches (mk (cur ts).loc) b l r) = flat sh l ++ nv (cur ts).value :: flat sh r :=
          fun _ => by rw [hv]; rfl
        split
        · exact Post.ite Post.err (tail _ (hmat _))
        · exact tail _ (hmat _)
      · exact AppendedText.stop
    · intro d ts hpl
      rw [parsePrimary]
      split
      · next pu hu =>
        obtain ⟨hk, hop⟩ := unOp_lookup hu
        refine Post.bind post_next ?_
        intro _ ts1 he
        have hkeep : keepTok (cur ts) = true :=
          keep_of_operator hk (by intro hv; rw [hv, hy.un_hash] at hop; cases hop)
        have hc1 := cons_of_next he hkeep (by rw [hk]; decide)
        refine Post.bind (ih.expr (hpl.of_cons hc1)) ?_
        intro e ts2 he2
        exact era_fin ih hpl (hc1.trans he2)
      · refine Post.ite' (fun hlp => ?_) (fun _ => Post.ite' (fun hh => ?_) (fun _ => Post.ite ?_ ?_))
        · refine Post.bind post_next ?_
          intro _ ts1 he
          have hc1 := cons_of_paren he hlp (Or.inl rfl)
          refine Post.bind (ih.expr (hpl.of_cons hc1)) ?_
          intro e ts2 he2
          have hc2 := hc1.trans he2
          refine Post.bind post_expect ?_
          intro _ ts3 ⟨he3, hrp⟩
          have hc3 := hc2.trans (cons_of_paren he3 hrp (Or.inr rfl))
          exact era_fin ih hpl (hc3.cast (List.append_nil _))
        · refine Post.ite (Post.bind post_next ?_) Post.err
          intro _ ts1 he
          obtain ⟨hkind, hval⟩ := kind_of_is hh
          have hc1 := cons_of_next_drop he (by simp [keepTok, Token.is, hkind, hval]) (by rw [hkind]; decide)
          exact era_fin ih hpl hc1
        · exact Post.ite (era_fin ih hpl (Cons.refl ts)) Post.err
        · exact ih.pexp hpl
    · intro d nd ts hpl
      rw [parseConditional]
      refine Post.ite' (fun hq => ?_) (fun _ => AppendedText.stop)
      refine Post.bind post_next ?_
      intro _ ts1 he
      have hc1 := cons_of_is he hq
      refine Post.ite' (fun hcol => ?_) (fun _ => ?_)
      · have := altFree_quest_colon he hq hcol
        rw [hpl.1] at this; cases this
      · refine Post.bind (ih.expr (hpl.of_cons hc1)) ?_
        intro e1 ts2 h1
        have hc2 := hc1.trans h1
        refine Post.bind post_expect ?_
        intro _ ts3 ⟨he3, hcol⟩
        have hc3 := hc2.trans (cons_of_is he3 hcol)
        refine Post.bind (ih.expr (hpl.of_cons hc3)) ?_
        intro e2 ts4 h2
        have hc4 := hc3.trans h2
        exact AppendedText.after hc4 (by simp [flat, nv]) (ih.cond (hpl.of_cons hc4))
    · intro d ts hpl
      rw [parsePrimaryExpression]
      -- identifier, number and string tokens are kept
      have hplain : (cur ts).kind = .identifier ∨ (cur ts).kind = .number ∨ (cur ts).kind = .string →
          ∀ ts1, ts = cur ts :: ts1 → Cons ts ts1 [nv (cur ts).value] := by
        intro hkind ts1 he
        have hk : (cur ts).kind ≠ .operator ∧ (cur ts).kind ≠ .bracket ∧ (cur ts).kind ≠ .eof := by
          rcases hkind with h | h | h <;> rw [h] <;> decide
        exact cons_of_next he (keep_of_plain_kind hk.1 hk.2.1) hk.2.2
      split
      · next hkind =>
        refine Post.bind post_next ?_
        intro _ ts1 he
        have hc1 := hplain (Or.inl hkind) ts1 he
        -- `true`, `false`, `nil` are spelled as they are printed
        have lit : ∀ (s : String) (n : Node), ((cur ts).value == s) = true → flat sh n = [nv s] →
            Post (ConsumedText sh ts) (.ok n ts1) := by
          intro s n hv hn
          rw [beq_iff_eq.mp hv] at hc1
          exact Post.ok (hc1.cast hn.symm)
        refine Post.ite' (fun hv => lit _ _ hv rfl) (fun _ => ?_)
        refine Post.ite' (fun hv => lit _ _ hv rfl) (fun _ => ?_)
        refine Post.ite' (fun hv => lit _ _ hv rfl) (fun _ => ?_)
        refine Post.bind (ih.ident (hpl.of_cons hc1)) ?_
        intro n ts2 ⟨w, hw, hfn⟩
        exact era_fin ih hpl ((hc1.trans hw).cast hfn.symm)
      · next hkind =>
        refine Post.bind post_next ?_
        intro _ ts1 he
        have hc1 := hplain (Or.inr (Or.inl hkind)) ts1 he
        have hmem : cur ts ∈ ts := by rw [he]; exact List.mem_cons_self
        have hnum := hpl.2 _ hmem hkind
        split
        · next v hv =>
          refine Post.ok (hc1.cast ?_)
          rcases hnum with ⟨n, hn, hval⟩ | ⟨b, hb, _⟩
          · rw [hn] at hv; cases hv
            simp [flat, hval]
          · rw [hb] at hv; cases hv
        · next b hb' =>
          refine Post.ok (hc1.cast ?_)
          rcases hnum with ⟨n, hn, _⟩ | ⟨b, hb, hval⟩
          · rw [hn] at hb'; cases hb'
          · rw [hb] at hb'; cases hb'
            simp [flat, hval]
        · exact Post.err
      · next hkind =>
        refine Post.bind post_next ?_
        intro _ ts1 he
        exact Post.ok (hplain (Or.inr (Or.inr hkind)) ts1 he)
      · refine Post.ite ?_ (Post.ite ?_ Post.err)
        · refine Post.bind (ih.arr hpl) ?_
          intro n ts1 hn
          exact era_fin ih hpl hn
        · refine Post.bind (ih.map hpl) ?_
          intro n ts1 hn
          exact era_fin ih hpl hn
    · intro d tok ts hpl
      rw [parseIdentifierExpression]
      refine Post.ite ?_ AppendedText.stop
      split
      · next ar hl =>
        refine Post.bind post_expect ?_
        intro _ ts1 ⟨he, hlp'⟩
        have hc1 := cons_of_paren he hlp' (Or.inl rfl)
        refine Post.bind (Q1 := fun args ts5 => Cons ts ts5 (flatB sh args)) ?_ ?_
        · refine Post.ite ?_ (Post.ite ?_ (Post.ok hc1))
          · refine Post.bind (ih.expr (hpl.of_cons hc1)) ?_
            intro a ts2 ha
            exact Post.ok (hc1.trans ha)
          · refine Post.bind (ih.expr (hpl.of_cons hc1)) ?_
            intro a ts2 ha
            have hc2 := hc1.trans ha
            refine Post.bind post_expect ?_
            intro _ ts3 ⟨he3, hcm⟩
            have hc3 := hc2.trans (cons_of_is he3 hcm)
            refine Post.bind (ih.clos (hpl.of_cons hc3)) ?_
            intro c ts4 hc
            exact Post.ok ((hc3.trans hc).cast (by simp [flatB, nv]))
        · intro args ts5 hargs
          refine Post.bind post_expect ?_
          intro _ ts6 ⟨he6, hrp⟩
          exact Post.ok ⟨_, hargs.trans (cons_of_paren he6 hrp (Or.inr rfl)), by simp [flat]⟩
      · refine Post.bind (ih.args hpl) ?_
        intro args ts1 ha
        exact Post.ok ⟨_, ha, rfl⟩
    · intro d ts hpl
      rw [parseClosure]
      refine Post.bind post_expect ?_
      intro _ ts1 ⟨he, hlb⟩
      have hc1 := cons_of_is he hlb
      refine Post.bind (ih.expr (hpl.of_cons hc1)) ?_
      intro n ts2 hn
      have hc2 := hc1.trans hn
      refine Post.bind post_expect ?_
      intro _ ts3 ⟨he3, hrb⟩
      have hc3 := hc2.trans (cons_of_is he3 hrb)
      exact Post.ok (hc3.cast (by simp [flat, nv]))
    · intro d ts hpl
      rw [parseArray]
      refine Post.bind post_expect ?_
      intro _ ts1 ⟨he, hlb⟩
      have hc1 := cons_of_is he hlb
      refine Post.bind (ih.arrL (hpl.of_cons hc1)) ?_
      intro ns ts2 hns
      have hc2 := hc1.trans hns
      refine Post.bind post_expect ?_
      intro _ ts3 ⟨he3, hrb⟩
      have hc3 := hc2.trans (cons_of_is he3 hrb)
      exact Post.ok (hc3.cast (by simp [flat, flatLb, nv]))
    · intro d b ts hpl
      rw [arrayLoop]
      refine Post.ite (Post.ok ((Cons.refl ts).cast (flatLb_nil sh b).symm)) ?_
      refine Post.bind post_sep ?_
      intro _ ts1 hsep
      have hc1 := cons_sep hsep
      refine Post.ite' (fun htr => ?_) (fun _ => ?_)
      · rcases hsep with ⟨hf, _⟩ | ⟨hf, he, hc⟩
        · subst hf; simp at htr
        · have := altFree_comma_close he hc (Or.inl (by simpa [hf] using htr))
          rw [hpl.1] at this; cases this
      · refine Post.bind (ih.expr (hpl.of_cons hc1)) ?_
        intro n ts2 hn
        have hc2 := hc1.trans hn
        refine Post.bind (ih.arrL (hpl.of_cons hc2)) ?_
        intro ns ts3 hns
        exact Post.ok ((hc2.trans hns).cast (flatLb_cons sh b n ns).symm)
    · intro d ts hpl
      rw [parseMap]
      refine Post.bind post_expect ?_
      intro _ ts1 ⟨he, hlb⟩
      have hc1 := cons_of_is he hlb
      refine Post.bind (ih.mapL (hpl.of_cons hc1)) ?_
      intro ps ts2 hps
      have hc2 := hc1.trans hps
      refine Post.bind post_expect ?_
      intro _ ts3 ⟨he3, hrb⟩
      have hc3 := hc2.trans (cons_of_is he3 hrb)
      exact Post.ok (hc3.cast (by simp [flat, flatLb, flatP_eq_flatL, nv]))
    · intro d l b ts hpl
      rw [mapLoop]
      refine Post.ite (Post.ok ((Cons.refl ts).cast (flatLb_nil sh b).symm)) ?_
      refine Post.bind post_sep ?_
      intro _ ts1 hsep
      have hc1 := cons_sep hsep
      refine Post.ite' (fun htr => ?_) (fun _ => Post.ite Post.err ?_)
      · rcases hsep with ⟨hf, _⟩ | ⟨hf, he, hc⟩
        · subst hf; simp at htr
        · have := altFree_comma_close he hc (Or.inr (by simpa [hf] using htr))
          rw [hpl.1] at this; cases this
      · refine Post.bind (Q1 := fun key ts2 => Cons ts1 ts2 (flat sh key)) ?_ ?_
        · refine Post.ite' (fun hkind => Post.bind post_next ?_)
            (fun _ => Post.ite (ih.expr (hpl.of_cons hc1)) Post.err)
          intro _ ts2 he2
          have hk : (cur ts1).kind ≠ .operator ∧ (cur ts1).kind ≠ .bracket ∧ (cur ts1).kind ≠ .eof := by
            simp only [Bool.or_eq_true, beq_iff_eq] at hkind
            rcases hkind with (h | h) | h <;> rw [h] <;> decide
          exact Post.ok (cons_of_next he2 (keep_of_plain_kind hk.1 hk.2.1) hk.2.2)
        · intro key ts2 hkey
          have hc2 := hc1.trans hkey
          refine Post.bind post_expect ?_
          intro _ ts3 ⟨he3, hcol⟩
          have hc3 := hc2.trans (cons_of_is he3 hcol)
          refine Post.bind (ih.expr (hpl.of_cons hc3)) ?_
          intro v ts4 hv
          have hc4 := hc3.trans hv
          refine Post.bind (ih.mapL (hpl.of_cons hc4)) ?_
          intro ps ts5 hps
          refine Post.ok ((hc4.trans hps).cast ?_)
          rw [flatLb_cons]
          cases b <;> simp [flatLb, flat, nv]
    · intro d nd b ts hpl
      rw [parsePostfix]
      have fin : ∀ {node : Node} {b' : Bool} {tsk : List Token} {w : List String} (hc : Cons ts tsk w),
          flat sh node = flat sh nd ++ w → Post (AppendedText sh ts (flat sh nd)) (parsePostfix cfg f d node b' tsk) :=
        fun hc hnode => AppendedText.after hc hnode (ih.post (hpl.of_cons hc))
      refine Post.ite' (fun hk => ?_) (fun _ => AppendedText.stop)
      have hkop : (cur ts).kind = .operator ∨ (cur ts).kind = .bracket := by
        simpa [Bool.or_eq_true, beq_iff_eq] using hk
      have hneof : (cur ts).kind ≠ .eof := by rcases hkop with h | h <;> rw [h] <;> decide
      refine Post.ite' (fun hv => ?_) (fun _ => Post.ite' (fun hlb => ?_) (fun _ => AppendedText.stop))
      · have hval : (cur ts).value = "." ∨ (cur ts).value = "?." := by
          simpa [Bool.or_eq_true, beq_iff_eq] using hv
        refine Post.bind post_next ?_
        intro _ ts1 he
        have hc1 : Cons ts ts1 ["."] := by
          have := cons_of_next he (keep_of_value (by rcases hval with h | h <;> rw [h] <;> decide)
            (by rcases hval with h | h <;> rw [h] <;> decide) (by rcases hval with h | h <;> rw [h] <;> decide)) hneof
          rcases hval with h | h <;> rw [h] at this <;> exact this
        refine Post.bind post_next ?_
        intro _ ts2 he2
        refine Post.ite' (fun _ => Post.err) (fun hname => ?_)
        have hkeep := keep_of_nameOk (t := cur ts1) (by simpa using hname)
        have hc2 := hc1.trans (cons_of_next he2 hkeep.1 hkeep.2)
        refine Post.ite (Post.bind (ih.args (hpl.of_cons hc2)) ?_) (fin hc2 rfl)
        intro args ts3 ha
        exact fin (hc2.trans ha) (by simp [flat])
      · have hval : (cur ts).value = "[" := by simpa using hlb
        refine Post.bind post_next ?_
        intro _ ts1 he
        have hc1 : Cons ts ts1 ["["] := by
          have := cons_of_next he (keep_of_value (by rw [hval]; decide) (by rw [hval]; decide)
            (by rw [hval]; decide)) hneof
          rwa [hval] at this
        refine Post.ite' (fun hcol => ?_) (fun _ => ?_)
        · refine Post.bind post_next ?_
          intro _ ts2 he2
          have hc2 := hc1.trans (cons_of_is he2 hcol)
          refine Post.bind (era_bound ih d ts2 (hpl.of_cons hc2)) ?_
          intro to ts3 hto
          have hc3 := hc2.trans hto
          refine Post.bind post_expect ?_
          intro _ ts4 ⟨he4, hrb⟩
          have hc4 := hc3.trans (cons_of_is he4 hrb)
          exact fin hc4 (by simp [flat, flatO, nv])
        · refine Post.bind (ih.expr (hpl.of_cons hc1)) ?_
          intro fr ts2 hfr
          have hc2 := hc1.trans hfr
          refine Post.ite' (fun hcol => ?_) (fun _ => ?_)
          · refine Post.bind post_next ?_
            intro _ ts3 he3
            have hc3 := hc2.trans (cons_of_is he3 hcol)
            refine Post.bind (era_bound ih d ts3 (hpl.of_cons hc3)) ?_
            intro to ts4 hto
            have hc4 := hc3.trans hto
            refine Post.bind post_expect ?_
            intro _ ts5 ⟨he5, hrb⟩
            have hc5 := hc4.trans (cons_of_is he5 hrb)
            exact fin hc5 (by simp [flat, flatO, nv])
          · refine Post.bind post_expect ?_
            intro _ ts3 ⟨he3, hrb⟩
            have hc3 := hc2.trans (cons_of_is he3 hrb)
            exact fin hc3 (by simp [flat, nv])
    · intro d ts hpl
      rw [parseArguments]
      refine Post.bind post_expect ?_
      intro _ ts1 ⟨he, hlp⟩
      have hc1 := cons_of_paren he hlp (Or.inl rfl)
      refine Post.bind (ih.argsL (hpl.of_cons hc1)) ?_
      intro ns ts2 hns
      have hc2 := hc1.trans hns
      refine Post.bind post_expect ?_
      intro _ ts3 ⟨he3, hrp⟩
      have hc3 := hc2.trans (cons_of_paren he3 hrp (Or.inr rfl))
      exact Post.ok (hc3.cast (by simp [flatLb]))
    · intro d b ts hpl
      rw [argsLoop]
      refine Post.ite (Post.ok ((Cons.refl ts).cast (flatLb_nil sh b).symm)) ?_
      refine Post.bind post_sep ?_
      intro _ ts1 hsep
      have hc1 := cons_sep hsep
      refine Post.bind (ih.expr (hpl.of_cons hc1)) ?_
      intro n ts2 hn
      have hc2 := hc1.trans hn
      refine Post.bind (ih.argsL (hpl.of_cons hc2)) ?_
      intro ns ts3 hns
      exact Post.ok ((hc2.trans hns).cast (flatLb_cons sh b n ns).symm)

end ExprModel.Parser
