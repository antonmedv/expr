import ExprModel.Proofs.ParseLayout
/-
The syntactic layout rule: a blank is needed only between neighbours whose spellings would fuse.
`SepOK` is a condition on each pair of neighbouring tokens and the gap between them; it implies the
semantic condition `NoFuse`.  What the proof needs of a neighbour's spelling it reads off `tok_spells`: the first rune is
no blank (`Spells.head`), and a spelling that the lexer would read as `in` is `in` (`Spells.unique`).
-/
namespace ExprModel.Parser
open ExprModel.Lex

def plainRune (c : Char) : Bool := decide (c.toNat < 128) && !CharClass.asciiSpace c

theorem plainRune_not_space {cc : CharClass} (hcc : cc.AsciiExact) {c : Char} (h : plainRune c = true) :
    cc.isSpace c = false := by
  simp only [plainRune, Bool.and_eq_true, decide_eq_true_eq, Bool.not_eq_true'] at h
  exact (hcc.space c h.1).trans h.2

theorem space_not_mem {cc : CharClass} (hcc : cc.AsciiExact) {x : Char} (hx : cc.isSpace x = true) (l : List Char)
    (hl : l.all plainRune = true) : x ∉ l := by
  intro hm
  rw [plainRune_not_space hcc (List.all_eq_true.mp hl x hm)] at hx
  cases hx

/-- white space is not one of the runes the no-fuse conditions mention: all of them are plain -/
theorem space_facts {cc : CharClass} (hcc : cc.AsciiExact) {x : Char} (hx : cc.isSpace x = true) :
    x ≠ '.' ∧ x ≠ '?' ∧ x ≠ 'i' ∧ LexTables.std.dblSecond.contains x = false ∧
      LexTables.std.dotDigits.contains x = false := by
  have h3 := space_not_mem hcc hx ['.', '?', 'i'] (by decide)
  simp only [List.mem_cons, List.mem_nil_iff, or_false, not_or] at h3
  refine ⟨h3.1, h3.2.1, h3.2.2, ?_, ?_⟩
  · exact Bool.eq_false_iff.mpr fun hc =>
      space_not_mem hcc hx LexTables.std.dblSecond (by decide) (List.contains_iff_mem.mp hc)
  · exact Bool.eq_false_iff.mpr fun hc =>
      space_not_mem hcc hx LexTables.std.dotDigits (by decide) (List.contains_iff_mem.mp hc)

/-- the classification calls no white space alphanumeric (true of Go's `unicode` tables) -/
def SpaceNotWord (cc : CharClass) : Prop := ∀ x, cc.isSpace x = true → cc.isAlphaNumeric x = false

/-- `tokOk` for the tokens whose condition only looks at the next rune: white space or the end of the text
    is always fine -/
theorem tokOk_of_space {cc : CharClass} (hcc : cc.AsciiExact) (hsw : SpaceNotWord cc) (t : Token)
    (hnot : ¬ (t.kind = .operator ∧ (t.value = "not" ∨ t.value = "not in"))) (R : List Char)
    (hR : ∀ x, R.head? = some x → cc.isSpace x = true) : tokOk cc t R := by
  obtain ⟨k, v, l⟩ := t
  cases k with
  | string => trivial
  | bracket => trivial
  | eof => trivial
  | number =>
    intro x hx
    exact ⟨hsw x (hR x hx), (space_facts hcc (hR x hx)).1⟩
  | identifier =>
    intro x hx
    exact hsw x (hR x hx)
  | operator =>
    simp only [true_and, not_or] at hnot
    have sf : ∀ x, R.head? = some x → _ := fun x hx => space_facts hcc (hR x hx)
    simp only [tokOk]
    by_cases h1 : v = "?"
    · rw [if_pos h1]
      intro he
      exact (sf _ he).1 rfl
    rw [if_neg h1]
    by_cases h2 : v = "?."
    · rw [if_pos h2]
      intro c hc
      exact ⟨(sf c hc).2.1, (sf c hc).1⟩
    rw [if_neg h2]
    by_cases h3 : v = "."
    · rw [if_pos h3]
      intro x hx
      exact ⟨(sf x hx).1, (sf x hx).2.2.2.2⟩
    rw [if_neg h3, if_neg hnot.1, if_neg hnot.2]
    by_cases h6 : LexTables.std.kwOps.contains v = true
    · rw [if_pos h6]
      intro x hx
      exact hsw x (hR x hx)
    rw [if_neg h6]
    by_cases h7 : isDbl1 v = true
    · rw [if_pos h7]
      intro x hx
      exact (sf x hx).2.2.2.1
    rw [if_neg h7]
    trivial


def isNot (t : Token) : Prop := t.kind = .operator ∧ t.value = "not"
def isNotIn (t : Token) : Prop := t.kind = .operator ∧ t.value = "not in"

theorem tokOk_congr_head {cc : CharClass} (t : Token) (hn : ¬ isNot t) {R R' : List Char}
    (h : R.head? = R'.head?) (hok : tokOk cc t R) : tokOk cc t R' := by
  obtain ⟨k, v, l⟩ := t
  cases k with
  | string => trivial
  | bracket => trivial
  | eof => trivial
  | number => intro x hx; exact hok x (h ▸ hx)
  | identifier => intro x hx; exact hok x (h ▸ hx)
  | operator =>
    -- without the branch of `not` the text after the token occurs only as `R.head?`
    simp only [isNot, true_and] at hn
    simp only [tokOk, WordEnd] at hok ⊢
    rw [if_neg hn] at hok ⊢
    rw [← h]
    exact hok

/-- the first rune of a text that is no white space is unique: two splittings "blanks, then a non-blank" agree, both
    being what `dropWhile` leaves -/
theorem prefix_split {cc : CharClass} {d : Char} (hd : cc.isSpace d = false) (mid g X Y : List Char) (c : Char)
    (hm : ∀ x ∈ mid, cc.isSpace x = true) (hg : ∀ x ∈ g, cc.isSpace x = true) (hc : cc.isSpace c = false)
    (h : mid ++ d :: X = g ++ c :: Y) : c = d ∧ X = Y := by
  have h1 := (takeWhile_run (rest := d :: X) hm fun x hx => by cases hx; exact hd).2
  have h2 := (takeWhile_run (rest := c :: Y) hg fun x hx => by cases hx; exact hc).2
  rw [h, h2] at h1
  cases h1
  exact ⟨rfl, rfl⟩

theorem ascii_space_facts {cc : CharClass} (hcc : cc.AsciiExact) :
    cc.isSpace ' ' = true ∧ cc.isSpace 'i' = false ∧ cc.isAlphaNumeric ' ' = false ∧ cc.isAlphaNumeric 'n' = true :=
  ⟨(space_ascii_eq hcc (by decide)).trans (by decide), (space_ascii_eq hcc (by decide)).trans (by decide),
    alnum_space hcc, alnum_letter hcc (by decide)⟩

theorem wordBlank_isSpace {cc : CharClass} (hcc : cc.AsciiExact) {c : Char} (h : cc.wordBlank c = true) :
    cc.isSpace c = true := by
  unfold CharClass.wordBlank at h
  split at h
  · exact h
  · have : c = ' ' := by simpa using h
    subst this
    exact (ascii_space_facts hcc).1

theorem wordEnd_not_alnum {cc : CharClass} (hcc : cc.AsciiExact) {c : Char} (h : cc.wordEnd c = true) :
    cc.isAlphaNumeric c = false := by
  unfold CharClass.wordEnd at h
  split at h
  · simpa using h
  · have : c = ' ' := by simpa using h
    subst this
    exact (ascii_space_facts hcc).2.2.1

/-- a white space rune that is no word rune may follow the word of `acceptWord`, whichever shape it has -/
theorem wordEnd_of_space {cc : CharClass} (hsw : SpaceNotWord cc) {c : Char} (h : cc.isSpace c = true)
    (h2 : cc.notInAnySpace = false → c = ' ') : cc.wordEnd c = true := by
  unfold CharClass.wordEnd
  split
  · simp [hsw c h]
  · next hf => simp [h2 (by simpa using hf)]

/-- The `not` case of the rule.  Were the text after `not` blanks, `in`, word end, the lexer would read `in` at the head
    of `tokRaw u ++ R'`, where it reads `u`: so `in` would be the spelling of `u`, which `hne` excludes. -/
theorem notFollow_of {cc : CharClass} (hcc : cc.AsciiExact) (g : List Char) (hg : ∀ x ∈ g, cc.isSpace x = true)
    (u : Token) (hpu : Printable cc u) (R' : List Char) (hu : tokOk cc u R') (hne : tokRaw u ≠ "in".toList)
    (hhead : ∀ x, (g ++ (tokRaw u ++ R')).head? = some x → cc.isAlphaNumeric x = false) :
    NotFollow cc (g ++ (tokRaw u ++ R')) := by
  obtain ⟨_, hi, _, hn⟩ := ascii_space_facts hcc
  refine ⟨hhead, ?_⟩
  rintro ⟨mid, r', hm, he, hr'⟩
  have hsu := tok_spells hcc u hpu
  obtain ⟨c, cs, hraw, hc⟩ := hsu.head hu
  have hin : "in".toList = ['i', 'n'] := by decide
  rw [hraw, hin] at he
  simp only [List.cons_append, List.append_assoc, List.nil_append] at he
  obtain ⟨hci, hrest⟩ := prefix_split hi mid g ('n' :: r') (cs ++ R') c (fun x hx => wordBlank_isSpace hcc (hm x hx)) hg hc he.symm
  have hsin := spells_word (cc := cc) (c := 'i') (cs := ['n']) (idStart_ascii hcc (Or.inl (by decide)))
    (fun x hx => by rw [List.mem_singleton.mp hx]; exact hn) (by decide) (Or.inl (by decide))
  refine hne (hsu.unique hsin hu (fun x hx => wordEnd_not_alnum hcc (hr' x hx)) ?_)
  rw [hraw, hci, List.cons_append, ← hrest]
  rfl

theorem notFollow_spaces {cc : CharClass} (hcc : cc.AsciiExact) (hsw : SpaceNotWord cc) (trail : List Char)
    (ht : ∀ x ∈ trail, cc.isSpace x = true) : NotFollow cc trail := by
  obtain ⟨_, hi, _, _⟩ := ascii_space_facts hcc
  refine ⟨fun x hx => hsw x (ht x (List.mem_of_mem_head? hx)), ?_⟩
  rintro ⟨mid, r', _, he, _⟩
  have : 'i' ∈ trail := by
    have hin : "in".toList = ['i', 'n'] := by decide
    rw [he, hin]; simp
  rw [ht 'i' this] at hi; cases hi

def PairOK (cc : CharClass) (t : Token) (g2 : List Char) (u : Token) : Prop :=
  (isNotIn t → WordEnd cc (g2 ++ tokRaw u)) ∧
  (isNot t → tokRaw u ≠ "in".toList ∧
    (g2 = [] → ∀ x, (tokRaw u).head? = some x → cc.isAlphaNumeric x = false)) ∧
  (¬ isNot t → ¬ isNotIn t → g2 = [] → tokOk cc t (tokRaw u))

/-- gaps are white space; where a gap is empty the two neighbouring spellings must not fuse (`tokOk` of the first on
    the spelling of the second: a condition on two spellings, as the harness's `needSpace`); `not in` is followed by
    a rune of `cc.wordEnd` or ends the text; `not` is not followed by `in` -/
def SepOK (cc : CharClass) : List Token → List (List Char) → List Char → Prop
  | t :: ts, g :: gs, trail =>
    (∀ c ∈ g, cc.isSpace c = true) ∧
    (match ts, gs with
     | u :: _, g2 :: _ => PairOK cc t g2 u
     | _, _ => isNotIn t → WordEnd cc trail) ∧
    SepOK cc ts gs trail
  | _, _, trail => ∀ c ∈ trail, cc.isSpace c = true

theorem tokOk_notin {cc : CharClass} (t : Token) (h : isNotIn t) (R : List Char)
    (hR : WordEnd cc R) : tokOk cc t R := by
  obtain ⟨k, v, l⟩ := t
  obtain ⟨hk, hv⟩ := h
  simp only at hk hv
  subst hk hv
  simp only [tokOk]
  rw [if_neg (by decide), if_neg (by decide), if_neg (by decide), if_neg (by decide), if_pos trivial]
  exact hR

theorem tokOk_not {cc : CharClass} (t : Token) (h : isNot t) (R : List Char) (hR : NotFollow cc R) : tokOk cc t R := by
  obtain ⟨k, v, l⟩ := t
  obtain ⟨hk, hv⟩ := h
  simp only at hk hv
  subst hk hv
  simp only [tokOk]
  rw [if_neg (by decide), if_neg (by decide), if_neg (by decide), if_pos trivial]
  exact hR

theorem noFuse_of_sepOK {cc : CharClass} (hcc : cc.AsciiExact) (hsw : SpaceNotWord cc) :
    ∀ (ts : List Token) (gs : List (List Char)) (trail : List Char), ts.length = gs.length →
      (∀ t ∈ ts, Printable cc t) → SepOK cc ts gs trail → NoFuse cc ts gs trail
  | [], [], _, _, _, h => h
  | [], _ :: _, _, hl, _, _ => by simp at hl
  | _ :: _, [], _, hl, _, _ => by simp at hl
  | [t], [g], trail, _, hp, h => by
    obtain ⟨hg, hlast, htrail⟩ := h
    have htrail' : ∀ c ∈ trail, cc.isSpace c = true := htrail
    refine ⟨hg, ?_, htrail'⟩
    show tokOk cc t trail
    by_cases hn : isNot t
    · exact tokOk_not t hn _ (notFollow_spaces hcc hsw trail htrail')
    · by_cases hni : isNotIn t
      · exact tokOk_notin t hni _ (hlast hni)
      · exact tokOk_of_space hcc hsw t (by rintro ⟨hk, h | h⟩; exact hn ⟨hk, h⟩; exact hni ⟨hk, h⟩) trail
          (fun x hx => htrail' x (List.mem_of_mem_head? hx))
  | t :: u :: ts', g :: g2 :: gs', trail, hl, hp, h => by
    obtain ⟨hg, hpair, hrest⟩ := h
    have hpair' : PairOK cc t g2 u := hpair
    have ih := noFuse_of_sepOK hcc hsw (u :: ts') (g2 :: gs') trail (by simpa using hl)
      (fun x hx => hp x (List.mem_cons_of_mem _ hx)) hrest
    refine ⟨hg, ?_, ih⟩
    obtain ⟨hg2, hu, _⟩ := ih
    obtain ⟨c, cs, hraw, hc⟩ := (tok_spells hcc u (hp u (by simp))).head hu
    show tokOk cc t (g2 ++ (tokRaw u ++ renderItems (layoutItems ts' gs') trail))
    have hheadR : ∀ x, (g2 ++ (tokRaw u ++ renderItems (layoutItems ts' gs') trail)).head? = some x →
        g2 ≠ [] → cc.isSpace x = true := by
      intro x hx hne
      cases g2 with
      | nil => exact absurd rfl hne
      | cons a g2' =>
        simp only [List.cons_append, List.head?_cons, Option.some.injEq] at hx
        subst hx; exact hg2 _ (by simp)
    by_cases hn : isNot t
    · refine tokOk_not t hn _ (notFollow_of hcc g2 hg2 u (hp u (by simp)) _ hu (hpair'.2.1 hn).1 ?_)
      intro x hx
      by_cases hg2e : g2 = []
      · subst hg2e
        refine (hpair'.2.1 hn).2 rfl x ?_
        rw [hraw] at hx ⊢
        simpa using hx
      · exact hsw x (hheadR x hx hg2e)
    · by_cases hni : isNotIn t
      · refine tokOk_notin t hni _ fun x hx => hpair'.1 hni x ?_
        rw [hraw] at hx ⊢
        cases g2 with
        | nil => simpa using hx
        | cons a g2' => simpa using hx
      · by_cases hg2e : g2 = []
        · subst hg2e
          refine tokOk_congr_head t hn ?_ (hpair'.2.2 hn hni rfl)
          rw [hraw]; rfl
        · exact tokOk_of_space hcc hsw t (by rintro ⟨hk, h | h⟩; exact hn ⟨hk, h⟩; exact hni ⟨hk, h⟩) _
            (fun x hx => hheadR x hx hg2e)

end ExprModel.Parser
