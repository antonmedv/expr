import Lean.Meta.Tactic.Simp.RegisterCommand

register_simp_attr parser_zero
