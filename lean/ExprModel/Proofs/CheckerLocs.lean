import ExprModel.Proofs.CheckerBase
import ExprModel.Proofs.AllLocDef
/-
Locations through `checker.Check` (C13).  The tree the checker returns (annotated with kinds, call
arguments retyped, `fast` flags set) has, node for node, the locations of the tree it was given, and the error the
visitor records is at the location of one of those nodes (`visit_locs`).
-/
namespace ExprModel
namespace CheckerLocs

variable {P : Loc → Prop}

theorem allLoc_setKd (n : Node) (t : OTy) (h : n.AllLoc P) : (setKd n t).AllLoc P :=
  Node.allLoc_withMeta n _ (Node.allLoc_root n h) h

theorem allLoc_stfi (k : RKind) : (n : Node) → n.AllLoc P → (setTypeForIntegers k n).AllLoc P
  | .int m v, h => h
  | .unary m op x, h => by
    simp only [setTypeForIntegers]
    split
    · exact ⟨h.1, allLoc_stfi k x h.2⟩
    · exact h
  | .binary m op l r, h => by
    simp only [setTypeForIntegers]
    split
    · exact ⟨h.1, allLoc_stfi k l h.2.1, allLoc_stfi k r h.2.2⟩
    · exact h
  | .nil _, h | .ident _ _ _, h | .float _ _, h | .bool _ _, h | .str _ _, h | .const _ _, h
  | .matches _ _ _ _, h | .prop _ _ _ _, h | .index _ _ _, h | .slice _ _ _ _, h | .method _ _ _ _ _, h
  | .func _ _ _ _, h | .builtin _ _ _, h | .closure _ _, h | .pointer _, h | .cond _ _ _ _, h | .array _ _, h
  | .map _ _, h | .pair _ _ _, h => h

def ErrC (P : Loc → Prop) (st : CState) : Prop := ∀ e, st.err = some e → P e.1

theorem errC_init : ErrC P ({} : CState) := by intro e h; cases h

theorem errC_fail {st : CState} {loc : Loc} (c : CheckErrClass) (h : ErrC P st) (hl : P loc) : ErrC P (st.fail loc c) := by
  unfold CState.fail
  split
  · intro e he; simp only [Option.some.injEq] at he; rw [← he]; exact hl
  · exact h

theorem errC_setPanic {st : CState} (msg : String) (h : ErrC P st) : ErrC P (st.setPanic msg) := by
  unfold CState.setPanic
  split <;> exact h

theorem errC_orFail {r : Rule} {loc : Loc} {st : CState} (hl : P loc) (h : ErrC P st) : ErrC P (orFail r loc st).2 := by
  cases r with
  | ok t => exact h
  | error c => exact errC_fail c h hl

-- `vcase ih with n' t st1` names the result of the visit that `ih` speaks of, in `ih` and in the goal
macro "vcase" ih:ident " with " a:ident b:ident c:ident : tactic => `(tactic|
  (generalize visit _ _ _ = vx at $ih:ident ⊢; rcases vx with ⟨$a:ident, $b:ident, $c:ident⟩; dsimp only at $ih:ident ⊢))

mutual
theorem visit_locs (cfg : CheckCfg) : (n : Node) → ∀ st, n.AllLoc P →
    (visit cfg n st).1.AllLoc P ∧ (ErrC P st → ErrC P (visit cfg n st).2.2)
  | .nil m, st, h | .int m _, st, h | .float m _, st, h | .bool m _, st, h | .str m _, st, h => by
    simp only [visit]; exact ⟨allLoc_setKd _ _ h, id⟩
  | .ident m name ns, st, h | .pointer m, st, h => by
    simp only [visit]; exact ⟨allLoc_setKd _ _ h, errC_orFail h⟩
  | .const m v, st, h => by
    simp only [visit]
    split
    · exact ⟨h, errC_setPanic _⟩
    · exact ⟨allLoc_setKd _ _ h, id⟩
  | .unary m op x, st, h => by
    have ih := visit_locs cfg x st h.2
    simp only [visit]
    exact ⟨allLoc_setKd _ _ ⟨h.1, ih.1⟩, fun he => errC_orFail h.1 (ih.2 he)⟩
  | .prop m x name ns, st, h => by
    have ih := visit_locs cfg x st h.2
    simp only [visit]
    exact ⟨allLoc_setKd _ _ ⟨h.1, ih.1⟩, fun he => errC_orFail h.1 (ih.2 he)⟩
  | .closure m x, st, h => by
    have ih := visit_locs cfg x st h.2
    simp only [visit]
    vcase ih with x' t st1
    have hc : (Node.closure m x').AllLoc P := ⟨h.1, ih.1⟩
    split
    · exact ⟨allLoc_setKd _ _ hc, ih.2⟩
    · split
      · exact ⟨hc, fun he => errC_setPanic _ (ih.2 he)⟩
      · exact ⟨allLoc_setKd _ _ hc, ih.2⟩
  | .binary m op l r, st, h => by
    have ihl := visit_locs cfg l st h.2.1
    have ihr := visit_locs cfg r (visit cfg l st).2.2 h.2.2
    simp only [visit]
    exact ⟨allLoc_setKd _ _ ⟨h.1, ihl.1, ihr.1⟩, fun he => errC_orFail h.1 (ihr.2 (ihl.2 he))⟩
  | .matches m hre l r, st, h => by
    have ihl := visit_locs cfg l st h.2.1
    have ihr := visit_locs cfg r (visit cfg l st).2.2 h.2.2
    simp only [visit]
    exact ⟨allLoc_setKd _ _ ⟨h.1, ihl.1, ihr.1⟩, fun he => errC_orFail h.1 (ihr.2 (ihl.2 he))⟩
  | .index m l r, st, h => by
    have ihl := visit_locs cfg l st h.2.1
    have ihr := visit_locs cfg r (visit cfg l st).2.2 h.2.2
    simp only [visit]
    exact ⟨allLoc_setKd _ _ ⟨h.1, ihl.1, ihr.1⟩, fun he => errC_orFail h.1 (ihr.2 (ihl.2 he))⟩
  | .pair m k v, st, h => by
    have ihk := visit_locs cfg k st h.2.1
    have ihv := visit_locs cfg v (orFail (pairKeyRule cfg.dt (visit cfg k st).2.1) (visit cfg k st).1.loc
      (visit cfg k st).2.2).2 h.2.2
    simp only [visit]
    exact ⟨allLoc_setKd _ _ ⟨h.1, ihk.1, ihv.1⟩,
      fun he => ihv.2 (errC_orFail (Node.allLoc_root _ ihk.1) (ihk.2 he))⟩
  | .cond m c a b, st, h => by
    have ihc := visit_locs cfg c st h.2.1
    simp only [visit]
    vcase ihc with c' ct st1
    split
    · dsimp only
      exact ⟨allLoc_setKd _ _ ⟨h.1, ihc.1, h.2.2.1, h.2.2.2⟩,
        fun he => errC_fail _ (ihc.2 he) (Node.allLoc_root c' ihc.1)⟩
    · have iha := visit_locs cfg a st1 h.2.2.1
      have ihb := visit_locs cfg b (visit cfg a st1).2.2 h.2.2.2
      dsimp only
      exact ⟨allLoc_setKd _ _ ⟨h.1, ihc.1, iha.1, ihb.1⟩, fun he => ihb.2 (iha.2 (ihc.2 he))⟩
  | .array m xs, st, h => by
    have ih := visitList_locs cfg xs st h.2
    simp only [visit]
    exact ⟨allLoc_setKd _ _ ⟨h.1, ih.1⟩, ih.2⟩
  | .map m xs, st, h => by
    have ih := visitList_locs cfg xs st h.2
    simp only [visit]
    exact ⟨allLoc_setKd _ _ ⟨h.1, ih.1⟩, ih.2⟩
  | .slice m x f t, st, h => by
    have ihx := visit_locs cfg x st h.2.1
    simp only [visit]
    vcase ihx with x' tx st1
    split
    · have ihf := visitBound_locs cfg f st1 h.2.2.1
      have iht := visitBound_locs cfg t (visitBound cfg f st1).2.2 h.2.2.2
      split
      · dsimp only
        exact ⟨allLoc_setKd _ _ ⟨h.1, ihx.1, ihf.1, h.2.2.2⟩, fun he => ihf.2 (ihx.2 he)⟩
      · split
        · dsimp only
          exact ⟨allLoc_setKd _ _ ⟨h.1, ihx.1, ihf.1, iht.1⟩, fun he => iht.2 (ihf.2 (ihx.2 he))⟩
        · dsimp only
          exact ⟨allLoc_setKd _ _ ⟨h.1, ihx.1, ihf.1, iht.1⟩, fun he => iht.2 (ihf.2 (ihx.2 he))⟩
    · dsimp only
      exact ⟨allLoc_setKd _ _ ⟨h.1, ihx.1, h.2.2.1, h.2.2.2⟩, fun he => errC_fail _ (ihx.2 he) h.1⟩
  | .method m x name args ns, st, h => by
    have ihx := visit_locs cfg x st h.2.1
    simp only [visit]
    vcase ihx with x' tx st1
    split
    · split
      · dsimp only
        exact ⟨allLoc_setKd _ _ ⟨h.1, ihx.1, h.2.2⟩, fun he => errC_orFail h.1 (ihx.2 he)⟩
      · rename_i ins variadic numIn offset out _
        have iha := checkArgs_locs cfg ins variadic numIn offset 0 args st1 h.2.2
        dsimp only
        exact ⟨allLoc_setKd _ _ ⟨h.1, ihx.1, iha.1⟩, fun he => iha.2 (ihx.2 he)⟩
    · dsimp only
      exact ⟨allLoc_setKd _ _ ⟨h.1, ihx.1, h.2.2⟩, fun he => errC_orFail h.1 (ihx.2 he)⟩
  | .func m name args fast, st, h => by
    simp only [visit]
    split
    · split
      · exact ⟨allLoc_setKd _ _ h, errC_orFail h.1⟩
      · rename_i ins variadic numIn offset out _
        have iha := checkArgs_locs cfg ins variadic numIn offset 0 args st h.2
        dsimp only
        exact ⟨allLoc_setKd _ _ ⟨h.1, iha.1⟩, iha.2⟩
    · exact ⟨allLoc_setKd _ _ h, errC_orFail h.1⟩
  | .builtin m name [], st, h => by
    simp only [visit]
    exact ⟨allLoc_setKd _ _ h, fun he => errC_fail _ he h.1⟩
  | .builtin m name [a], st, h => by
    simp only [visit]
    split
    · have ih := visit_locs cfg a st h.2.1
      dsimp only
      exact ⟨allLoc_setKd _ _ ⟨h.1, ih.1, trivial⟩, fun he => errC_orFail h.1 (ih.2 he)⟩
    · exact ⟨allLoc_setKd _ _ h, fun he => errC_fail _ he h.1⟩
  | .builtin m name [a, c], st, h => by
    simp only [visit]
    split
    · have ih := visit_locs cfg a st h.2.1
      vcase ih with a' coll st1
      split
      · dsimp only
        exact ⟨allLoc_setKd _ _ ⟨h.1, ih.1, h.2.2.1, trivial⟩,
          fun he => errC_fail _ (ih.2 he) (Node.allLoc_root a' ih.1)⟩
      · have ihc := visit_locs cfg c { st1 with colls := coll :: st1.colls } h.2.2.1
        dsimp only
        exact ⟨allLoc_setKd _ _ ⟨h.1, ih.1, ihc.1, trivial⟩,
          fun he => errC_orFail (Node.allLoc_root _ ihc.1) (ihc.2 (ih.2 he))⟩
    · exact ⟨allLoc_setKd _ _ h, fun he => errC_fail _ he h.1⟩
  | .builtin m name (a :: c :: d :: rest), st, h => by
    simp only [visit]
    exact ⟨allLoc_setKd _ _ h, fun he => errC_fail _ he h.1⟩
theorem visitBound_locs (cfg : CheckCfg) : (o : Option Node) → ∀ st, Node.AllLocO P o →
    Node.AllLocO P (visitBound cfg o st).1 ∧ (ErrC P st → ErrC P (visitBound cfg o st).2.2)
  | none, st, _ => ⟨trivial, id⟩
  | some n, st, h => by
    have ih := visit_locs cfg n st h
    simp only [visitBound]
    split
    · exact ⟨ih.1, fun he => errC_fail _ (ih.2 he) (Node.allLoc_root _ ih.1)⟩
    · exact ih
theorem visitList_locs (cfg : CheckCfg) : (ns : List Node) → ∀ st, Node.AllLocL P ns →
    Node.AllLocL P (visitList cfg ns st).1 ∧ (ErrC P st → ErrC P (visitList cfg ns st).2)
  | [], st, _ => ⟨trivial, id⟩
  | n :: ns, st, h => by
    have ih := visit_locs cfg n st h.1
    have ihs := visitList_locs cfg ns (visit cfg n st).2.2 h.2
    simp only [visitList]
    exact ⟨⟨ih.1, ihs.1⟩, fun he => ihs.2 (ih.2 he)⟩
theorem checkArgs_locs (cfg : CheckCfg) (ins : List Ty) (variadic : Bool) (numIn offset : Nat) :
    (i : Nat) → (args : List Node) → ∀ st, Node.AllLocL P args →
      Node.AllLocL P (checkArgs cfg ins variadic numIn offset i args st).1 ∧
      (ErrC P st → ErrC P (checkArgs cfg ins variadic numIn offset i args st).2.2)
  | _, [], st, _ => ⟨trivial, id⟩
  | i, a :: rest, st, h => by
    have ih := visit_locs cfg a st h.1
    simp only [checkArgs]
    vcase ih with a' t0 st1
    have ha'' : (if retypes cfg.dt a (paramFor ins variadic numIn offset i) = true
        then setTypeForIntegers (paramFor ins variadic numIn offset i).kind a' else a').AllLoc P := by
      split
      · exact allLoc_stfi _ _ ih.1
      · exact ih.1
    split
    · exact ⟨⟨ha'', h.2⟩, fun he => errC_fail _ (ih.2 he) (Node.allLoc_root _ ha'')⟩
    · have ihs := checkArgs_locs cfg ins variadic numIn offset (i + 1) rest st1 h.2
      exact ⟨⟨ha'', ihs.1⟩, fun he => ihs.2 (ih.2 he)⟩
end

theorem visit_allLoc (cfg : CheckCfg) (n : Node) (st : CState) (h : n.AllLoc P) : (visit cfg n st).1.AllLoc P :=
  (visit_locs cfg n st h).1

theorem visitBound_allLoc (cfg : CheckCfg) :
    (o : Option Node) → ∀ st, Node.AllLocO P o → Node.AllLocO P (visitBound cfg o st).1 :=
  fun o st h => (visitBound_locs cfg o st h).1

theorem visitList_allLoc (cfg : CheckCfg) :
    (ns : List Node) → ∀ st, Node.AllLocL P ns → Node.AllLocL P (visitList cfg ns st).1 :=
  fun ns st h => (visitList_locs cfg ns st h).1

theorem checkArgs_allLoc (cfg : CheckCfg) (ins : List Ty) (variadic : Bool) (numIn offset : Nat) :
    (i : Nat) → (args : List Node) → ∀ st, Node.AllLocL P args →
      Node.AllLocL P (checkArgs cfg ins variadic numIn offset i args st).1 :=
  fun i args st h => (checkArgs_locs cfg ins variadic numIn offset i args st h).1

def ResLoc (P : Loc → Prop) : CheckResult → Prop
  | .ok n' _ => n'.AllLoc P
  | .error l _ n' => (∀ x, l = some x → P x) ∧ n'.AllLoc P
  | .panic _ => True

theorem resLoc_expectFail (f : ExpectFail) (n' : Node) (h : n'.AllLoc P) : ResLoc P (f.result n') := by
  cases f
  · exact ⟨fun _ e => (nomatch e), h⟩
  · trivial

/-- **`checker.Check` keeps locations**: whatever it returns — the annotated tree on success, the tree handed back
    with an error — has the locations of the tree it was given, and a located error is at one of them. -/
theorem check_allLoc (cfg : CheckCfg) (n : Node) (h : n.AllLoc P) : ResLoc P (check cfg n) := by
  have hv := visit_locs cfg n {} h
  rcases check_cases cfg n with ⟨msg, _, e⟩ | ⟨f, _, e⟩ | ⟨_, _, e⟩ | ⟨err, herr, e⟩
  · rw [e]; trivial
  · rw [e]; exact resLoc_expectFail f _ hv.1
  · rw [e]; exact hv.1
  · rw [e]; exact ⟨fun x ex => by cases ex; exact hv.2 errC_init err herr, hv.1⟩

end CheckerLocs
end ExprModel
