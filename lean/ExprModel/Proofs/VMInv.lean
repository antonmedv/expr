import ExprModel.Proofs.RuntimeFails
/-
One `step` of the byte-level VM model on ARBITRARY bytecode.  `Sat` is a two-sided postcondition on an `RV` result.
Until the last action of an instruction `pp` stays at the opcode, `ip` moves over the operand bytes read, and besides
these only stack, scopes and call log change (`Mid`).  Every helper of `step` has one rule here, in continuation form,
from `Mid` before it to `Mid` after it; what a failure reports is left open (`Reports`: any class but `budget` before
the last action, a `budget` failure that is a `Refusal` of the `pending` elements at the end of an allocating step), so
that one walk over the opcodes serves `pp`, the budget accounting and the next `ip`.
-/
namespace ExprModel

/-- `ROK` (Proofs/Outcome.lean) for results whose failures carry a state.  No precondition: what is assumed of the state
    before is said in `okP` / `errP`. -/
def Sat {α} (m : RV α) (okP : α → Prop) (errP : ErrClass → VM → Prop) : Prop :=
  match m with
  | .ok a => okP a
  | .error (e, s) => errP e s

theorem Sat.mono {α} {m : RV α} {okP okP' : α → Prop} {errP errP' : ErrClass → VM → Prop}
    (h : Sat m okP errP) (hok : ∀ a, okP a → okP' a) (herr : ∀ e s, errP e s → errP' e s) : Sat m okP' errP' := by
  cases m with
  | ok a => exact hok a h
  | error e => exact herr e.1 e.2 h

theorem Sat.ok {α} {m : RV α} {okP : α → Prop} {errP} {a : α} (h : Sat m okP errP) (hm : m = .ok a) : okP a := by
  subst hm; exact h

theorem Sat.err {α} {m : RV α} {okP : α → Prop} {errP} {e s} (h : Sat m okP errP) (hm : m = .error (e, s)) : errP e s := by
  subst hm; exact h

/-- the accounting fields are untouched: so it is throughout 49 of the 52 opcodes, and up to the last action of
    `OpRange`, `OpArray`, `OpMap` -/
def Frame (s s' : VM) : Prop := s'.memory = s.memory ∧ s'.created = s.created ∧ s'.limit = s.limit

theorem Frame.refl (s : VM) : Frame s s := ⟨rfl, rfl, rfl⟩
theorem Frame.memory {s s' : VM} (h : Frame s s') : s'.memory = s.memory := h.1
theorem Frame.created {s s' : VM} (h : Frame s s') : s'.created = s.created := h.2.1
theorem Frame.limit {s s' : VM} (h : Frame s s') : s'.limit = s.limit := h.2.2

/-- `t` is a state inside the step taken at `s`, after `n` operand bytes have been read.  `n` is 0 or 2, an operand being
    read whole; `Mid.ret` (Proofs/VMStep.lean) compares it with what the opcode declares. -/
structure Mid (s : VM) (n : Nat) (t : VM) : Prop where
  pp : t.pp = s.ip
  ip : t.ip = s.ip + 1 + n
  frame : Frame s t

namespace Mid
variable {s t : VM} {n : Nat}

theorem start (s : VM) : Mid s 0 { s with pp := s.ip, ip := s.ip + 1 } := ⟨rfl, rfl, Frame.refl s⟩
theorem stack (h : Mid s n t) (st : List Val) : Mid s n { t with stack := st } := ⟨h.pp, h.ip, h.frame⟩
theorem push (h : Mid s n t) (v : Val) : Mid s n (t.push v) := h.stack _
theorem scopes (h : Mid s n t) (sc : List Scope) : Mid s n { t with scopes := sc } := ⟨h.pp, h.ip, h.frame⟩
theorem logIf (h : Mid s n t) (b : Bool) (l : List (String × List Val)) :
    Mid s n (if b then { t with log := l } else t) := by
  cases b
  · exact h
  · exact ⟨h.pp, h.ip, h.frame⟩

end Mid

/-- what a step needs to know of a library call to pass its failure on as one of its own (`Reports.lift`) -/
def NB {α} (r : R α) : Prop := r ≠ .error .budget

theorem nb_iff_errsIn {α} {r : R α} : NB r ↔ ErrsIn (· ≠ .budget) r :=
  ⟨fun h _ he hb => h (hb ▸ he), fun h hb => h _ hb rfl⟩

theorem LibErr.ne_budget {e : ErrClass} (h : LibErr e) : e ≠ .budget := by
  rcases h with rfl | rfl | rfl <;> decide

theorem ErrsIn.nb {α} {r : R α} (h : ErrsIn LibErr r) : NB r :=
  nb_iff_errsIn.2 (h.mono fun _ => LibErr.ne_budget)

theorem nb_buildMap (l : List Val) : NB (buildMap l) :=
  nb_iff_errsIn.2 ((lib_buildMap l).mono fun _ h => h.elim LibErr.ne_budget fun h => by rw [h.1]; decide)

/-- the number of elements the instruction at `s.ip` creates if it gets as far as its budget test, read off the state
    BEFORE the step (an `OpMap` over keys that are no strings has a `pending` number and fails earlier) -/
def pending (p : Prog) (s : VM) : Option Nat :=
  match Op.ofCode? (p.code[s.ip]?.getD 255), s.stack with
  | some .range, b :: a :: _ =>
    match toIntR a, toIntR b with
    | .ok lo, .ok hi => some (rangeElems lo hi).length
    | _, _ => none
  | some .array, .int .int size :: rest => if 0 ≤ size ∧ size.toNat ≤ rest.length then some size.toNat else none
  | some .map, .int .int size :: rest => if 0 ≤ size ∧ 2 * size.toNat ≤ rest.length then some size.toNat else none
  | _, _ => none

inductive Refusal (p : Prog) (s s' : VM) : Prop
  /-- a range of `k` elements is refused *before* it is built: nothing is counted, `memory + k` would reach the limit -/
  | before (k : Nat) (hp : pending p s = some k) (hm : s'.memory = s.memory) (hc : s'.created = s.created)
      (h : s.memory + k ≥ s.limit)
  /-- an array / map of `k` elements fails *after* it was built and counted: the counter has reached the limit -/
  | after (k : Nat) (hp : pending p s = some k) (hm : s'.memory = s.memory + k) (hc : s'.created = s.created + k)
      (h : s'.memory ≥ s.limit)

/-- `E` accepts whatever a step at `s` reports when it fails: `plain` from the interpreter and its run-time library,
    `call` from an environment function (any class whatever), `refused` at the end of an allocating step -/
structure Reports (c : Cfg) (p : Prog) (s : VM) (E : ErrClass → VM → Prop) : Prop where
  plain : ∀ {e n t}, Mid s n t → e ≠ .budget → E e t
  call : ∀ {id args e n t}, Mid s n t → c.world.call id args = .error e → E e t
  /-- `step` is walked once for both variants of `OpRange`; only under the clamped one (`rangeSizeSigned = false`) does
      the counter move by the `pending` number, hence the guard here and in `Done.acct`: under the signed variant the
      walk still yields `pp` and `ip` -/
  refused : ∀ {t}, t.pp = s.ip → t.limit = s.limit → (c.defects.rangeSizeSigned = false → Refusal p s t) → E .budget t

/-- no environment function reports `budget`.  `callMember` hands such a failure on unchanged (`Reports.call`), and it
    would be a budget failure of a step that is no `Refusal`: `step_sat` and all of C06's VM theorems assume this. -/
def WorldNB (w : World) : Prop := ∀ id args, NB (w.call id args)

/-- the operand bytes at offset `k`, as `arg()` composes them -/
def argAt (p : Prog) (k : Nat) : Nat := p.code[k]?.getD 0 + 256 * p.code[k + 1]?.getD 0

namespace Reports
variable {c : Cfg} {p : Prog} {s t : VM} {n : Nat} {E : ErrClass → VM → Prop} {α β : Type} {Q : β → Prop}

theorem fail (H : Reports c p s E) (h : Mid s n t) {e : ErrClass} (he : e ≠ .budget) : Sat (failV e t : RV β) Q E :=
  H.plain h he

theorem pop (H : Reports c p s E) (h : Mid s n t) {f : Val × VM → RV β}
    (k : ∀ v t', t.stack = v :: t'.stack → Mid s n t' → Sat (f (v, t')) Q E) : Sat (t.pop >>= f) Q E := by
  unfold VM.pop
  split
  · next v rest hst => exact k v _ hst (h.stack rest)
  · exact H.plain h (by decide)

theorem pop2 (H : Reports c p s E) (h : Mid s n t) {f : Val × Val × VM → RV β}
    (k : ∀ a b t', t.stack = b :: a :: t'.stack → Mid s n t' → Sat (f (a, b, t')) Q E) : Sat (t.pop2 >>= f) Q E := by
  unfold VM.pop2
  rw [bind_assoc]
  refine H.pop h fun b t1 h1 m1 => ?_
  dsimp only
  rw [bind_assoc]
  refine H.pop m1 fun a t2 h2 m2 => ?_
  exact k a b t2 (by rw [h1, h2]) m2

theorem popN (H : Reports c p s E) : ∀ (k : Nat) {t : VM} (acc : List Val), Mid s n t → {f : List Val × VM → RV β} →
    (∀ l t', l.length = k + acc.length → t.stack.length = k + t'.stack.length → Mid s n t' → Sat (f (l, t')) Q E) →
    Sat (VM.popN k t acc >>= f) Q E
  | 0, t, acc, h, f, kf => kf acc t (by omega) (by omega) h
  | k + 1, t, acc, h, f, kf => by
    unfold VM.popN
    rw [bind_assoc]
    refine H.pop h fun v t1 h1 m1 => ?_
    refine H.popN k (v :: acc) m1 fun l t' hl hs m' => kf l t' ?_ ?_ m'
    · rw [hl, List.length_cons]; omega
    · rw [h1, List.length_cons, hs]; omega

theorem current (H : Reports c p s E) (h : Mid s n t) {f : Val → RV β} (k : ∀ v, Sat (f v) Q E) :
    Sat (t.current >>= f) Q E := by
  unfold VM.current
  split
  · exact k _
  · exact H.plain h (by decide)

theorem readArg (H : Reports c p s E) (h : Mid s 0 t) {f : Nat × VM → RV β}
    (k : ∀ t', Mid s 2 t' → Sat (f (argAt p (s.ip + 1), t')) Q E) : Sat (readArg p t >>= f) Q E := by
  -- inside `namespace Reports` the bare name is this rule, hence the full name of the model function
  unfold ExprModel.readArg
  split
  · next b0 b1 h0 h1 =>
    have ha : argAt p (s.ip + 1) = b0 + 256 * b1 := by
      unfold argAt
      rw [← h.ip, h0, h1]
      rfl
    rw [← ha]
    exact k _ ⟨h.pp, by show t.ip + 2 = _; rw [h.ip], h.frame⟩
  · exact H.plain h (by decide)

theorem readConst (H : Reports c p s E) (h : Mid s 0 t) {f : Val × VM → RV β}
    (k : ∀ v t', Mid s 2 t' → Sat (f (v, t')) Q E) : Sat (readConst p t >>= f) Q E := by
  unfold ExprModel.readConst
  rw [bind_assoc]
  refine H.readArg h fun t' m' => ?_
  dsimp only
  split
  · exact k _ t' m'
  · exact H.plain m' (by decide)

theorem lift (H : Reports c p s E) (h : Mid s n t) {r : R α} (hr : NB r) {f : α → RV β}
    (k : ∀ a, r = .ok a → Sat (f a) Q E) : Sat (liftR t r >>= f) Q E := by
  cases r with
  | ok a => exact k a rfl
  | error e => exact H.plain h fun he => hr (by rw [he])

theorem member (H : Reports c p s E) (h : Mid s n t) {fromV : Val} {name : String} {args : List Val} {f : Val → RV β}
    (k : ∀ v, Sat (f v) Q E) : Sat (liftR t (callMember c.world fromV name args) >>= f) Q E := by
  cases hr : callMember c.world fromV name args with
  | ok a => exact k a
  | error e =>
    rcases lib_callMember c.world fromV name args e hr with he | ⟨id, he⟩
    · exact H.plain h (by rw [he]; decide)
    · exact H.call h he

/-- a position outside the bytecode reads as byte 255, which is no opcode -/
theorem badop {Q : VM → Prop} (H : Reports c p s E) (hop : Op.ofCode? (p.code[s.ip]?.getD 255) = none) :
    Sat (step c p s) Q E := by
  unfold step
  simp only [hop]
  exact H.fail (Mid.start s) (by decide)

end Reports

end ExprModel
