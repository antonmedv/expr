import ExprModel.Lex.Lexer
import ExprModel.Proofs.AdvLoc
/-
What the lexer's primitives compute (`backup`, `peek`, `accept`, `acceptRunP`, `acceptWord`, the parts of `scanNumber`,
`dot`), as equations on the two forms of the input: empty, or a first rune and the rest (for `scanString`: which of
stop / own error / next mode one rune gives), and `scanNumber` cut after its digit run (`numberTail`).  `LState.stay` and
`LState.advs` are the two state changes the equations are written with.
-/
namespace ExprModel.Lex

/-- the state after a `next()` / `backup()` pair that reads nothing (a failed `accept`, a `peek`): at the end of
input `loc` falls back to `prev`, otherwise `prev` catches up with `loc` -/
def LState.stay (s : LState) : List Char → LState
  | [] => { s with width := 0, loc := s.prev }
  | _ :: _ => { s with width := 1, prev := s.loc }

theorem LState.stay_stay (s : LState) (rest : List Char) : (s.stay rest).stay rest = s.stay rest := by
  cases rest <;> rfl

theorem backup_adv (s : LState) (c : Char) (cs : List Char) :
    backup (s.adv c) cs = (s.stay (c :: cs), c :: cs) := rfl

theorem backup_atEof (s : LState) : backup s.atEof [] = (s.stay [], []) := by
  simp [backup, LState.atEof, LState.stay]

theorem peek_eq (s : LState) (rest : List Char) : peek s rest = (rest.head?, s.stay rest, rest) := by
  cases rest with
  | nil => simp [peek, next, backup_atEof]
  | cons c cs => rfl

theorem accept_cons (v : List Char) (s : LState) (c : Char) (cs : List Char) :
    accept v s (c :: cs) =
      if v.contains c then (true, s.adv c, cs) else (false, s.stay (c :: cs), c :: cs) := by
  by_cases h : v.contains c = true
  · simp only [accept, next, h, if_true]
  · simp only [accept, next, h, backup_adv]

theorem accept_nil (v : List Char) (s : LState) :
    accept v s [] = (false, s.stay [], []) := by
  simp [accept, next, backup_atEof]

theorem accept_no (v : List Char) (s : LState) (l : List Char) (h : ∀ x, l.head? = some x → v.contains x = false) :
    accept v s l = (false, s.stay l, l) := by
  cases l with
  | nil => exact accept_nil v s
  | cons x xs => rw [accept_cons, if_neg (by rw [h x rfl]; decide)]

theorem acceptRunP_nil (p : Char → Bool) (s : LState) :
    acceptRunP p s [] = (s.stay [], []) := by
  rw [acceptRunP, backup_atEof]

theorem acceptRunP_cons (p : Char → Bool) (s : LState) (c : Char) (cs : List Char) :
    acceptRunP p s (c :: cs) =
      if p c then acceptRunP p (s.adv c) cs else (s.stay (c :: cs), c :: cs) := by
  rw [acceptRunP, backup_adv]

def LState.advs (s : LState) (l : List Char) : LState := l.foldl LState.adv s

@[simp] theorem LState.advs_nil (s : LState) : s.advs [] = s := rfl
@[simp] theorem LState.advs_cons (s : LState) (c : Char) (l : List Char) : s.advs (c :: l) = (s.adv c).advs l := rfl

theorem LState.advs_append (s : LState) (a b : List Char) : s.advs (a ++ b) = (s.advs a).advs b := by
  simp [LState.advs, List.foldl_append]

theorem LState.advs_word (s : LState) (l : List Char) : (s.advs l).word = l.reverse ++ s.word := by
  induction l generalizing s with
  | nil => rfl
  | cons c l ih => simp [ih, LState.adv]

theorem LState.advs_startLoc (s : LState) (l : List Char) : (s.advs l).startLoc = s.startLoc := by
  induction l generalizing s with
  | nil => rfl
  | cons c l ih => simp [ih, LState.adv]

theorem LState.advs_loc_eq (s : LState) (l : List Char) : (s.advs l).loc = advLoc s.loc l := by
  induction l generalizing s with
  | nil => rfl
  | cons c l ih => exact ih (s.adv c)

theorem LState.advs_loc (s : LState) (l : List Char) (h : ∀ c ∈ l, c ≠ '\n') :
    (s.advs l).loc = ⟨s.loc.line, s.loc.col + l.length⟩ := by
  rw [LState.advs_loc_eq, advLoc_noNL _ _ h]

theorem LState.advs_prev (s : LState) (l : List Char) (c : Char) :
    (s.advs (l ++ [c])).prev = (s.advs l).loc := by
  rw [LState.advs_append]; rfl

theorem acceptRunP_eq (p : Char → Bool) : ∀ (s : LState) (rest : List Char),
    acceptRunP p s rest = ((s.advs (rest.takeWhile p)).stay (rest.dropWhile p), rest.dropWhile p)
  | s, [] => acceptRunP_nil p s
  | s, c :: cs => by
    rw [acceptRunP_cons]
    by_cases hp : p c = true
    · rw [if_pos hp, acceptRunP_eq p (s.adv c) cs, List.takeWhile_cons_of_pos hp, List.dropWhile_cons_of_pos hp]
      rfl
    · rw [if_neg hp, List.takeWhile_cons_of_neg hp, List.dropWhile_cons_of_neg hp]
      rfl

theorem takeWhile_run {p : Char → Bool} {l rest : List Char} (h : ∀ x ∈ l, p x = true)
    (hr : ∀ c, rest.head? = some c → p c = false) :
    (l ++ rest).takeWhile p = l ∧ (l ++ rest).dropWhile p = rest := by
  rw [List.takeWhile_append_of_pos h, List.dropWhile_append_of_pos h]
  cases rest with
  | nil => exact ⟨List.append_nil l, rfl⟩
  | cons c cs =>
    have hc : ¬ p c = true := by rw [hr c rfl]; decide
    rw [List.takeWhile_cons_of_neg hc, List.dropWhile_cons_of_neg hc]
    exact ⟨List.append_nil l, rfl⟩

theorem acceptRunP_run (p : Char → Bool) (l rest : List Char) (h : ∀ x ∈ l, p x = true)
    (hr : ∀ c, rest.head? = some c → p c = false) (s : LState) :
    acceptRunP p s (l ++ rest) = ((s.advs l).stay rest, rest) := by
  rw [acceptRunP_eq, (takeWhile_run h hr).1, (takeWhile_run h hr).2]

theorem acceptRunP_span (p : Char → Bool) (l rest : List Char) (h : ∀ x ∈ l, p x = true)
    (hr : ∀ c, rest.head? = some c → p c = false) (s : LState) : (acceptRunP p s (l ++ rest)).2 = rest := by
  rw [acceptRunP_run p l rest h hr]

/-- a `peek` before a `next` changes nothing -/
theorem skipSpaces_eq (cc : CharClass) : ∀ (s : LState) (rest : List Char),
    skipSpaces cc s rest = acceptRunP cc.wordBlank s rest
  | s, [] => by rw [skipSpaces, peek_eq, acceptRunP_nil]
  | s, c :: cs => by
    rw [skipSpaces, peek_eq, acceptRunP_cons]
    by_cases hc : cc.wordBlank c = true
    · rw [if_pos hc, if_pos hc]
      exact skipSpaces_eq cc (s.adv c) cs
    · rw [if_neg hc, if_neg hc]

theorem numberPrefix_cons (T : LexTables) (s : LState) (c : Char) (cs : List Char) :
    numberPrefix T s (c :: cs) =
      if T.hexMark.contains c then (T.hexDigits, s.adv c, cs)
      else if T.octMark.contains c then (T.octDigits, s.adv c, cs)
      else if T.binMark.contains c then (T.binDigits, s.adv c, cs)
      else (T.decDigits, s.stay (c :: cs), c :: cs) := by
  by_cases h1 : T.hexMark.contains c = true
  · simp only [numberPrefix, accept_cons, h1, if_true]
  by_cases h2 : T.octMark.contains c = true
  · simp only [numberPrefix, accept_cons, h1, h2, if_true, if_false, Bool.false_eq_true]; rfl
  by_cases h3 : T.binMark.contains c = true
  · simp only [numberPrefix, accept_cons, h1, h2, h3, if_true, if_false, Bool.false_eq_true]; rfl
  · simp only [numberPrefix, accept_cons, h1, h2, h3, if_false, Bool.false_eq_true, LState.stay_stay]

theorem numberPrefix_none (T : LexTables) (s : LState) (l : List Char)
    (h : ∀ x, l.head? = some x → T.hexMark.contains x = false ∧ T.octMark.contains x = false ∧
      T.binMark.contains x = false) :
    numberPrefix T s l = (T.decDigits, s.stay l, l) := by
  simp only [numberPrefix, accept_no _ _ l fun x hx => (h x hx).1, accept_no _ _ l fun x hx => (h x hx).2.1,
    accept_no _ _ l fun x hx => (h x hx).2.2, Bool.false_eq_true, if_false, LState.stay_stay]

theorem numberDigits_zero {T : LexTables} {c : Char} (h : T.zero.contains c = true) (s : LState) (cs : List Char) :
    numberDigits T s (c :: cs) = numberPrefix T (s.adv c) cs := by
  simp only [numberDigits, accept_cons, h, if_true]

theorem numberDigits_hex {T : LexTables} {c m : Char} (hz : T.zero.contains c = true)
    (hm : T.hexMark.contains m = true) (s : LState) (cs : List Char) :
    numberDigits T s (c :: m :: cs) = (T.hexDigits, (s.adv c).adv m, cs) := by
  rw [numberDigits_zero hz, numberPrefix_cons, if_pos hm]

theorem numberDigits_nonzero {T : LexTables} {c : Char} (h : ¬ T.zero.contains c = true) (s : LState)
    (cs : List Char) :
    numberDigits T s (c :: cs) = (T.decDigits, s.stay (c :: cs), c :: cs) := by
  simp only [numberDigits, accept_cons, h, if_false, Bool.false_eq_true]

theorem numberDigits_nil (T : LexTables) (s : LState) :
    numberDigits T s [] = (T.decDigits, s.stay [], []) := by
  simp only [numberDigits, accept_nil, if_false, Bool.false_eq_true]

theorem numberFraction_dot {T : LexTables} {c : Char} (h : T.dotC.contains c = true) (D : List Char) (s : LState)
    (cs : List Char) :
    numberFraction T D s (c :: cs) =
      if cs.head? = some '.' then none else some (acceptRun D ((s.adv c).stay cs) cs) := by
  simp only [numberFraction, accept_cons, h, if_true, peek_eq]

theorem numberFraction_none (T : LexTables) (D : List Char) (s : LState) (l : List Char)
    (h : ∀ x, l.head? = some x → T.dotC.contains x = false) : numberFraction T D s l = some (s.stay l, l) := by
  simp only [numberFraction, accept_no _ _ l h, Bool.false_eq_true, if_false]

theorem numberExponent_mark {T : LexTables} {c : Char} (h : T.expMark.contains c = true) (D : List Char) (s : LState)
    (cs : List Char) :
    numberExponent T D s (c :: cs) =
      acceptRun D (accept T.signs (s.adv c) cs).2.1 (accept T.signs (s.adv c) cs).2.2 := by
  simp only [numberExponent, accept_cons, h, if_true]

theorem numberExponent_none (T : LexTables) (D : List Char) (s : LState) (l : List Char)
    (h : ∀ x, l.head? = some x → T.expMark.contains x = false) : numberExponent T D s l = (s.stay l, l) := by
  simp only [numberExponent, accept_no _ _ l h, Bool.false_eq_true, if_false]

/-- `scanNumber` after the digit run: its text from `match numberFraction …` on, copied so that `scanNumber_eq` below
holds by `rfl`; an edit of `scanNumber` is to be repeated here -/
def numberTail (cc : CharClass) (T : LexTables) (digits : List Char) (s1 : LState) (r1 : List Char) :
    Bool × LState × List Char :=
  match numberFraction T digits s1 r1 with
  | none => (true, { s1 with width := 1 }, r1)
  | some (s2, r2) =>
    let (s3, r3) := numberExponent T digits s2 r2
    let (p, s4, r4) := peek s3 r3
    match p with
    | some c => if cc.isAlphaNumeric c then (false, (next s4 r4).2.1, (next s4 r4).2.2) else (true, s4, r4)
    | none => (true, s4, r4)

theorem scanNumber_eq (cc : CharClass) (T : LexTables) (s : LState) (rest : List Char) :
    scanNumber cc T s rest =
      numberTail cc T (numberDigits T s rest).1
        (acceptRun (numberDigits T s rest).1 (numberDigits T s rest).2.1 (numberDigits T s rest).2.2).1
        (acceptRun (numberDigits T s rest).1 (numberDigits T s rest).2.1 (numberDigits T s rest).2.2).2 := rfl

theorem numberTail_ok {cc : CharClass} {T : LexTables} {D : List Char} {s1 s2 : LState} {r1 r2 rest : List Char}
    (hF : numberFraction T D s1 r1 = some (s2, r2)) (hE : (numberExponent T D s2 r2).2 = rest)
    (hrest : ∀ x, rest.head? = some x → cc.isAlphaNumeric x = false) :
    ∃ s', numberTail cc T D s1 r1 = (true, s', rest) := by
  subst hE
  simp only [numberTail, hF, peek_eq]
  cases hh : (numberExponent T D s2 r2).2.head? with
  | none => exact ⟨_, rfl⟩
  | some x => simp only [hrest x hh, Bool.false_eq_true, if_false]; exact ⟨_, rfl⟩

theorem unterminated_ne_fuel : ("unterminated" : String) ≠ "fuel" := by decide
theorem escape_ne_fuel : ("escape" : String) ≠ "fuel" := by decide

theorem scanString_nil (T : LexTables) (q : Char) (m : SMode) (s : LState) :
    ∃ e, scanString T q m s [] = .error e ∧ e.2 ≠ "fuel" := by
  cases m
  · exact ⟨_, by rw [scanString], unterminated_ne_fuel⟩
  · exact ⟨_, by rw [scanString], escape_ne_fuel⟩
  · exact ⟨_, by rw [scanString], escape_ne_fuel⟩

theorem scanString_cons (T : LexTables) (q : Char) (m : SMode) (s : LState) (c : Char) (cs : List Char) :
    scanString T q m s (c :: cs) = .ok (s.adv c, cs) ∨
    (∃ e, scanString T q m s (c :: cs) = .error e ∧ e.2 ≠ "fuel") ∨
    ∃ m', scanString T q m s (c :: cs) = scanString T q m' (s.adv c) cs := by
  cases m with
  | normal =>
    by_cases h1 : c = q
    · exact Or.inl (by rw [scanString, if_pos h1])
    by_cases h2 : c = '\n'
    · exact Or.inr (Or.inl ⟨_, by rw [scanString, if_neg h1, if_pos h2], unterminated_ne_fuel⟩)
    by_cases h3 : c = '\\'
    · exact Or.inr (Or.inr ⟨.esc, by rw [scanString, if_neg h1, if_neg h2, if_pos h3]⟩)
    · exact Or.inr (Or.inr ⟨.normal, by rw [scanString, if_neg h1, if_neg h2, if_neg h3]⟩)
  | esc =>
    by_cases h1 : (T.escSimple.contains c || c == q) = true
    · exact Or.inr (Or.inr ⟨.normal, by rw [scanString, if_pos h1]⟩)
    by_cases h2 : T.escOct.contains c = true
    · exact Or.inr (Or.inr ⟨.digits 8 1, by rw [scanString, if_neg h1, if_pos h2]⟩)
    cases h3 : lookup c T.escHex with
    | some n => exact Or.inr (Or.inr ⟨SMode.ofDigits 16 n, by rw [scanString, if_neg h1, if_neg h2, h3]⟩)
    | none => exact Or.inr (Or.inl ⟨_, by rw [scanString, if_neg h1, if_neg h2, h3], escape_ne_fuel⟩)
  | digits b n =>
    by_cases h : digitVal c < b
    · exact Or.inr (Or.inr ⟨SMode.ofDigits b n, by rw [scanString, if_pos h]⟩)
    · exact Or.inr (Or.inl ⟨_, by rw [scanString, if_neg h], escape_ne_fuel⟩)

theorem acceptWord_none {cc : CharClass} {word : List Char} {s : LState} {rest : List Char}
    (h : matchWord word (skipSpaces cc s rest).1 (skipSpaces cc s rest).2 = none) :
    acceptWord cc word s rest =
      (false, { (skipSpaces cc s rest).1 with word := s.word, loc := s.loc, prev := s.prev }, rest) := by
  simp only [acceptWord, h]

theorem acceptWord_some {cc : CharClass} {word : List Char} {s : LState} {rest : List Char} {o : LState × List Char}
    (h : matchWord word (skipSpaces cc s rest).1 (skipSpaces cc s rest).2 = some o) :
    acceptWord cc word s rest =
      if o.2.head?.all cc.wordEnd then (true, o.1.stay o.2, o.2)
      else (false, { o.1.stay o.2 with word := s.word, loc := s.loc, prev := s.prev }, rest) := by
  simp only [acceptWord, h, peek_eq]
  cases o.2.head? with
  | none => rfl
  | some c => cases hc : cc.wordEnd c <;> simp [hc]

theorem dotState_digit {T : LexTables} {c2 : Char} (hd : T.dotDigits.contains c2 = true) (cc : CharClass)
    (s : LState) (c : Char) (cs : List Char) :
    dotState cc T s (c :: c2 :: cs) =
      numberState cc T ((s.adv c).stay (c2 :: cs)) (c2 :: cs) := by
  simp only [dotState, next, accept_cons, hd, if_true, backup_adv]

theorem dotState_other {T : LexTables} {rest : List Char}
    (hd : ∀ x, rest.head? = some x → T.dotDigits.contains x = false) (cc : CharClass) (s : LState) (c : Char) :
    dotState cc T s (c :: rest) =
      emit .operator (accept T.dotC ((s.adv c).stay rest) rest).2.1 (accept T.dotC ((s.adv c).stay rest) rest).2.2 := by
  simp only [dotState, next, accept_no _ _ rest hd, Bool.false_eq_true, if_false]

end ExprModel.Lex
