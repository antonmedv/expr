import ExprModel.Proofs.ParserZero
/-
Fuel monotonicity of the parser model: once a parser function has an answer (a value or an error)
more fuel gives the same answer.
-/
namespace ExprModel.Parser

def Le {α : Type} (a b : Res α) : Prop := a = .fuel ∨ a = b

theorem Le.refl {α : Type} {a : Res α} : Le a a := Or.inr rfl
theorem Le.fuel {α : Type} {b : Res α} : Le .fuel b := Or.inl rfl

theorem Le.trans {α : Type} {a b c : Res α} (h1 : Le a b) (h2 : Le b c) : Le a c := by
  rcases h1 with h | h
  · exact Or.inl h
  · subst h; exact h2

theorem Le.bind {α β : Type} {a a' : Res α} {k k' : α → List Token → Res β}
    (h : Le a a') (hk : ∀ x ts, Le (k x ts) (k' x ts)) : Le (a.bind k) (a'.bind k') := by
  rcases h with h | h
  · subst h; exact Le.fuel
  · subst h
    cases a with
    | ok x ts => exact hk x ts
    | err e => exact Le.refl
    | fuel => exact Le.fuel

theorem Le.ite {α : Type} {c : Prop} [Decidable c] {a a' b b' : Res α}
    (h1 : Le a a') (h2 : Le b b') : Le (if c then a else b) (if c then a' else b') := by
  split
  · exact h1
  · exact h2

theorem Le.eq_of_ne {α : Type} {a b : Res α} (h : Le a b) (hne : a ≠ .fuel) : b = a := by
  rcases h with h | h
  · exact absurd h hne
  · exact h.symm

theorem Le.chain {α : Type} (g : Nat → Res α) (h : ∀ f, Le (g f) (g (f+1))) {f f' : Nat} (hf : f ≤ f') :
    Le (g f) (g f') := by
  induction hf with
  | refl => exact Le.refl
  | step _ ih => exact ih.trans (h _)

variable (cfg : Cfg)

structure MonoAt (f : Nat) : Prop where
  expr : ∀ d p ts, Le (parseExpression cfg f d p ts) (parseExpression cfg (f+1) d p ts)
  loop : ∀ d p l ts, Le (exprLoop cfg f d p l ts) (exprLoop cfg (f+1) d p l ts)
  prim : ∀ d ts, Le (parsePrimary cfg f d ts) (parsePrimary cfg (f+1) d ts)
  cond : ∀ d n ts, Le (parseConditional cfg f d n ts) (parseConditional cfg (f+1) d n ts)
  pexp : ∀ d ts, Le (parsePrimaryExpression cfg f d ts) (parsePrimaryExpression cfg (f+1) d ts)
  ident : ∀ d t ts, Le (parseIdentifierExpression cfg f d t ts) (parseIdentifierExpression cfg (f+1) d t ts)
  clos : ∀ d ts, Le (parseClosure cfg f d ts) (parseClosure cfg (f+1) d ts)
  arr : ∀ d ts, Le (parseArray cfg f d ts) (parseArray cfg (f+1) d ts)
  arrL : ∀ d b ts, Le (arrayLoop cfg f d b ts) (arrayLoop cfg (f+1) d b ts)
  map : ∀ d ts, Le (parseMap cfg f d ts) (parseMap cfg (f+1) d ts)
  mapL : ∀ d l b ts, Le (mapLoop cfg f d l b ts) (mapLoop cfg (f+1) d l b ts)
  post : ∀ d n b ts, Le (parsePostfix cfg f d n b ts) (parsePostfix cfg (f+1) d n b ts)
  args : ∀ d ts, Le (parseArguments cfg f d ts) (parseArguments cfg (f+1) d ts)
  argsL : ∀ d b ts, Le (argsLoop cfg f d b ts) (argsLoop cfg (f+1) d b ts)

/- Both sides are the same program over the functions at fuel `f` and `f+1`; what makes no call is `refl`. -/
theorem monoAt : ∀ f, MonoAt cfg f
  | 0 => by
    constructor <;> intros <;> simp only [parser_zero] <;> exact .fuel
  | f+1 => by
    have ih := monoAt f
    constructor
    · intro d p ts
      rw [parseExpression, parseExpression]
      exact .bind (ih.prim _ _) fun _ _ => .bind (ih.loop _ _ _ _) fun _ _ => .ite (ih.cond _ _ _) .refl
    · intro d p l ts
      rw [exprLoop, exprLoop]
      split
      · refine .ite (.bind .refl fun _ _ => .bind (ih.expr _ _ _) fun r _ => .ite ?_ (ih.loop _ _ _ _)) .refl
        split
        · exact .ite .refl (ih.loop _ _ _ _)
        · exact ih.loop _ _ _ _
      · exact .refl
    · intro d ts
      rw [parsePrimary, parsePrimary]
      split
      · exact .bind .refl fun _ _ => .bind (ih.expr _ _ _) fun _ _ => ih.post _ _ _ _
      · exact .ite
          (.bind .refl fun _ _ => .bind (ih.expr _ _ _) fun _ _ => .bind .refl fun _ _ => ih.post _ _ _ _)
          (.ite (.ite (.bind .refl fun _ _ => ih.post _ _ _ _) .refl)
            (.ite (.ite (ih.post _ _ _ _) .refl) (ih.pexp _ _)))
    · intro d nd ts
      rw [parseConditional, parseConditional]
      exact .ite
        (.bind .refl fun _ _ => .ite
          (.bind .refl fun _ _ => .bind (ih.expr _ _ _) fun _ _ => ih.cond _ _ _)
          (.bind (ih.expr _ _ _) fun _ _ => .bind .refl fun _ _ => .bind (ih.expr _ _ _) fun _ _ =>
            ih.cond _ _ _))
        .refl
    · intro d ts
      rw [parsePrimaryExpression, parsePrimaryExpression]
      split
      · exact .bind .refl fun _ _ => .ite .refl (.ite .refl (.ite .refl
          (.bind (ih.ident _ _ _) fun _ _ => ih.post _ _ _ _)))
      · exact .refl
      · exact .refl
      · exact .ite (.bind (ih.arr _ _) fun _ _ => ih.post _ _ _ _)
          (.ite (.bind (ih.map _ _) fun _ _ => ih.post _ _ _ _) .refl)
    · intro d tok ts
      rw [parseIdentifierExpression, parseIdentifierExpression]
      refine .ite ?_ .refl
      split
      · exact .bind .refl fun _ _ => .bind
          (.ite (.bind (ih.expr _ _ _) fun _ _ => .refl)
            (.ite (.bind (ih.expr _ _ _) fun _ _ => .bind .refl fun _ _ => .bind (ih.clos _ _) fun _ _ => .refl)
              .refl))
          fun _ _ => .refl
      · exact .bind (ih.args _ _) fun _ _ => .refl
    · intro d ts
      rw [parseClosure, parseClosure]
      exact .bind .refl fun _ _ => .bind (ih.expr _ _ _) fun _ _ => .refl
    · intro d ts
      rw [parseArray, parseArray]
      exact .bind .refl fun _ _ => .bind (ih.arrL _ _ _) fun _ _ => .refl
    · intro d b ts
      rw [arrayLoop, arrayLoop]
      exact .ite .refl (.bind .refl fun _ _ => .ite .refl
        (.bind (ih.expr _ _ _) fun _ _ => .bind (ih.arrL _ _ _) fun _ _ => .refl))
    · intro d ts
      rw [parseMap, parseMap]
      exact .bind .refl fun _ _ => .bind (ih.mapL _ _ _ _) fun _ _ => .refl
    · intro d l b ts
      rw [mapLoop, mapLoop]
      exact .ite .refl (.bind .refl fun _ _ => .ite .refl (.ite .refl
        (.bind (.ite .refl (.ite (ih.expr _ _ _) .refl)) fun _ _ =>
          .bind .refl fun _ _ => .bind (ih.expr _ _ _) fun _ _ => .bind (ih.mapL _ _ _ _) fun _ _ => .refl)))
    · intro d nd b ts
      rw [parsePostfix, parsePostfix]
      refine .ite (.ite ?member (.ite ?index .refl)) .refl
      case member =>
        exact .bind .refl fun _ _ => .bind .refl fun _ _ => .ite .refl
          (.ite (.bind (ih.args _ _) fun _ _ => ih.post _ _ _ _) (ih.post _ _ _ _))
      case index =>
        refine .bind .refl fun _ _ => .ite ?_ ?_
        · exact .bind .refl fun _ _ => .bind (.ite .refl (.bind (ih.expr _ _ _) fun _ _ => .refl)) fun _ _ =>
            .bind .refl fun _ _ => ih.post _ _ _ _
        · exact .bind (ih.expr _ _ _) fun _ _ => .ite
            (.bind .refl fun _ _ => .bind (.ite .refl (.bind (ih.expr _ _ _) fun _ _ => .refl)) fun _ _ =>
              .bind .refl fun _ _ => ih.post _ _ _ _)
            (.bind .refl fun _ _ => ih.post _ _ _ _)
    · intro d ts
      rw [parseArguments, parseArguments]
      exact .bind .refl fun _ _ => .bind (ih.argsL _ _ _) fun _ _ => .refl
    · intro d b ts
      rw [argsLoop, argsLoop]
      exact .ite .refl (.bind .refl fun _ _ =>
        .bind (ih.expr _ _ _) fun _ _ => .bind (ih.argsL _ _ _) fun _ _ => .refl)

theorem parseExpression_mono {f f' : Nat} (hf : f ≤ f') (d p : Nat) (ts : List Token)
    (h : parseExpression cfg f d p ts ≠ .fuel) :
    parseExpression cfg f' d p ts = parseExpression cfg f d p ts :=
  (Le.chain (fun f => parseExpression cfg f d p ts) (fun f => (monoAt cfg f).expr d p ts) hf).eq_of_ne h

theorem parseFuel_mono {f f' : Nat} (hf : f ≤ f') (ts : List Token) (h : parseFuel cfg f ts ≠ .outOfFuel) :
    parseFuel cfg f' ts = parseFuel cfg f ts := by
  unfold parseFuel at h ⊢
  have hne : parseExpression cfg f 0 0 ts ≠ .fuel := by
    intro hc; rw [hc] at h; exact h rfl
  rw [parseExpression_mono cfg hf 0 0 ts hne]

end ExprModel.Parser
