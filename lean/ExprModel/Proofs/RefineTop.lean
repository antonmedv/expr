import ExprModel.Proofs.RefineSimAll
import ExprModel.Proofs.RefinePoolMain
import ExprModel.Proofs.LoopSteps
/-
C01: from the simulation to the statements about `compileNode` / `compileProgram` and the fuel-indexed
dispatch loop `run`.
-/
namespace ExprModel.Refine
open ExprModel
open ExprModel.Spec

def progOf (cp : Compiled) : Prog := { code := cp.bytes.toArray, consts := cp.consts }

theorem progOf_code_size (cp : Compiled) : (progOf cp).code.size = lsize cp.code := by
  simp [progOf, Compiled.bytes, Bc.codeSize_eq_length, lsize]

def lprogOf (cp : Compiled) (bl : ErrClass → Loc → Prop) : LProg :=
  { prog := progOf cp, full := cp.code, enc := rfl, blame := bl }

theorem codeAt_of_layout {P : LProg} {pre code post : List LInstr}
    (h : P.full = pre ++ code ++ post) (hf : FitsU16 code) :
    CodeAt P (lsize pre) code := ⟨pre, post, h, rfl, hf⟩

theorem compile_sim {cfg : CompCfg} {n : Node} {pool pool' : Pool} {code : List LInstr} {F : Val → Prop} {loops : Node → Prop}
    {c : Cfg} {P : LProg} (hc : compileNode cfg n pool = .ok (code, pool')) (hF : AliasFree F) (hinv : PoolInv F pool)
    (hfl : FloatsIn F n) (hg : Good loops n) (hK : PoolExt pool' P.consts) (henv : EnvOK c cfg)
    (hloop : LoopCase c P loops) (ctx : Ctx) : Sim c P ctx n code :=
  sim henv hloop n code ctx ((compile_compiles cfg F hF n pool code pool' hc hinv hfl).comp _ hK) hg

def RunAgrees (out : R Val × VM) (spec : R Val × SState) : Prop :=
  out.1 = spec.1 ∧ obs out.2 = spec.2 ∧ (∀ v, out.1 = .ok v → out.2.stack = [] ∧ out.2.scopes = [])

def progOutcome (c : Cfg) (cfg : CompCfg) (n : Node) (cp : Compiled) : Res :=
  outcome (Spec.run (specOf c) cfg.cast n).1 (lsize cp.code) [] [] (Spec.run (specOf c) cfg.cast n).2 c.budget

theorem program_runs {cfg : CompCfg} {n : Node} {cp : Compiled} {F : Val → Prop} {loops : Node → Prop} {c : Cfg}
    (bl : ErrClass → Loc → Prop)
    (hc : compileProgram cfg n = .ok cp) (hF : AliasFree F) (hfl : FloatsIn F n) (hg : Good loops n)
    (hfit : FitsU16 cp.code) (henv : EnvOK c cfg) (hloop : LoopCase c (lprogOf cp bl) loops)
    (hB : BAt bl (evalLoc (specOf c) [] n) {})
    -- the `OpCast` of the result directive carries no location (`castCode`)
    (hcb : ∀ t v e, cfg.cast = some t → castV t v = .error e → bl e {}) :
    Runs c (lprogOf cp bl) (vm 0 [] [] {} c.budget) (progOutcome c cfg n cp) := by
  obtain ⟨code, p, hcn, _, rfl⟩ := compileProgram_ok hc
  have hsim := compile_sim (c := c) (P := lprogOf ⟨code ++ _, p.consts⟩ bl) hcn hF (PoolInv.empty F) hfl hg (PoolExt.refl p) henv hloop []
  unfold progOutcome
  have hfit' := FitsU16.append.1 hfit
  have hcode : CodeAt (lprogOf ⟨code ++ castCode cfg.cast, p.consts⟩ bl) 0 code :=
    codeAt_of_layout (pre := []) (post := castCode cfg.cast) (by simp [lprogOf]) hfit'.1
  cases hev : eval (specOf c) [] n {} with
  | mk r σ' =>
  rw [Spec.run_eq, hev]
  have hrun := hsim 0 [] [] {} r σ' hcode rfl hev hB
  cases r with
  | error e => simpa [Except.bind] using hrun
  | ok v =>
    cases hcast : cfg.cast with
    | none => simpa [hcast, castCode, Except.bind] using hrun
    | some tc =>
      simp only [hcast, castCode] at hfit' hcode hrun ⊢
      have hcast' : CodeAt (lprogOf ⟨code ++ [li {} .cast tc], p.consts⟩ bl) (lsize code) [li {} .cast tc] :=
        codeAt_of_layout (pre := code) (post := []) (by simp [lprogOf]) hfit'.2
      refine Reach.runs (by simpa using hrun) ?_
      have := Runs.cast_any (c := c) (st := []) (scs := []) (σ := σ') (lim := c.budget) (v := v) hcast'
        (fun e he => hcb tc v e hcast he)
      exact this.to_ip (by ip_arith)

theorem run_conforms_gen {cfg : CompCfg} {n : Node} {cp : Compiled} {F : Val → Prop} {loops : Node → Prop} {c : Cfg}
    (hc : compileProgram cfg n = .ok cp) (hF : AliasFree F) (hfl : FloatsIn F n) (hg : Good loops n)
    (hfit : FitsU16 cp.code) (henv : EnvOK c cfg) (hloop : LoopCase c (lprogOf cp (fun _ _ => True)) loops) :
    ∃ N, ∀ fuel, N ≤ fuel → RunAgrees (run c (progOf cp) fuel) (Spec.run (specOf c) cfg.cast n) := by
  have hrun := program_runs (fun _ _ => True) hc hF hfl hg hfit henv hloop
    (BAt.trivial _ _) (fun _ _ _ _ _ => trivial)
  -- `progOutcome` stands at the end of the code, where `loop` stops and returns the top of the stack
  obtain ⟨N, hN⟩ := loop_runs (P := lprogOf cp (fun _ _ => True)) hrun
    (by show (progOf cp).code.size ≤ _; rw [progOf_code_size]; omega)
  refine ⟨N, fun fuel hf => ?_⟩
  obtain ⟨t, ht, ho, hst⟩ := hN fuel hf
  rw [run_fresh]
  have ht' : loop c (progOf cp) fuel (vm 0 [] [] {} c.budget) = (_, t) := ht
  rw [ht']
  exact ⟨rfl, ho, hst⟩

end ExprModel.Refine
