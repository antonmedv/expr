import ExprModel.Proofs.Select
/-
For C16 only (the `Sound*` modules are C03's and do not use it).
The entries of `conf.FieldsFromStruct` as the snapshot wrote it (`rawAt`: merge loop in declaration order) that are not
marked ambiguous are sound: whenever the table holds such an entry for a name, Go's selector rule
(`reflect.FieldByName`) resolves that name, to a field of exactly the recorded type (`rawAt_sound`, from the case
analysis `loopAt_classify`).  The merge loop errs only on the side of spurious "ambiguous" marks (witnesses in
`Props/C16.lean`).  The variant `d` enters through `accepts d` alone (which fields the loop enters), hence the hypothesis
`AllAccepted d t name`; C16 uses the statements at `asWas`, where it is `allAccepted_asWas`.
-/
namespace ExprModel
open Table

/-- a non-ambiguous entry is the initial one, or the last accepted own field of that name, or comes from the only
    embedded field that knows the name -/
theorem loopAt_classify (d : NDefects) (R : Ty → String → Option Tag) (name : String) :
    ∀ (fs : List Field) (cur : Option Tag) (g : Tag),
      loopAt d R name fs cur = some g → g.ambiguous = false →
      (cur = some g ∧ ∀ f ∈ fs, NoEvent d R name f) ∨
      (∃ pre f₀ post, fs = pre ++ f₀ :: post ∧ accepts d f₀ = true ∧ f₀.name = name ∧
          g = { ty := some f₀.ty } ∧ ∀ f ∈ post, NoEvent d R name f) ∨
      (cur = none ∧ ∃ pre f₁ post, fs = pre ++ f₁ :: post ∧ f₁.anon = true ∧ R f₁.ty name = some g ∧
          ¬ (accepts d f₁ = true ∧ f₁.name = name) ∧ ∀ f ∈ pre ++ post, NoEvent d R name f)
  | [], cur, g, h, _ => Or.inl ⟨h, fun _ hf => nomatch hf⟩
  | f :: fs, cur, g, h, ha => by
    rw [loopAt] at h
    rcases loopAt_classify d R name fs _ g h ha with ⟨hcur, hno⟩ | ⟨pre, f₀, post, hfs, hacc, hn, hg, hno⟩ |
        ⟨hcur, pre, f₁, post, hfs, hanon, hR, hnown, hno⟩
    · -- nothing happens after `f`: the entry is what `f` leaves
      by_cases hne : NoEvent d R name f
      · rw [stepAt_noEvent hne] at hcur
        exact Or.inl ⟨hcur, List.forall_mem_cons.2 ⟨hne, hno⟩⟩
      · rcases not_noEvent hne with hown | ⟨hown, hanon, g', hR⟩
        · rw [stepAt_own hown] at hcur
          exact Or.inr (Or.inl ⟨[], f, fs, rfl, hown.1, hown.2, (Option.some.inj hcur).symm, hno⟩)
        · -- an embedded field that knows the name: on top of an earlier entry the result would be ambiguous
          rw [stepAt_not_own hown, if_pos hanon, hR] at hcur
          cases cur with
          | some c =>
            rw [mergeAt_some_some] at hcur
            rw [← Option.some.inj hcur] at ha
            cases ha
          | none =>
            rw [mergeAt_none_some] at hcur
            rw [Option.some.inj hcur] at hR
            exact Or.inr (Or.inr ⟨rfl, [], f, fs, rfl, hanon, hR, hown, hno⟩)
    · exact Or.inr (Or.inl ⟨f :: pre, f₀, post, by rw [hfs]; rfl, hacc, hn, hg, hno⟩)
    · -- the entry is still empty after `f`: `f` does not touch it
      obtain ⟨hc, hne⟩ := (loopAt_eq_none_iff [f] cur).1 hcur
      refine Or.inr (Or.inr ⟨hc, f :: pre, f₁, post, by rw [hfs]; rfl, hanon, hR, hnown, ?_⟩)
      exact List.forall_mem_cons.2 ⟨hne f (List.mem_singleton.2 rfl), hno⟩

/-- field names of one struct are distinct (Go's rule), at every depth -/
def NamesWF (t : Ty) : Prop :=
  ∀ d, ∀ u ∈ levelTys d t, (u.fields.map Field.name).Nodup

theorem NamesWF.levels {t : Ty} (h : NamesWF t) : AtEveryLevel (fun u => (u.fields.map Field.name).Nodup) t := h

theorem filter_name_eq_singleton (name : String) :
    ∀ (fs : List Field) (f₀ : Field), (fs.map Field.name).Nodup → f₀ ∈ fs → f₀.name = name →
      fs.filter (fun f => f.name = name) = [f₀] := by
  intro fs
  induction fs with
  | nil => intro f₀ _ h; cases h
  | cons f fs ih =>
    intro f₀ hnd hf hn
    rw [List.map_cons, List.nodup_cons] at hnd
    rcases List.mem_cons.1 hf with rfl | hf
    · rw [List.filter_cons, if_pos (by simpa using hn)]
      congr 1
      apply List.filter_eq_nil_iff.2
      intro x hx hxn
      apply hnd.1
      have : x.name = f₀.name := by rw [hn]; simpa using hxn
      rw [← this]
      exact List.mem_map.2 ⟨x, hx, rfl⟩
    · have hne : ¬ f.name = name := by
        intro h
        apply hnd.1
        rw [h, ← hn]
        exact List.mem_map.2 ⟨f₀, hf, rfl⟩
      rw [List.filter_cons, if_neg (by simpa using hne)]
      exact ih f₀ hnd.2 hf hn

/-- every field called `name`, at any depth, is one the variant `d` enters into the table.  A field the loop skips is an
    occurrence for Go's rule all the same, so without this the absence of an entry would not tell the absence of the
    name. -/
def AllAccepted (d : NDefects) (t : Ty) (name : String) : Prop :=
  AtEveryLevel (fun u => ∀ f ∈ u.fields, f.name = name → accepts d f = true) t

theorem allAccepted_asWas (t : Ty) (n : String) : AllAccepted .asWas t n :=
  fun _ _ _ _ _ _ => rfl

theorem AllAccepted.at {d : NDefects} {t : Ty} {name : String} (h : AllAccepted d t name) {k : Nat} {f : Field}
    (hf : f ∈ levelFields k t) (hn : f.name = name) : accepts d f = true := by
  obtain ⟨u, hu, hfu⟩ := List.mem_flatMap.1 hf
  exact h k u hu f hfu hn

theorem rawAt_none_no_occ (d : NDefects) (name : String) (fuel : Nat) (t : Ty) (hd : t.depth ≤ fuel)
    (hwf : EmbWF t) (hp : t.isPtr = false) (hall : AllAccepted d t name) (h : rawAt d fuel t name = none)
    (j : Nat) : occAt j t name = [] := by
  apply List.filter_eq_nil_iff.2
  intro f hf hn
  have hn' : f.name = name := of_decide_eq_true hn
  have hj : j < fuel := by
    apply Nat.lt_of_not_le
    intro hle
    rw [levelFields_eq_nil_of_depth_le j t (Nat.le_trans hd hle)] at hf
    cases hf
  have := rawAt_isSome_of_level d name j t fuel hwf hp hj f hf (hall.at hf hn') hn'
  rw [h] at this
  cases this

theorem flatMap_single {α β : Type} (F : α → List β) (pre post : List α) (x : α)
    (h : ∀ y ∈ pre ++ post, F y = []) : (pre ++ x :: post).flatMap F = F x := by
  rw [List.flatMap_append, List.flatMap_cons]
  have h1 : pre.flatMap F = [] :=
    List.flatMap_eq_nil_iff.2 fun y hy => h y (List.mem_append.2 (Or.inl hy))
  have h2 : post.flatMap F = [] :=
    List.flatMap_eq_nil_iff.2 fun y hy => h y (List.mem_append.2 (Or.inr hy))
  rw [h1, h2]; simp

/-- By `loopAt_classify`.  In the embedded case every other embedded struct has no entry for `name`, hence
    (`rawAt_none_no_occ`) no occurrence at any level, so level `j + 1` of `t` is level `j` of the one struct `f₁`
    (`hsucc`) and the induction hypothesis for `embTarget f₁` answers, one level further down. -/
theorem rawAt_sound (d : NDefects) (name : String) :
    ∀ (fuel : Nat) (t : Ty) (g : Tag), t.depth ≤ fuel → EmbWF t → NamesWF t → t.isPtr = false →
      AllAccepted d t name → rawAt d fuel t name = some g → g.ambiguous = false →
      ∃ k f, (∀ j, j < k → occAt j t name = []) ∧ occAt k t name = [f] ∧ g = { ty := some f.ty }
  | 0, t, _, hd, _, _, _, _, _, _ => absurd hd (Nat.not_le.2 (Ty.depth_pos t))
  | fuel + 1, t, g, hd, hwf, hnames, hp, hall, h, ha => by
    rw [rawAt_struct d fuel hp] at h
    rcases loopAt_classify d _ name _ _ g h ha with ⟨hcur, _⟩ | ⟨pre, f₀, post, hfs, hacc, hn, hg, _⟩ |
        ⟨_, pre, f₁, post, hfs, hanon, hR, hnown, hno⟩
    · cases hcur
    · -- an own field: depth 0
      refine ⟨0, f₀, fun j hj => absurd hj (Nat.not_lt_zero j), ?_, hg⟩
      rw [occAt_zero]
      exact filter_name_eq_singleton name _ f₀ hnames.levels.here (by rw [hfs]; simp) hn
    · -- exactly one embedded struct knows the name
      have hf₁ : f₁ ∈ t.embedded := mem_embedded.2 ⟨by rw [hfs]; simp, hanon⟩
      rw [rawAt_emb d fuel hwf hf₁] at hR
      obtain ⟨k, f, h0, hk, hg⟩ := rawAt_sound d name fuel (embTarget f₁) g
        (by have := embTarget_depth_lt hf₁; omega) (hwf.levels.sub hf₁) (hnames.levels.sub hf₁)
        (hwf.levels.here f₁ hf₁) (hall.sub hf₁) hR ha
      have hother : ∀ e ∈ pre ++ post, e.anon = true → ∀ j, occAt j (embTarget e) name = [] := by
        intro e he hean j
        have hemem : e ∈ t.embedded := mem_embedded.2 ⟨by
          rw [hfs]
          rcases List.mem_append.1 he with h | h
          · exact List.mem_append.2 (Or.inl h)
          · exact List.mem_append.2 (Or.inr (List.mem_cons_of_mem _ h)), hean⟩
        have hRe := (hno e he).1 hean
        rw [rawAt_emb d fuel hwf hemem] at hRe
        exact rawAt_none_no_occ d name fuel (embTarget e)
          (by have := embTarget_depth_lt hemem; omega) (hwf.levels.sub hemem) (hwf.levels.here e hemem)
          (hall.sub hemem) hRe j
      have hsucc : ∀ j, occAt (j + 1) t name = occAt j (embTarget f₁) name := by
        intro j
        rw [occAt_succ]
        unfold Ty.embedded
        rw [hfs, List.filter_append, List.filter_cons, if_pos hanon]
        apply flatMap_single
        intro y hy
        rcases List.mem_append.1 hy with hy | hy
        · have := List.mem_filter.1 hy
          exact hother y (List.mem_append.2 (Or.inl this.1)) this.2 j
        · have := List.mem_filter.1 hy
          exact hother y (List.mem_append.2 (Or.inr this.1)) this.2 j
      have hzero : occAt 0 t name = [] := by
        rw [occAt_zero]
        apply List.filter_eq_nil_iff.2
        intro f' hf' hn'
        have hn'' : f'.name = name := by simpa using hn'
        have hacc' := hall.here f' hf' hn''
        rw [hfs] at hf'
        rcases List.mem_append.1 hf' with hm | hm
        · exact (hno f' (List.mem_append.2 (Or.inl hm))).2 ⟨hacc', hn''⟩
        · rcases List.mem_cons.1 hm with rfl | hm
          · exact hnown ⟨hacc', hn''⟩
          · exact (hno f' (List.mem_append.2 (Or.inr hm))).2 ⟨hacc', hn''⟩
      refine ⟨k + 1, f, ?_, by rw [hsucc]; exact hk, hg⟩
      intro j hj
      cases j with
      | zero => exact hzero
      | succ j => rw [hsucc]; exact h0 j (by omega)

theorem rawAt_sound_reflField (d : NDefects) (name : String) (t : Ty) (g : Tag) (hwf : EmbWF t)
    (hnames : NamesWF t) (hp : t.isPtr = false) (hall : AllAccepted d t name)
    (h : rawAt d (t.depth + 1) t name = some g) (ha : g.ambiguous = false) :
    ∃ f, reflField t name = .found f ∧ accepts d f = true ∧ g = { ty := some f.ty } := by
  obtain ⟨k, f, h0, hk, hg⟩ := rawAt_sound d name (t.depth + 1) t g (by omega) hwf hnames hp hall h ha
  have hf : f ∈ occAt k t name := by rw [hk]; exact List.mem_singleton.2 rfl
  exact ⟨f, (reflField_found_iff t name f).2 ⟨k, h0, hk⟩,
    hall.at (List.mem_filter.1 hf).1 (of_decide_eq_true (List.mem_filter.1 hf).2), hg⟩

end ExprModel
