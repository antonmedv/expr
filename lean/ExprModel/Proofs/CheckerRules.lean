import ExprModel.Types.Checker
/-
The typing rules of the operators read backwards: `unaryRule` and `binaryRule` are chains of `if op == … then (if <test on
the operand types> then .ok τ else .error …) else …`; `unaryRule_ok` and `binaryRule_ok` say which operator class and which
operand test a `.ok τ` came from, so that a proof about accepted operators has one case per class of checker.go's
`UnaryNode` / `BinaryNode` and never walks the chain itself.
-/
namespace ExprModel

inductive BinOk (dt : TDefects) (lt rt : OTy) : String → OTy → Prop
  | eq {op} : op = "==" ∨ op = "!=" → ((isNumberT lt && isNumberT rt) || isComparableT lt rt) = true →
      BinOk dt lt rt op boolTy
  | logic {op} : op = "and" ∨ op = "&&" ∨ op = "or" ∨ op = "||" → isBoolT lt = true → isBoolT rt = true →
      BinOk dt lt rt op boolTy
  | inn {op} : op = "in" ∨ op = "not in" →
      ((isStringT lt && isStructT rt) || (isMapT rt && (dt.inMapAnyKey || mapKeyFits lt rt)) || isArrayT rt) = true →
      BinOk dt lt rt op boolTy
  | cmp {op} : op = "<" ∨ op = ">" ∨ op = ">=" ∨ op = "<=" →
      (isNumberT lt = true ∧ isNumberT rt = true) ∨ (isStringT lt = true ∧ isStringT rt = true) → BinOk dt lt rt op boolTy
  | arith {op} : op = "+" ∨ op = "-" ∨ op = "*" ∨ op = "/" → isNumberT lt = true → isNumberT rt = true →
      BinOk dt lt rt op (combinedR dt lt rt)
  | pow : isNumberT lt = true → isNumberT rt = true → BinOk dt lt rt "**" floatTy
  | mod : isIntegerT lt = true → isIntegerT rt = true → BinOk dt lt rt "%" (combinedR dt lt rt)
  | concat : isStringT lt = true → isStringT rt = true → BinOk dt lt rt "+" stringTy
  | strop {op} : op = "contains" ∨ op = "startsWith" ∨ op = "endsWith" → isStringT lt = true → isStringT rt = true →
      BinOk dt lt rt op boolTy
  | range : isIntegerT lt = true → isIntegerT rt = true → BinOk dt lt rt ".." (some (.slice (.num .int)))

theorem rule_arm {c g : Bool} {x τ : OTy} {rest : Rule} {e : CheckErrClass}
    (h : (if c then (if g then .ok x else .error e) else rest) = Except.ok τ) :
    (c = true ∧ g = true ∧ x = τ) ∨ (c = false ∧ rest = .ok τ) := by
  cases c with
  | false => exact .inr ⟨rfl, h⟩
  | true =>
    cases g with
    | false => cases h
    | true =>
      cases h
      exact .inl ⟨rfl, rfl, rfl⟩

theorem unaryRule_ok {op : String} {t τ : OTy} (h : unaryRule op t = .ok τ) :
    ((op = "!" ∨ op = "not") ∧ isBoolT t = true ∧ τ = boolTy) ∨ ((op = "+" ∨ op = "-") ∧ isNumberT t = true ∧ τ = t) := by
  unfold unaryRule at h
  rcases rule_arm h with ⟨hc, hg, rfl⟩ | ⟨_, h⟩
  · exact .inl ⟨by simpa using hc, hg, rfl⟩
  rcases rule_arm h with ⟨hc, hg, rfl⟩ | ⟨_, h⟩
  · exact .inr ⟨by simpa using hc, hg, rfl⟩
  cases h

theorem binaryRule_ok {dt : TDefects} {op : String} {lt rt τ : OTy} (h : binaryRule dt op lt rt = .ok τ) :
    BinOk dt lt rt op τ := by
  unfold binaryRule at h
  rcases rule_arm h with ⟨hc, hg, rfl⟩ | ⟨_, h⟩
  · exact .eq (by simpa using hc) hg
  rcases rule_arm h with ⟨hc, hg, rfl⟩ | ⟨_, h⟩
  · simp only [Bool.and_eq_true] at hg
    -- `logic` lists `and &&` before `or ||`, the rule tests `or ||` first
    exact .logic (by simpa [or_assoc, or_comm, or_left_comm] using hc) hg.1 hg.2
  rcases rule_arm h with ⟨hc, hg, rfl⟩ | ⟨_, h⟩
  · exact .inn (by simpa using hc) hg
  rcases rule_arm h with ⟨hc, hg, rfl⟩ | ⟨_, h⟩
  · simp only [Bool.or_eq_true, Bool.and_eq_true] at hg
    exact .cmp (by simpa [or_assoc] using hc) hg
  rcases rule_arm h with ⟨hc, hg, rfl⟩ | ⟨_, h⟩
  · simp only [Bool.or_eq_true, Bool.and_eq_true, beq_iff_eq] at hc hg
    refine .arith ?_ hg.1 hg.2
    rcases hc with (e | e) | e
    · exact .inr (.inr (.inr e))
    · exact .inr (.inl e)
    · exact .inr (.inr (.inl e))
  rcases rule_arm h with ⟨hc, hg, rfl⟩ | ⟨_, h⟩
  · simp only [Bool.and_eq_true, beq_iff_eq] at hc hg
    subst hc
    exact .pow hg.1 hg.2
  rcases rule_arm h with ⟨hc, hg, rfl⟩ | ⟨_, h⟩
  · simp only [Bool.and_eq_true, beq_iff_eq] at hc hg
    subst hc
    exact .mod hg.1 hg.2
  -- `+` has two operand tests: numbers, then strings
  by_cases hc : (op == "+") = true
  · rw [if_pos hc] at h
    obtain rfl : op = "+" := by simpa using hc
    by_cases hn : (isNumberT lt && isNumberT rt) = true
    · rw [if_pos hn] at h
      cases h
      simp only [Bool.and_eq_true] at hn
      exact .arith (.inl rfl) hn.1 hn.2
    · rw [if_neg hn] at h
      rcases rule_arm (c := true) (rest := .error .mismatchBinary) h with ⟨_, hg, rfl⟩ | ⟨hc', _⟩
      · simp only [Bool.and_eq_true] at hg
        exact .concat hg.1 hg.2
      · cases hc'
  rw [if_neg hc] at h
  rcases rule_arm h with ⟨hc, hg, rfl⟩ | ⟨_, h⟩
  · simp only [Bool.and_eq_true] at hg
    exact .strop (by simpa [or_assoc] using hc) hg.1 hg.2
  rcases rule_arm h with ⟨hc, hg, rfl⟩ | ⟨_, h⟩
  · simp only [Bool.and_eq_true, beq_iff_eq] at hc hg
    subst hc
    exact .range hg.1 hg.2
  cases h

end ExprModel
