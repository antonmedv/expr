import ExprModel.Proofs.BcSchemes
import ExprModel.Proofs.Emits
/-
Every tree compiles to a `Frag`: by induction over `Emits` with the constant fact `Holds` (operand in range and of the
class of its constant), which `mkConst` establishes with no assumption on the tree.  Then the program-level
consequences, for a cast kind of 0 or 1 (`CompCfgOk`): whatever `compileProgram` returns is accepted by the static
checker, on the instruction level as it is, on the byte level when the jump operands fit the 16 bits the encoding has
for them.
-/
namespace ExprModel.Bc

def CompRes (p : Pool) (code : List LInstr) (p' : Pool) : Prop :=
  PoolOk p' ∧ PoolExt p.consts p'.consts ∧ Frag p'.consts code

def NodeWf (cfg : CompCfg) (n : Node) : Prop :=
  ∀ (p : Pool) (code : List LInstr) (p' : Pool), PoolOk p → compileNode cfg n p = .ok (code, p') → CompRes p code p'

/-- finish: `pure (code, pool) = .ok (code', p')` -/
macro "cr_fin " h:ident : tactic =>
  `(tactic| (simp only [pure, Except.pure, Except.ok.injEq, Prod.mk.injEq] at $h:ident
             obtain ⟨hA, hB⟩ := $h:ident
             subst hA; subst hB))

theorem binSimpleOp_bare {op : String} {ops : List Op} (h : binSimpleOp op = some ops) :
    ∀ o ∈ ops, o.bare = true := by
  unfold binSimpleOp at h
  split at h <;> cases h <;> decide

theorem eqOpOf_bare (l r : Node) : (Refine.eqOpOf l r).bare = true := by
  unfold Refine.eqOpOf
  split
  · decide
  · split <;> decide

variable {K : Array Val} {cfg : CompCfg}

theorem _root_.ExprModel.Refine.Emits.frag {n code} (h : Refine.Emits (Holds K) cfg n code) : Frag K code := by
  apply Refine.Emits.rec (motive_1 := fun _ code _ => Frag K code)
    (motive_2 := fun _ d code _ => (∀ c, d c → Frag K c) → Frag K code) (motive_3 := fun _ code _ => Frag K code) (t := h)
  case nilN | constNil =>
    intros
    exact Frag.plain _ _ rfl
  case bool =>
    intro _ b
    cases b <;> exact Frag.plain _ _ rfl
  case ident =>
    intro _ _ _ _ hk
    refine Frag.strOp hk.str _ _ ?_
    split
    · rfl
    · split <;> rfl
  case int | float | str =>
    intro _ _ _ hk
    exact Frag.pushOp hk.any _
  case const =>
    intro _ _ _ _ hk
    exact Frag.pushOp hk.any _
  case not =>
    intro _ _ _ _ _ _ ih
    exact ih.snoc _ _ rfl
  case neg =>
    intro _ _ _ _ ih
    exact ih.snoc _ _ rfl
  case plus | closure =>
    intro _ _ _ _ ih
    exact ih
  case eq =>
    intro _ l r _ _ _ _ ihl ihr
    exact (ihl.append ihr).snoc _ _ (eqOpOf_bare l r)
  case or | and =>
    intro _ _ _ _ _ _ _ _ _ ihl ihr
    exact Frag.andOr _ _ rfl ihl ihr
  case simple =>
    intro _ _ _ _ _ _ ops _ _ _ hops _ _ ihl ihr
    exact (ihl.append ihr).append (Frag.plains _ ops (binSimpleOp_bare hops))
  case matchesRe =>
    intro _ _ _ _ _ _ hk ihl
    exact ihl.append (Frag.reOp hk.re _)
  case matchesN | index =>
    intro _ _ _ _ _ _ _ ihl ihr
    exact (ihl.append ihr).snoc _ _ rfl
  case prop =>
    intro _ _ _ ns _ _ _ hk ih
    refine ih.append (Frag.strOp hk.str _ _ ?_)
    split <;> rfl
  case slice =>
    -- `iht`, `ihf` are motive_2 claims: each wants `Frag` of the code emitted for an absent bound (`len`; `push 0`)
    intro m _ _ _ _ _ _ _ _ _ ihx iht ihf
    refine ((ihx.append (iht fun _ e => e ▸ Frag.plain _ _ rfl)).append
      (ihf fun _ ⟨_, hk, e⟩ => e ▸ Frag.pushOp hk.any _)).snoc _ _ rfl
  case method =>
    intro _ _ _ _ ns _ _ _ _ _ hk ihx iha
    refine (ihx.append iha).append (Frag.callOp hk.call _ _ ?_)
    split <;> rfl
  case func =>
    intro _ _ _ fast _ _ _ hk iha
    refine iha.append (Frag.callOp hk.call _ _ ?_)
    split <;> rfl
  case len =>
    intro m _ _ _ iha
    exact iha.append ((Frag.plain m.loc .len rfl).cons
      ((Frag.plain m.loc .rot rfl).cons (Frag.pop _)))
  case all =>
    intro m _ _ _ _ _ _ _ _ _ _ L iha ihb
    exact Frag.quant m.loc (pre := []) rfl rfl rfl (.inl rfl) iha ihb (Frag.nil _) L
  case noneB =>
    intro m _ _ _ _ _ _ _ _ _ _ L iha ihb
    exact Frag.quant m.loc (pre := [li m.loc .not_]) rfl rfl rfl (.inl rfl) iha ihb (Frag.plain _ .not_ rfl)
      L
  case any =>
    intro m _ _ _ _ _ _ _ _ _ _ L iha ihb
    exact Frag.quant m.loc (pre := []) rfl rfl rfl (.inr rfl) iha ihb (Frag.nil _) L
  case one =>
    intro m _ _ _ _ _ _ _ _ cc c1 _ _ L hcc h1 iha ihb
    exact Frag.scopedLoop m.loc (pre := [li m.loc .push _, li m.loc .store cc])
      (post := [li m.loc .load cc, li m.loc .push c1, li m.loc .equal]) (tail := [])
      iha L (ihb.append (Frag.of_emitCond _ (Frag.strOp hcc.str _ .inc rfl)))
      ((Frag.pushOp L.zero.any _).append (Frag.strOp hcc.str _ .store rfl))
      (((Frag.strOp hcc.str _ .load rfl).append (Frag.pushOp h1.any _)).append (Frag.plain _ .equal rfl))
      (Frag.nil _)
  case filter =>
    intro m _ _ _ _ _ _ _ _ cc _ _ L hcc iha ihb
    exact Frag.scopedLoop m.loc (pre := [li m.loc .push _, li m.loc .store cc]) (post := [li m.loc .load cc])
      (tail := [li m.loc .array]) iha L
      (ihb.append (Frag.of_emitCond _ ((((Frag.strOp hcc.str m.loc .inc rfl).append (Frag.strOp L.array.str m.loc .load rfl)).append
        (Frag.strOp L.i.str m.loc .load rfl)).append (Frag.plain m.loc .index rfl))))
      ((Frag.pushOp L.zero.any _).append (Frag.strOp hcc.str _ .store rfl)) (Frag.strOp hcc.str _ .load rfl)
      (Frag.plain _ .array rfl)
  case mapB =>
    intro m _ _ _ _ _ cs _ _ _ _ L iha ihb
    exact Frag.scopedLoop m.loc (pre := []) (post := [li m.loc .load cs]) (tail := [li m.loc .array])
      iha L ihb (Frag.nil _) (Frag.strOp L.size.str _ .load rfl)
      (Frag.plain _ .array rfl)
  case count =>
    intro m _ _ _ _ _ _ _ _ cc _ _ L hcc iha ihb
    exact Frag.scopedLoop m.loc (pre := [li m.loc .push _, li m.loc .store cc]) (post := [li m.loc .load cc]) (tail := [])
      iha L (ihb.append (Frag.of_emitCond _ (Frag.strOp hcc.str _ .inc rfl)))
      ((Frag.pushOp L.zero.any _).append (Frag.strOp hcc.str _ .store rfl)) (Frag.strOp hcc.str _ .load rfl) (Frag.nil _)
  case pointer =>
    intro m _ _ har hi
    exact (Frag.strOp har.str m.loc .load rfl).cons ((Frag.strOp hi.str m.loc .load rfl).cons
      (Frag.plain m.loc .index rfl))
  case cond =>
    intro _ _ _ _ _ _ _ _ _ _ ihc iha ihb
    exact Frag.cond _ ihc iha ihb
  case array | map =>
    intro _ _ _ _ _ hk ih
    exact ih.append ((Frag.pushOp hk.any _).cons (Frag.plain _ _ rfl))
  case pair =>
    intro _ _ _ _ _ _ _ ihk ihv
    exact ihk.append ihv
  case none =>
    intro _ _ hd h
    exact h _ hd
  case some =>
    intro _ _ _ _ ih _
    exact ih
  case nil => exact Frag.nil _
  case cons =>
    intro _ _ _ _ _ _ ih1 ih2
    exact ih1.append ih2

theorem poolSpec_any : Refine.PoolSpec PoolOk (fun _ => True) Holds where
  const {v p} _ := fun k p' e hp => by
    obtain ⟨hp', he, _, w, hw, hc⟩ := mkConst_spec hp e
    have hlt := mkConst_index_lt hp e
    refine ⟨hp', he, fun K hK => ⟨⟨w, hK _ _ hw⟩, by omega, ?_, ?_, ?_⟩⟩
    · rintro s rfl
      rcases hc with rfl | hc
      · exact ⟨s, hK _ _ hw⟩
      · obtain ⟨s', rfl⟩ := constKeyEq_str hc
        exact ⟨s', hK _ _ hw⟩
    · rintro n s rfl
      rcases hc with rfl | hc
      · exact ⟨n, s, hK _ _ hw⟩
      · obtain ⟨n', s', rfl⟩ := constKeyEq_call hc
        exact ⟨n', s', hK _ _ hw⟩
    · rintro q rfl
      rcases hc with rfl | hc
      · exact ⟨q, hK _ _ hw⟩
      · cases w <;> simp [constKeyEq] at hc
  re := fun k p' e hp => by
    obtain ⟨hp', he, q, hq⟩ := mkRegexConst_spec hp e
    have hlt := (Array.getElem?_eq_some_iff.1 hq).1
    have hsz := hp'.size_le
    exact ⟨hp', he, fun K hK => ⟨⟨_, hK _ _ hq⟩, by omega, nofun, nofun, fun _ => ⟨q, hK _ _ hq⟩⟩⟩

theorem compile_holds (cfg : CompCfg) (n : Node) (p : Pool) :
    Refine.PoolT PoolOk p (compileNode cfg n p) (fun code K => Refine.Emits (Holds K) cfg n code) :=
  Refine.compile_emits poolSpec_any cfg n p (Refine.FloatsIn.top n)

theorem compileNode_wf (cfg : CompCfg) (n : Node) : NodeWf cfg n := fun p code p' hp h =>
  let ⟨hp', he, hK⟩ := compile_holds cfg n p code p' h hp
  ⟨hp', he, (hK _ (Refine.PoolExt.refl _)).frag⟩

def AllWf (cfg : CompCfg) : List Node → Prop
  | [] => True
  | n :: ns => NodeWf cfg n ∧ AllWf cfg ns

theorem compileAll_wf (cfg : CompCfg) : ∀ (ns : List Node), AllWf cfg ns
  | [] => trivial
  | n :: ns => ⟨compileNode_wf cfg n, compileAll_wf cfg ns⟩

theorem Frag.wfInstrs {c : Array Val} {code : List LInstr} (h : Frag c code) : wfInstrs c (instrs code) = true := by
  unfold ExprModel.wfInstrs
  have hj : jumpsOk (instrBoundary (instrs code)) 0 (instrs code) = true := h.jumps
  simp [h.args, hj, h.nest 0]

def JumpsFit (c : Compiled) : Prop := ∀ i ∈ c.code, i.instr.op.isJump = true → i.instr.arg < 65536

/-- the configurations the library produces: `Expect` is absent, int64 (0) or float64 (1) -/
def CompCfgOk (cfg : CompCfg) : Prop := ∀ t, cfg.cast = some t → t ≤ 1

theorem compileProgram_frag (cfg : CompCfg) (hcfg : CompCfgOk cfg) (n : Node) (c : Compiled)
    (h : compileProgram cfg n = .ok c) :
    Frag c.consts c.code ∧ c.consts.size ≤ 65535 ∧ (cfg.jumpGuard = true → JumpsFit c) := by
  obtain ⟨code, p, h1, hg, rfl⟩ := Refine.compileProgram_ok h
  have r := compileNode_wf cfg n _ _ _ PoolOk.empty h1
  have hcast : Frag p.consts (Refine.castCode cfg.cast) := by
    cases hc : cfg.cast with
    | none => exact Frag.nil _
    | some t => exact Frag.one _ .cast t (by simp [argOk, Op.argClass, hcfg t hc]) rfl rfl (by decide) (by decide)
  refine ⟨r.2.2.append hcast, r.1.size_le, fun hgd i hi hj => ?_⟩
  rcases List.mem_append.1 hi with hi | hi
  · rw [hgd, Bool.true_and] at hg
    have := List.any_eq_false.1 hg i hi
    simp only [hj, Bool.true_and, decide_eq_true_eq] at this
    omega
  · obtain ⟨t, _, rfl⟩ := Refine.mem_castCode hi
    cases hj

/-- a constant index lies inside the pool, which has at most 65535 entries; the cast kind is 0 or 1; jump offsets
    by hypothesis; anything else has no operand and carries 0 -/
theorem fits_of_frag {c : Array Val} {code : List LInstr} (h : Frag c code) (hsz : c.size ≤ 65535)
    (hj : ∀ i ∈ code, i.instr.op.isJump = true → i.instr.arg < 65536) : FitsU16 (instrs code) := by
  intro i hi
  have ha : argOk c i = true := (List.all_eq_true.1 h.args) i hi
  have hc : canonOk i = true := (List.all_eq_true.1 h.canon) i hi
  obtain ⟨li', hli, rfl⟩ := List.mem_map.1 hi
  have hj' := hj li' hli
  unfold argOk at ha
  cases hcl : li'.instr.op.argClass with
  | constant =>
    simp only [hcl] at ha
    split at ha
    · rename_i v hv
      have := (Array.getElem?_eq_some_iff.1 hv).1
      omega
    · cases ha
  | castKind => simp only [hcl, decide_eq_true_eq] at ha; omega
  | jumpFwd => exact hj' (by simp [Op.isJump, hcl])
  | jumpBack => exact hj' (by simp [Op.isJump, hcl])
  | none =>
    have hna : li'.instr.op.hasArg = false :=
      Bool.eq_false_iff.2 fun ht => (hasArg_iff_argClass _).1 ht hcl
    simp only [canonOk, hna, Bool.false_or, beq_iff_eq] at hc
    omega

theorem canon_of_frag {c : Array Val} {code : List LInstr} (h : Frag c code) : ArgCanon (instrs code) := by
  intro i hi hna
  have hc : canonOk i = true := (List.all_eq_true.1 h.canon) i hi
  simpa [canonOk, hna] using hc

theorem wfStatic_of_frag {c : Array Val} {code : List LInstr} (h : Frag c code) (hsz : c.size ≤ 65535)
    (hj : ∀ i ∈ code, i.instr.op.isJump = true → i.instr.arg < 65536) :
    wfStatic (encodeAll (instrs code)) c = true := by
  unfold wfStatic
  rw [decode_encode _ (fits_of_frag h hsz hj) (canon_of_frag h)]
  exact h.wfInstrs

end ExprModel.Bc
