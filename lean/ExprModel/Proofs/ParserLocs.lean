import ExprModel.Proofs.ParserPost
import ExprModel.Proofs.AllLocDef
/-
For C13 (locations in error messages lie in the source): every node built by the parser model carries the
location of one of the input tokens, stated for an arbitrary predicate `P` that holds of every input token.
What a call hands to the next is only that its rest is a suffix of its input (`LocGood`); at the trivial `P` that
is the whole statement (`parseExpression_suffix`).
-/
namespace ExprModel

namespace Parser

variable (P : Loc → Prop)

/-- the last token is exempt when it is the EOF token: no node is ever located at it -/
def Toks (ts : List Token) : Prop :=
  (∀ t ∈ ts.dropLast, P t.loc) ∧ (∀ t, ts.getLast? = some t → t.kind ≠ .eof → P t.loc)

variable {P} in
theorem Toks.suffix {ts ts' : List Token} (h : Toks P ts) (hs : ts' <:+ ts) : Toks P ts' := by
  obtain ⟨pre, rfl⟩ := hs
  refine ⟨fun t ht => h.1 t ?_, fun t ht => h.2 t ?_⟩
  · have hne : ts' ≠ [] := fun he => by subst he; cases ht
    rw [List.dropLast_append_of_ne_nil hne]; exact List.mem_append_right _ ht
  · rw [List.getLast?_append, ht]; rfl

/-- Given good tokens, the result satisfies `Q` and leaves a suffix of the input: that is all a continuation needs
    to find its own tokens good (`Toks.suffix`), so `bind` hands `Toks` on and the cases of `locAt` do not mention
    it, but for the one that looks at a token without consuming it (`LocGood.toks`). -/
def LocGood {α : Type} (ts : List Token) (Q : α → Prop) (r : Res α) : Prop :=
  Toks P ts → Post (fun a ts' => Q a ∧ ts' <:+ ts) r

variable {P}

theorem toks_cur_of_is {ts : List Token} {k : TokKind} {v : String} (ht : Toks P ts)
    (h : (cur ts).is k v = true) (hk : k ≠ .eof) : P (cur ts).loc := by
  have hkind := (kind_of_is h).1
  match ts, ht with
  | [], _ => exact absurd hkind.symm (by simpa [cur, eofTok] using hk)
  | [t], ht => exact ht.2 t rfl (by simpa [cur] using hkind ▸ hk)
  | a :: b :: rest, ht => exact ht.1 a (by simp [List.dropLast])

namespace LocGood
variable {α β : Type} {Q : α → Prop} {R : β → Prop} {ts : List Token}

theorem ok {a : α} (ha : Q a) : LocGood P ts Q (.ok a ts) := fun _ => Post.ok ⟨ha, List.suffix_refl _⟩

theorem err {e : Err} : LocGood P ts Q (.err e) := fun _ => Post.err

theorem fuel : LocGood P ts Q .fuel := fun _ => Post.fuel

theorem mono {Q' : α → Prop} {r : Res α} (h : LocGood P ts Q r) (hq : ∀ a, Q a → Q' a) : LocGood P ts Q' r :=
  fun ht => Post.mono (h ht) fun a _ h1 => ⟨hq a h1.1, h1.2⟩

theorem bind {a : Res α} {k : α → List Token → Res β} (h : LocGood P ts Q a)
    (hk : ∀ x ts1, Q x → LocGood P ts1 R (k x ts1)) : LocGood P ts R (a.bind k) :=
  fun ht => Post.bind (h ht) fun x ts1 h1 =>
    Post.mono (hk x ts1 h1.1 (ht.suffix h1.2)) fun _ _ h2 => ⟨h2.1, h2.2.trans h1.2⟩

theorem ite {c : Prop} [Decidable c] {a b : Res α} (h1 : LocGood P ts Q a) (h2 : LocGood P ts Q b) :
    LocGood P ts Q (if c then a else b) := fun ht => Post.ite (h1 ht) (h2 ht)

theorem ite' {c : Prop} [Decidable c] {a b : Res α} (h1 : c → LocGood P ts Q a) (h2 : ¬c → LocGood P ts Q b) :
    LocGood P ts Q (if c then a else b) := fun ht => Post.ite' (fun hc => h1 hc ht) (fun hc => h2 hc ht)

theorem toks {r : Res α} (h : Toks P ts → LocGood P ts Q r) : LocGood P ts Q r := fun ht => h ht ht

/-- `next` succeeds only when the current token is not the last one, so it is an input token -/
theorem next : LocGood P ts (fun _ => P (cur ts).loc) (next ts) := fun h => by
  match ts, h with
  | [], _ => exact Post.err
  | [_], _ => exact Post.err
  | a :: b :: rest, h => exact Post.ok ⟨h.1 a (by simp [List.dropLast]), List.suffix_cons _ _⟩

theorem expect {kd : TokKind} {v : String} : LocGood P ts (fun _ => P (cur ts).loc) (expect kd v ts) :=
  ite next err

theorem sep {first : Bool} {kd : TokKind} {v : String} :
    LocGood P ts (fun _ => True) (if first = true then Res.ok () ts else Parser.expect kd v ts) :=
  ite (ok trivial) (expect.mono fun _ _ => trivial)

end LocGood

variable (P) (cfg : Cfg)

abbrev QN : Node → Prop := fun n => n.AllLoc P
abbrev QL : List Node → Prop := fun ns => Node.AllLocL P ns
abbrev QO : Option Node → Prop := fun o => Node.AllLocO P o

structure LocAt (f : Nat) : Prop where
  expr : ∀ {d p ts}, LocGood P ts (QN P) (parseExpression cfg f d p ts)
  loop : ∀ {d p l ts}, l.AllLoc P → LocGood P ts (QN P) (exprLoop cfg f d p l ts)
  prim : ∀ {d ts}, LocGood P ts (QN P) (parsePrimary cfg f d ts)
  cond : ∀ {d n ts}, n.AllLoc P → LocGood P ts (QN P) (parseConditional cfg f d n ts)
  pexp : ∀ {d ts}, LocGood P ts (QN P) (parsePrimaryExpression cfg f d ts)
  ident : ∀ {d t ts}, P t.loc → LocGood P ts (QN P) (parseIdentifierExpression cfg f d t ts)
  clos : ∀ {d ts}, LocGood P ts (QN P) (parseClosure cfg f d ts)
  arr : ∀ {d ts}, LocGood P ts (QN P) (parseArray cfg f d ts)
  arrL : ∀ {d b ts}, LocGood P ts (QL P) (arrayLoop cfg f d b ts)
  map : ∀ {d ts}, LocGood P ts (QN P) (parseMap cfg f d ts)
  mapL : ∀ {d l b ts}, P l → LocGood P ts (QL P) (mapLoop cfg f d l b ts)
  post : ∀ {d n b ts}, n.AllLoc P → LocGood P ts (QN P) (parsePostfix cfg f d n b ts)
  args : ∀ {d ts}, LocGood P ts (QL P) (parseArguments cfg f d ts)
  argsL : ∀ {d b ts}, LocGood P ts (QL P) (argsLoop cfg f d b ts)

/- A new node is located at a token just consumed (`hp`, from `next`/`expect`); the one exception is the pointer
   `.` of `parsePrimary`, located at a token that was only tested. -/
theorem locAt (P : Loc → Prop) (cfg : Cfg) : ∀ f, LocAt P cfg f
  | 0 => by
    constructor <;> intros <;> simp only [parser_zero] <;> exact .fuel
  | f+1 => by
    have ih := locAt P cfg f
    constructor
    · intro d p ts
      rw [parseExpression]
      exact .bind ih.prim fun _ _ hl => .bind (ih.loop hl) fun _ _ he =>
        .ite (ih.cond he) (.ok he)
    · intro d p l ts hl
      rw [exprLoop]
      split
      · refine .ite
          (.bind .next fun _ _ hp => .bind ih.expr fun r ts2 hr =>
            .ite ?_ (ih.loop ⟨hp, hl, hr⟩))
          (.ok hl)
        split
        · exact .ite .err (ih.loop ⟨hp, hl, hr⟩)
        · exact ih.loop ⟨hp, hl, hr⟩
      · exact .ok hl
    · intro d ts
      rw [parsePrimary]
      split
      · exact .bind .next fun _ _ hp => .bind ih.expr fun _ _ he =>
          ih.post ⟨hp, he⟩
      · exact .ite
          (.bind .next fun _ _ _ => .bind ih.expr fun _ _ he =>
            .bind .expect fun _ _ _ => ih.post he)
          (.ite (.ite (.bind .next fun _ _ hp => ih.post hp) .err)
            (.ite' (fun hdot => .ite (.toks fun ht => ih.post (toks_cur_of_is ht hdot (by decide))) .err)
              fun _ => ih.pexp))
    · intro d n ts hn
      rw [parseConditional]
      exact .ite
        (.bind .next fun _ _ hp => .ite
          (.bind .next fun _ _ _ => .bind ih.expr fun _ _ he2 =>
            ih.cond ⟨hp, hn, hn, he2⟩)
          (.bind ih.expr fun _ _ he1 => .bind .expect fun _ _ _ =>
            .bind ih.expr fun _ _ he2 => ih.cond ⟨hp, hn, he1, he2⟩))
        (.ok hn)
    · intro d ts
      rw [parsePrimaryExpression]
      split
      · exact .bind .next fun _ _ hp => .ite (.ok hp) (.ite (.ok hp) (.ite (.ok hp)
          (.bind (ih.ident hp) fun _ _ hn => ih.post hn)))
      · refine .bind .next fun _ _ hp => ?_
        split
        · exact .ok hp
        · exact .ok hp
        · exact .err
      · exact .bind .next fun _ _ hp => .ok hp
      · exact .ite (.bind ih.arr fun _ _ hn => ih.post hn)
          (.ite (.bind ih.map fun _ _ hn => ih.post hn) .err)
    · intro d t ts htok
      rw [parseIdentifierExpression]
      refine .ite ?_ (.ok htok)
      split
      · exact .bind .expect fun _ _ _ => .bind (Q := QL P)
          (.ite (.bind ih.expr fun _ _ ha => .ok ⟨ha, trivial⟩)
            (.ite
              (.bind ih.expr fun _ _ ha => .bind .expect fun _ _ _ =>
                .bind ih.clos fun _ _ hc => .ok ⟨ha, hc, trivial⟩)
              (.ok trivial)))
          fun _ _ hargs => .bind .expect fun _ _ _ => .ok ⟨htok, hargs⟩
      · exact .bind ih.args fun _ _ hargs => .ok ⟨htok, hargs⟩
    · intro d ts
      rw [parseClosure]
      exact .bind .expect fun _ _ hp => .bind ih.expr fun _ _ hn =>
        .bind .expect fun _ _ _ => .ok ⟨hp, hn⟩
    · intro d ts
      rw [parseArray]
      exact .bind .expect fun _ _ hp => .bind ih.arrL fun _ _ hns =>
        .bind .expect fun _ _ _ => .ok ⟨hp, hns⟩
    · intro d b ts
      rw [arrayLoop]
      exact .ite (.ok trivial) (.bind .sep fun _ _ _ => .ite (.ok trivial)
        (.bind ih.expr fun _ _ hn => .bind ih.arrL fun _ _ hns =>
          .ok ⟨hn, hns⟩))
    · intro d ts
      rw [parseMap]
      exact .bind .expect fun _ _ hp => .bind (ih.mapL hp) fun _ _ hps =>
        .bind .expect fun _ _ _ => .ok ⟨hp, hps⟩
    · intro d l b ts hl
      rw [mapLoop]
      exact .ite (.ok trivial) (.bind .sep fun _ _ _ => .ite (.ok trivial) (.ite .err
        (.bind (Q := QN P)
          (.ite (.bind .next fun _ _ _ => .ok hl) (.ite ih.expr .err))
          fun _ _ hk => .bind .expect fun _ _ _ => .bind ih.expr fun _ _ hv =>
            .bind (ih.mapL hl) fun _ _ hps => .ok ⟨⟨hl, hk, hv⟩, hps⟩)))
    · intro d n b ts hn
      rw [parsePostfix]
      refine .ite (.ite ?member (.ite ?index (.ok hn))) (.ok hn)
      case member =>
        exact .bind .next fun _ _ _ => .bind .next fun _ _ hp1 => .ite .err
          (.ite (.bind ih.args fun _ _ hargs => ih.post ⟨hp1, hn, hargs⟩)
            (ih.post ⟨hp1, hn⟩))
      case index =>
        refine .bind .next fun _ _ hp => .ite ?_ ?_
        · exact .bind .next fun _ _ _ => .bind (Q := QO P)
            (.ite (.ok trivial) (.bind ih.expr fun _ _ he => .ok he))
            fun _ _ hto => .bind .expect fun _ _ _ => ih.post ⟨hp, hn, trivial, hto⟩
        · exact .bind ih.expr fun _ _ hfr => .ite
            (.bind .next fun _ _ _ => .bind (Q := QO P)
              (.ite (.ok trivial) (.bind ih.expr fun _ _ he => .ok he))
              fun _ _ hto => .bind .expect fun _ _ _ => ih.post ⟨hp, hn, hfr, hto⟩)
            (.bind .expect fun _ _ _ => ih.post ⟨hp, hn, hfr⟩)
    · intro d ts
      rw [parseArguments]
      exact .bind .expect fun _ _ _ => .bind ih.argsL fun _ _ hns =>
        .bind .expect fun _ _ _ => .ok hns
    · intro d b ts
      rw [argsLoop]
      exact .ite (.ok trivial) (.bind .sep fun _ _ _ =>
        .bind ih.expr fun _ _ hn => .bind ih.argsL fun _ _ hns =>
          .ok ⟨hn, hns⟩)

theorem parse_allLoc (P : Loc → Prop) (cfg : Cfg) (ts : List Token) (root : Node) (hT : Toks P ts)
    (h : parse cfg ts = .ok root) : root.AllLoc P := by
  obtain ⟨rest, hp, _⟩ := (parseFuel_eq_ok cfg).1 (parseFuel_of_parse cfg h)
  exact ((locAt P cfg (fuelFor ts)).expr hT root rest hp).1

theorem parseExpression_suffix (cfg : Cfg) {f d p : Nat} {ts ts' : List Token} {a : Node}
    (h : parseExpression cfg f d p ts = .ok a ts') : ts' <:+ ts := by
  have := (locAt (fun _ => True) cfg f).expr (d := d) (p := p) (ts := ts) ⟨fun _ _ => trivial, fun _ _ _ => trivial⟩
  exact (this a ts' h).2

end Parser
end ExprModel
