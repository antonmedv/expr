import ExprModel.Proofs.RuntimeFails
import ExprModel.Proofs.SpecEqs
/-
Postconditions on results and on the computations of `Spec.eval`: the value satisfies `Q`, or the failure is of a
class in `E` (`ROK` on a result, `SMOK` on a computation, from every state).  One algebra over the constructs `eval` is
made of serves both the soundness of the checker (C03: `Q` a type, `E` the value-dependent failures) and the failure
classes of the language (C01/C05: `Q` trivial, `E` the classes).  `ErrsIn E r` is `ROK E (fun _ => True) r` read as an
implication, the form in which `RBenign`, `RBlame` and `SMBenign` are written.
-/
namespace ExprModel
open ExprModel.Spec

variable {E : ErrClass → Prop}

def ROK {α : Type} (E : ErrClass → Prop) (Q : α → Prop) (r : R α) : Prop :=
  match r with
  | .ok a => Q a
  | .error e => E e

def SMOK {α : Type} (E : ErrClass → Prop) (Q : α → Prop) (m : SM α) : Prop :=
  ∀ s, ROK E Q (m s).1

theorem ErrsIn.rok {α : Type} {r : R α} (h : ErrsIn E r) : ROK E (fun _ => True) r := by
  cases r with
  | ok a => trivial
  | error e => exact h e rfl

theorem ROK.mono {α : Type} {Q Q' : α → Prop} {r : R α} (h : ROK E Q r) (hq : ∀ a, Q a → Q' a) : ROK E Q' r := by
  cases r with
  | ok a => exact hq a h
  | error e => exact h

theorem rok_ite {α : Type} {Q : α → Prop} {p : Prop} [Decidable p] {x y : R α}
    (hx : p → ROK E Q x) (hy : ¬ p → ROK E Q y) : ROK E Q (if p then x else y) := by
  by_cases h : p
  · rw [if_pos h]; exact hx h
  · rw [if_neg h]; exact hy h

theorem SMOK.error {α : Type} {Q : α → Prop} {m : SM α} (h : SMOK E Q m) {σ : SState} {e : ErrClass} {σ' : SState}
    (he : m σ = (.error e, σ')) : E e := by
  have := h σ
  rw [he] at this
  exact this

theorem smok_of_errors {α : Type} {m : SM α} (h : ∀ σ e σ', m σ = (.error e, σ') → E e) : SMOK E (fun _ => True) m := by
  intro σ
  rcases hm : m σ with ⟨r, σ'⟩
  cases r with
  | ok a => trivial
  | error e => exact h σ e σ' hm

theorem smok_pure {α : Type} {Q : α → Prop} {a : α} (h : Q a) : SMOK E Q (pure a : SM α) :=
  fun _ => h

theorem smok_fail {α : Type} {Q : α → Prop} {e : ErrClass} (h : E e) : SMOK E Q (SM.fail e : SM α) :=
  fun _ => h

theorem smok_bind {α β : Type} {Qa : α → Prop} {Q : β → Prop} {m : SM α} {f : α → SM β}
    (hm : SMOK E Qa m) (hf : ∀ a, Qa a → SMOK E Q (f a)) : SMOK E Q (m >>= f) := by
  intro s
  have h1 := hm s
  rw [SM.bind_apply]
  generalize m s = p at h1 ⊢
  obtain ⟨r, s'⟩ := p
  cases r with
  | error e => exact h1
  | ok a => exact hf a h1 s'

theorem smok_lift {α : Type} {Q : α → Prop} {r : R α} (h : ROK E Q r) : SMOK E Q (SM.lift r) := by
  intro s
  cases r with
  | ok a => exact h
  | error e => exact h

theorem smok_mono {α : Type} {Q Q' : α → Prop} {m : SM α} (h : SMOK E Q m) (hq : ∀ a, Q a → Q' a) :
    SMOK E Q' m :=
  fun s => (h s).mono hq

theorem smok_ite {α : Type} {Q : α → Prop} {p : Prop} [Decidable p] {x y : SM α}
    (hx : p → SMOK E Q x) (hy : ¬ p → SMOK E Q y) : SMOK E Q (if p then x else y) := by
  by_cases h : p
  · rw [if_pos h]; exact hx h
  · rw [if_neg h]; exact hy h

theorem smok_map {α β : Type} {Q : β → Prop} {m : SM α} {g : α → β} (hm : SMOK E (fun a => Q (g a)) m) :
    SMOK E Q (m >>= fun x => pure (g x)) :=
  smok_bind hm fun _ h => smok_pure h

theorem smok_asBool_of {Q : Bool → Prop} (v : Val) (hq : ∀ b, v = .bool b → Q b)
    (he : (∀ b, v ≠ .bool b) → E .type_) : SMOK E Q (asBool v) := by
  cases v
  case bool b => exact smok_pure (hq b rfl)
  all_goals exact smok_fail (he fun _ h => by cases h)

theorem smok_asBool {v : Val} (hv : ∃ b, v = .bool b) (Q : Bool → Prop) (hq : ∀ b, Q b) : SMOK E Q (asBool v) :=
  smok_asBool_of v (fun b _ => hq b) fun h => (hv.elim fun b hb => h b hb).elim

theorem smok_ifBool {β : Type} {mb : SM Val} (hb : SMOK E (fun v => ∃ b, v = .bool b) mb) {Q : β → Prop}
    {x y : SM β} (hx : SMOK E Q x) (hy : SMOK E Q y) : SMOK E Q (do if ← asBool (← mb) then x else y) := by
  refine smok_bind hb fun v hv => smok_bind (smok_asBool hv (fun _ => True) fun _ => trivial) fun bv _ => ?_
  cases bv
  · exact hy
  · exact hx

theorem smok_logCall (name : String) (vs : List Val) : SMOK E (fun _ => True) (SM.logCall name vs) :=
  fun _ => trivial

theorem smok_callTail {Q : Val → Prop} {r : R Val} (name : String) (vs : List Val) (h : ROK E Q r) :
    SMOK E Q (do
      if callHappened r then SM.logCall name vs
      SM.lift r) := by
  split
  · exact smok_bind (smok_logCall name vs) fun _ _ => smok_lift h
  · exact smok_lift h

theorem smok_allocBefore (hb : E .budget) (lim cnt : Int) (n : Nat) :
    SMOK E (fun _ => True) (SM.allocBefore lim cnt n) := by
  intro s
  unfold SM.allocBefore
  split
  · exact hb
  · trivial

theorem smok_allocAfter (hb : E .budget) (lim cnt : Int) (n : Nat) : SMOK E (fun _ => True) (SM.allocAfter lim cnt n) := by
  intro s
  unfold SM.allocAfter
  simp only []
  split
  · exact hb
  · trivial

/-- what one round of `loopIdx` may yield: a new accumulator satisfying `Inv`, or a final value satisfying `Res` -/
def StepQ {α : Type} (Inv : α → Prop) (Res : Val → Prop) : α ⊕ Val → Prop
  | .inl a => Inv a
  | .inr v => Res v

theorem smok_loopIdx {α : Type} (Inv : α → Prop) (Res : Val → Prop) (body : Nat → α → SM (α ⊕ Val))
    (hbody : ∀ i acc, Inv acc → SMOK E (StepQ Inv Res) (body i acc)) :
    ∀ fuel i acc, Inv acc → SMOK E (StepQ Inv Res) (loopIdx body fuel i acc)
  | 0, _, _, h => smok_pure (Q := StepQ Inv Res) h
  | fuel + 1, i, acc, h => by
    simp only [loopIdx]
    refine smok_bind (hbody i acc h) fun r hr => ?_
    cases r with
    | inl acc' => exact smok_loopIdx Inv Res body hbody fuel (i + 1) acc' hr
    | inr v => exact smok_pure (Q := StepQ Inv Res) hr

/-- the shape of the seven clauses `Spec.eval_builtin_<name>` -/
theorem smok_loop {α : Type} {Qc : Val → Prop} {ma : SM Val} (ha : SMOK E Qc ma)
    (hlen : ∀ coll, Qc coll → ROK E (fun _ => True) (lengthV coll)) (Inv : α → Prop) (Res : Val → Prop) {Q : Val → Prop}
    {body : Val → Nat → α → SM (α ⊕ Val)} {acc0 : α} (h0 : Inv acc0) {k : Int → α ⊕ Val → SM Val}
    (hbody : ∀ coll, Qc coll → ∀ i acc, Inv acc → SMOK E (StepQ Inv Res) (body coll i acc))
    (hk : ∀ n r, StepQ Inv Res r → SMOK E Q (k n r)) :
    SMOK E Q (ma >>= fun coll => SM.lift (lengthV coll) >>= fun n => loopIdx (body coll) n.toNat 0 acc0 >>= k n) :=
  smok_bind ha fun coll hc => smok_bind (smok_lift (hlen coll hc)) fun n _ =>
    smok_bind (smok_loopIdx Inv Res _ (hbody coll hc) _ _ _ h0) (hk n)

end ExprModel
