import ExprModel.Proofs.ParserErase
import ExprModel.Proofs.ParserCanonical
import ExprModel.Proofs.ParsePrintBody
/-
The accepted token lists are printings, the printer's side and the theorem: the text of a printed canonical
tree is `flat`, for every parenthesis choice and context; hence an accepted token list and the printing of
its tree have the same text.
-/
namespace ExprModel.Parser

section Flat

variable (cfg : Cfg) (sh : NumShow) (pc : ParenChoice)

theorem eraseText_lparen (ts : List Token) : eraseText (lparen :: ts) = eraseText ts :=
  eraseText_cons_drop (t := lparen) rfl ts
theorem eraseText_rparen (ts : List Token) : eraseText (rparen :: ts) = eraseText ts :=
  eraseText_cons_drop (t := rparen) rfl ts
theorem eraseText_comma (ts : List Token) : eraseText (comma :: ts) = "," :: eraseText ts :=
  eraseText_cons_keep (t := comma) rfl ts
theorem eraseText_colon (ts : List Token) : eraseText (colon :: ts) = ":" :: eraseText ts :=
  eraseText_cons_keep (t := colon) rfl ts
theorem eraseText_quest (l : Loc) (ts : List Token) : eraseText (questAt l :: ts) = "?" :: eraseText ts :=
  eraseText_cons_keep (t := questAt l) rfl ts
theorem eraseText_lbrack (l : Loc) (ts : List Token) : eraseText (tok .bracket "[" l :: ts) = "[" :: eraseText ts :=
  eraseText_cons_keep (t := tok .bracket "[" l) rfl ts
theorem eraseText_rbrack (ts : List Token) : eraseText (tok .bracket "]" :: ts) = "]" :: eraseText ts :=
  eraseText_cons_keep (t := tok .bracket "]") rfl ts
theorem eraseText_lbrace (l : Loc) (ts : List Token) : eraseText (tok .bracket "{" l :: ts) = "{" :: eraseText ts :=
  eraseText_cons_keep (t := tok .bracket "{" l) rfl ts
theorem eraseText_rbrace (ts : List Token) : eraseText (tok .bracket "}" :: ts) = "}" :: eraseText ts :=
  eraseText_cons_keep (t := tok .bracket "}") rfl ts
theorem eraseText_matches (l : Loc) (ts : List Token) :
    eraseText (tok .operator "matches" l :: ts) = "matches" :: eraseText ts :=
  eraseText_cons_keep (t := tok .operator "matches" l) rfl ts
theorem eraseText_link (s : Bool) (ts : List Token) :
    eraseText (tok .operator (if s then "?." else ".") :: ts) = "." :: eraseText ts := by
  cases s <;> exact eraseText_cons_keep (t := tok .operator _) rfl ts
theorem eraseText_operator {v : String} (h : v ≠ "#") (l : Loc) (ts : List Token) :
    eraseText (tok .operator v l :: ts) = nv v :: eraseText ts :=
  eraseText_cons_keep (keep_of_operator rfl h) ts
theorem eraseText_plain {k : TokKind} (h1 : k ≠ .operator) (h2 : k ≠ .bracket) (v : String) (l : Loc)
    (ts : List Token) : eraseText (tok k v l :: ts) = nv v :: eraseText ts :=
  eraseText_cons_keep (keep_of_plain_kind h1 h2) ts

theorem eraseText_wrap (k : Nat) (b : List Token) : eraseText (wrap k b) = eraseText b := by
  induction k with
  | zero => rfl
  | succ k ih => rw [wrap, eraseText_lparen, eraseText_append, ih, eraseText_rparen, eraseText_nil, List.append_nil]

theorem eraseText_parenthesize (k : Nat) (need : Bool) (b : Nat → Token → List Token) (m : Nat) (fw : Token)
    (w : List String) (h : ∀ m' fw', eraseText (b m' fw') = w) : eraseText (parenthesize k need b m fw) = w := by
  unfold parenthesize
  split
  · exact h m fw
  · rw [eraseText_wrap]; exact h 0 rparen

theorem eraseText_wrapBase (k : Nat) (bare : Bool) (b : Nat → Token → List Token)
    (w : List String) (h : ∀ m' fw', eraseText (b m' fw') = w) : eraseText (wrapBase k bare b) = w := by
  unfold wrapBase
  split
  · exact h 0 rparen
  · rw [eraseText_wrap]; exact h 0 rparen

theorem flat_keyP (k : Node) (π : List Nat) (j : Nat) (l : Loc)
    (hb : eraseText (body cfg sh pc ((2*j) :: π) 0 rparen k) = flat sh k) :
    eraseText (keyP cfg sh pc π j l k) = flat sh k := by
  by_cases hs : ∃ mk' s, k = .str mk' s ∧ mk'.loc = l ∧ pc ((2*j) :: π) = 0
  · obtain ⟨mk', s, rfl, hl, hp0⟩ := hs
    rw [keyP_str s hl hp0]
    exact eraseText_plain (by decide) (by decide) _ _ _
  · rw [keyP_wrap hs, eraseText_wrap]; exact hb

theorem flatInd (hy : EraHyp cfg) : CanonInd cfg
    (fun t => ∀ π m fw, eraseText (body cfg sh pc π m fw t) = flat sh t)
    (fun xs => ∀ π i close, eraseText (listP cfg sh pc π i close xs) = flatL sh xs)
    (fun o => ∀ π i close, eraseText (optP cfg sh pc π i close o) = flatO sh o)
    (fun ps => ∀ π j l, eraseText (pairsP cfg sh pc π j l ps) = flatP sh ps) where
  nil := fun _ _ _ _ => eraseText_plain (by decide) (by decide) _ _ _
  bool := fun _ b _ _ _ => by
    cases b <;> exact eraseText_plain (by decide) (by decide) _ _ _
  int := fun _ _ _ _ _ => eraseText_plain (by decide) (by decide) _ _ _
  float := fun _ _ _ _ _ => eraseText_plain (by decide) (by decide) _ _ _
  str := fun _ _ _ _ _ => eraseText_plain (by decide) (by decide) _ _ _
  ident := fun _ _ _ _ _ _ => eraseText_plain (by decide) (by decide) _ _ _
  pointer := fun mt _ _ _ => eraseText_cons_drop (t := tok .operator "#" mt.loc) rfl _
  unary := fun _ op x hop ih π _ _ => by
    have hne : op ≠ "#" := by
      intro he; rw [he, hy.un_hash] at hop; cases hop
    simp only [body, flat]
    rw [eraseText_operator hne, eraseText_parenthesize _ _ _ _ _ _ (ih _)]
  binary := fun _ op l r hop ihl ihr π _ _ => by
    have hne : op ≠ "#" := by
      intro he; rw [he, hy.bin_hash] at hop; cases hop
    simp only [body, flat]
    rw [eraseText_append, eraseText_operator hne, eraseText_parenthesize _ _ _ _ _ _ (ihl _),
      eraseText_parenthesize _ _ _ _ _ _ (ihr _)]
  «matches» := fun _ _ l r ihl ihr π _ _ => by
    simp only [body, flat]
    rw [eraseText_append, eraseText_matches, eraseText_parenthesize _ _ _ _ _ _ (ihl _),
      eraseText_parenthesize _ _ _ _ _ _ (ihr _)]
  cond := fun _ c a b ihc iha ihb π _ _ => by
    simp only [body, flat]
    rw [eraseText_append, eraseText_quest, eraseText_append, eraseText_colon,
      eraseText_parenthesize _ _ _ _ _ _ (ihc _), eraseText_parenthesize _ _ _ _ _ _ (iha _),
      eraseText_parenthesize _ _ _ _ _ _ (ihb _)]
  prop := fun _ x name s ihx π _ _ => by
    simp only [body, flat]
    rw [eraseText_append, eraseText_wrapBase _ _ _ _ (ihx _), eraseText_link,
      eraseText_plain (by decide) (by decide), eraseText_nil]
  method := fun _ x name args s ihx ihas π _ _ => by
    simp only [body, flat]
    rw [eraseText_append, eraseText_wrapBase _ _ _ _ (ihx _), eraseText_link,
      eraseText_plain (by decide) (by decide), eraseText_lparen, eraseText_append, ihas, eraseText_rparen,
      eraseText_nil, List.append_nil]
  index := fun _ x i ihx ihi π _ _ => by
    simp only [body, flat]
    rw [eraseText_append, eraseText_wrapBase _ _ _ _ (ihx _), eraseText_lbrack, eraseText_append,
      eraseText_parenthesize _ _ _ _ _ _ (ihi _), eraseText_rbrack, eraseText_nil]
  slice := fun _ x fr to ihx ihf iht π _ _ => by
    simp only [body, flat]
    rw [eraseText_append, eraseText_wrapBase _ _ _ _ (ihx _), eraseText_lbrack, eraseText_append, ihf,
      eraseText_colon, eraseText_append, iht, eraseText_rbrack, eraseText_nil]
  func := fun _ name args _ ihas π _ _ => by
    simp only [body, flat]
    rw [eraseText_plain (by decide) (by decide), eraseText_lparen, eraseText_append, ihas, eraseText_rparen,
      eraseText_nil, List.append_nil]
  builtin1 := fun _ name a _ iha π _ _ => by
    simp only [body, flat, builtinP, flatB]
    rw [eraseText_plain (by decide) (by decide), eraseText_lparen, eraseText_append,
      eraseText_parenthesize _ _ _ _ _ _ (iha _), eraseText_rparen, eraseText_nil, List.append_nil]
  builtin2 := fun _ name a _ b iha ihb π _ _ => by
    simp only [body, flat, builtinP, flatB]
    rw [eraseText_plain (by decide) (by decide), eraseText_lparen, eraseText_append, eraseText_append,
      eraseText_parenthesize _ _ _ _ _ _ (iha _), eraseText_comma, eraseText_lbrace, eraseText_append,
      eraseText_parenthesize _ _ _ _ _ _ (ihb _), eraseText_rbrace, eraseText_nil, eraseText_rparen,
      eraseText_nil, List.append_nil]
  array := fun _ xs ihxs π _ _ => by
    simp only [body, flat]
    rw [eraseText_lbrack, eraseText_append, ihxs, eraseText_rbrack, eraseText_nil]
  map := fun _ ps ihps π _ _ => by
    simp only [body, flat]
    rw [eraseText_lbrace, eraseText_append, ihps, eraseText_rbrace, eraseText_nil]
  lnil := fun _ _ _ => rfl
  lcons := fun a as iha ihas π i close => by
    cases as with
    | nil => exact eraseText_parenthesize _ _ _ _ _ _ (iha _)
    | cons b rest =>
      simp only [listP, flatL]
      rw [eraseText_append, eraseText_parenthesize _ _ _ _ _ _ (iha _), eraseText_comma, ihas]
  onone := fun _ _ _ => rfl
  osome := fun e ihe π i close => eraseText_parenthesize _ _ _ _ _ _ (ihe _)
  pnil := fun _ _ _ => rfl
  pcons := fun pm k v ps ihk ihv ihps π j l => by
    have hk := flat_keyP cfg sh pc k π j l (ihk _ _ _)
    have hv : ∀ fw, eraseText (pr cfg sh pc ((2*j+1) :: π) 0 fw v) = flat sh v :=
      fun fw => eraseText_parenthesize _ _ _ _ _ _ (ihv _)
    cases ps with
    | nil =>
      rw [pairsP_last, eraseText_append, hk, eraseText_colon, hv]
      rfl
    | cons q rest =>
      rw [pairsP_more, eraseText_append, hk, eraseText_colon, eraseText_append, hv, eraseText_comma, ihps]
      simp only [flatP, flat, List.append_assoc, List.cons_append]

theorem flat_body (hy : EraHyp cfg) : (t : Node) → ∀ (d : Nat) (π : List Nat) (m : Nat) (fw : Token),
    canon cfg d t = true → eraseText (body cfg sh pc π m fw t) = flat sh t :=
  fun t d π m fw h => (flatInd cfg sh pc hy).node t d h π m fw

theorem flat_pr' (hy : EraHyp cfg) : (t : Node) → ∀ (d : Nat) (π : List Nat) (m : Nat) (fw : Token),
    canon cfg d t = true → eraseText (pr cfg sh pc π m fw t) = flat sh t :=
  fun t d π _ _ h => eraseText_parenthesize _ _ _ _ _ _ (fun m' fw' => flat_body cfg sh pc hy t d π m' fw' h)

theorem flat_listP (hy : EraHyp cfg) : (xs : List Node) → ∀ (d : Nat) (π : List Nat) (i : Nat) (close : Token),
    canonList cfg d xs = true → eraseText (listP cfg sh pc π i close xs) = flatL sh xs :=
  fun xs d π i close h => (flatInd cfg sh pc hy).list xs d h π i close

theorem flat_optP (hy : EraHyp cfg) : (o : Option Node) → ∀ (d : Nat) (π : List Nat) (i : Nat) (close : Token),
    canonOpt cfg d o = true → eraseText (optP cfg sh pc π i close o) = flatO sh o :=
  fun o d π i close h => (flatInd cfg sh pc hy).opt o d h π i close

theorem flat_pairsP (hy : EraHyp cfg) : (ps : List Node) → ∀ (d : Nat) (π : List Nat) (j : Nat) (l : Loc),
    canonPairs cfg d l ps = true → eraseText (pairsP cfg sh pc π j l ps) = flatP sh ps :=
  fun ps d π j l h => (flatInd cfg sh pc hy).pairs ps d l h π j l

end Flat

variable (cfg : Cfg) (sh : NumShow)

theorem altFree_append_eof : ∀ (ts0 : List Token), altFree ts0 = true → altFree (ts0 ++ [eofTok]) = true
  | [], _ => rfl
  | [a], _ => by simp [altFree, eofTok, Token.is]
  | a :: b :: rest, h => by
    simp only [altFree, Bool.and_eq_true] at h
    have := altFree_append_eof (b :: rest) h.2
    simp only [List.cons_append] at this ⊢
    simp only [altFree, Bool.and_eq_true]
    exact ⟨h.1, this⟩

theorem split_at_eof {e : Token} (he : e.kind = .eof) : ∀ (ts0 pre rest : List Token),
    ts0 ++ [e] = pre ++ rest → noEof ts0 → noEof pre → (cur rest).kind = .eof → pre = ts0 ∧ rest = [e]
  | [], pre, rest, h, _, hp, hr => by
    cases pre with
    | nil => exact ⟨rfl, by simpa using h.symm⟩
    | cons a pre' =>
      simp only [List.nil_append, List.cons_append, List.cons.injEq] at h
      obtain ⟨rfl, h2⟩ := h
      exact absurd he (hp _ (by simp))
  | a :: ts0', pre, rest, h, h0, hp, hr => by
    cases pre with
    | nil =>
      simp only [List.nil_append] at h
      rw [← h] at hr
      exact absurd hr (h0 a (by simp))
    | cons a' pre' =>
      simp only [List.cons_append, List.cons.injEq] at h
      obtain ⟨rfl, h2⟩ := h
      have := split_at_eof he ts0' pre' rest h2 (fun t ht => h0 t (List.mem_cons_of_mem _ ht))
        (fun t ht => hp t (List.mem_cons_of_mem _ ht)) hr
      exact ⟨by rw [this.1], this.2⟩

theorem parseFuel_erase (hy : EraHyp cfg) (hi : ImgHyp cfg) (f : Nat) (ts0 : List Token) (t : Node)
    (h0 : noEof ts0) (h : parseFuel cfg f (ts0 ++ [eofTok]) = .ok t)
    (ha : altFree ts0 = true) (hn : numbersPlain cfg sh ts0) (pc : ParenChoice) :
    eraseText (ts0 ++ [eofTok]) = eraseText (printEof cfg sh pc {} t) := by
  have hE : EofPlain (ts0 ++ [eofTok]) := by
    intro x hx hk
    rcases List.mem_append.mp hx with hx | hx
    · exact absurd hk (h0 x hx)
    · simp at hx; subst hx; simp [eofTok]
  have hcan := parseFuel_canonical cfg hi f _ hE t h
  have hpl : Plain cfg sh (ts0 ++ [eofTok]) := by
    refine ⟨altFree_append_eof ts0 ha, ?_⟩
    intro x hx hk
    rcases List.mem_append.mp hx with hx | hx
    · exact hn x hx hk
    · simp at hx; subst hx; simp [eofTok] at hk
  obtain ⟨rest, hr, hk⟩ := (parseFuel_eq_ok cfg).1 h
  obtain ⟨pre, hsplit, hflat, hnoeof⟩ := (eraAt cfg sh hy f).expr hpl t rest hr
  have hk' : (cur rest).kind = .eof := by simpa using hk
  obtain ⟨rfl, rfl⟩ := split_at_eof (e := eofTok) rfl ts0 pre rest hsplit h0 hnoeof hk'
  unfold printEof
  rw [eraseText_append, eraseText_append, hflat, flat_pr' cfg sh pc hy t 0 _ _ _ hcan]
  rfl

end ExprModel.Parser
