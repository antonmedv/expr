import ExprModel.Proofs.ParsePrintCore
import ExprModel.Proofs.ParserCanonInd
/-
Round trip: postfix chains — identifiers, `#`, member access with the sticky nil-safe flag, index and
slices, calls, builtins with closures, array and map literals.  The statements (`CStmt`, `PStmt`) say "reading the
text as a primary is the postfix loop going on from the node", and the loop's flag argument is the nil-safe state
the text leaves behind (`chainSt`, `baseSt`).  Arguments, array elements and map entries are one comma-separated
list (`SepLoop`, `conv_sep`) read by three loops.
-/
namespace ExprModel.Parser

variable {cfg : Cfg} {sh : NumShow} {pc : ParenChoice}

variable (cfg sh pc) in
/-- a chainable primary printed bare.  The side conditions: `t` is canonical, or an identifier, whose flag `canon`
    does not fix (`canonBaseWith … true`); the next token is not `(`, which after an identifier would be read as a
    call; and an identifier's flag is the one the parser computes from the next token.  On a chainable node `body`
    ignores its context (`body_chainable`), which is fixed at `0 rparen` here. -/
def CStmt (t : Node) : Prop :=
  ∀ (π : List Nat) (tk : Token) (tl : List Token) (d : Nat) (res : Res Node),
    canonBaseWith (canon cfg d t) true t = true → tk.is .bracket "(" = false →
    (∀ mi n ns, t = .ident mi n ns → ns = (tk.value == "?.")) →
    Conv (fun f => parsePostfix cfg f d t (chainSt pc π t) (tk :: tl)) res →
    Conv (fun f => parsePrimary cfg f d (body cfg sh pc π 0 rparen t ++ tk :: tl)) res

variable (cfg sh pc) in
/-- the object `x` of a postfix link, bare or parenthesised as `prBase` prints it.  `member`, `s`: the link is a
    member access, and a nil-safe one; only then may `x` be a nil-safe identifier (`canonBaseWith … (member && s)`),
    and the next token is `?.`, which makes the parser set that flag, exactly then. -/
def PStmt (x : Node) : Prop :=
  ∀ (π : List Nat) (member s : Bool) (tk : Token) (tl : List Token) (d : Nat) (res : Res Node),
    canonBaseWith (canon cfg d x) (member && s) x = true → tk.is .bracket "(" = false →
    (tk.value == "?.") = (member && s) →
    Conv (fun f => parsePostfix cfg f d x (baseSt pc π member s x) (tk :: tl)) res →
    Conv (fun f => parsePrimary cfg f d (prBase cfg sh pc π member s x ++ tk :: tl)) res

/-- two steps in one equation (`parsePrimary`, `parsePrimaryExpression`): hence `f+2` -/
theorem parsePrimary_name {n : String} (hn : reserved n = false) (l : Loc) (f d : Nat) (tk : Token) (tl : List Token) :
    parsePrimary cfg (f+2) d (tok .identifier n l :: tk :: tl) =
      (parseIdentifierExpression cfg f d (tok .identifier n l) (tk :: tl)).bind fun nd ts2 =>
        parsePostfix cfg f d nd false ts2 := by
  simp only [reserved, Bool.or_eq_false_iff, beq_eq_false_iff_ne, ne_eq] at hn
  rw [parsePrimary_other cfg (by simp [tok]) rfl, parsePrimaryExpression]
  simp [tok, next, hn.1.1, hn.1.2, hn.2]

theorem C_ident (mi : Meta) (n : String) (ns : Bool) : CStmt cfg sh pc (.ident mi n ns) := by
  intro π tk tl d res hc htk hns hp
  simp only [canonBaseWith, Bool.and_eq_true, Bool.not_eq_true', Bool.or_true] at hc
  rw [body_ident, List.singleton_append]
  apply Conv.of_succ; apply Conv.of_succ
  refine Conv.congr (fun f => parsePrimary_name hc.1.2 mi.loc f d tk tl) ?_
  refine Conv.bind (a := .ident mi n ns) (ts := tk :: tl) (Conv.of_eq fun f => ?_) (by simpa [chainSt] using hp)
  rw [parseIdentifierExpression]
  simp [htk, mk_of_inv hc.1.1, hns mi n ns rfl]

theorem parsePrimary_hash {l : Loc} (hun : unOp cfg (tok .operator "#" l) = none) {d : Nat} (hd : d > 0) (f : Nat)
    (tk : Token) (tl : List Token) :
    parsePrimary cfg (f+1) d (tok .operator "#" l :: tk :: tl) =
      parsePostfix cfg f d (.pointer (mk l)) false (tk :: tl) := by
  rw [parsePrimary]
  simp only [cur_cons, hun]
  simp [tok, Token.is, hd, next]

theorem C_pointer (hy : TbOK cfg.tb) (mt : Meta) : CStmt cfg sh pc (.pointer mt) := by
  intro π tk tl d res hc _ _ hp
  simp only [canonBaseWith, canon, Bool.and_eq_true, decide_eq_true_eq] at hc
  rw [body_pointer, List.singleton_append]
  refine Conv.step (fun f => parsePrimary_hash (unOp_punct hy (.inl rfl)) hc.2 f tk tl) ?_
  rw [mk_of_inv hc.1]
  simpa [chainSt] using hp

/-- `body` looks at its context number `m` in no clause; on a chainable node it does not look at `fw` either, which
    is the content here -/
theorem body_chainable (t : Node) (hch : chainable t = true) (π : List Nat) (m : Nat) (fw : Token) :
    body cfg sh pc π m fw t = body cfg sh pc π 0 rparen t := by
  cases t <;> simp_all [chainable, body]

variable (cfg sh pc) in
theorem needParens_chainable (t : Node) (hch : chainable t = true) (m : Nat) (fw : Token) :
    needParens cfg m fw t = false := by
  cases t <;> simp_all [chainable, needParens]

theorem baseBare_chainable {π : List Nat} {member s : Bool} {x : Node} (h : baseBare pc π member s x = true) :
    chainable x = true := by
  cases x with
  | ident _ _ _ => rfl
  | _ =>
    simp only [baseBare, Bool.and_eq_true] at h
    exact h.1.1

/-- the nil-safe state after the object of a link: on iff the object's own text left it on, the object is printed
    bare, and the link is not a plain `.` (before which such an object is parenthesised, which resets the state) -/
theorem baseSt_eq (π : List Nat) (member s : Bool) (x : Node) :
    baseSt pc π member s x = (pc π == 0 && chainSt pc π x && (!member || s)) := by
  unfold baseSt
  cases hx : chainSt pc π x
  · simp
  · cases x <;> simp_all [baseBare, chainSt, chainable]

theorem baseSt_link (π : List Nat) (s : Bool) (x : Node) : (baseSt pc π true s x || s) = s := by
  rw [baseSt_eq]
  cases s <;> simp

theorem baseSt_nonmember (π : List Nat) (x : Node) :
    baseSt pc π false false x = (pc π == 0 && chainSt pc π x) := by
  simp [baseSt_eq]

theorem Eb_of_C {t : Node} (hch : chainable t = true) (h : CStmt cfg sh pc t) : EbStmt cfg sh pc t := by
  intro π m p fw tl d res hc _ _ hfw _ hcont
  rw [body_chainable t hch]
  refine conv_parseExpression cfg (h π fw tl d _ (canonBase_of_canon hc) ?_ ?_ (conv_postfix_stop cfg hfw d _ _ tl)) hcont
  · simp [Token.is, hfw.2.2.2]
  · -- a canonical identifier is not nil-safe, and `fw` is not `?.`
    rintro mi n ns rfl
    simp only [canon, Bool.and_eq_true, Bool.not_eq_true'] at hc
    simp [hc.1.2, hfw.2.1]

/-- from the statements about `x` as an expression and as a chain to `x` as the object of a link: `prBase` prints
    it bare exactly when `baseBare` (then `hC`), otherwise in parentheses (then `hE` through `conv_primary_wrap`) -/
theorem P_of (x : Node) (hE : EbStmt cfg sh pc x) (hC : chainable x = true → CStmt cfg sh pc x) :
    PStmt cfg sh pc x := by
  intro π member s tk tl d res hc htk hq hp
  unfold prBase wrapBase
  by_cases hbb : baseBare pc π member s x = true
  · rw [if_pos hbb]
    refine hC (baseBare_chainable hbb) π tk tl d res (canonBase_weaken hc) htk ?_ (by simpa [baseSt, hbb] using hp)
    -- a plain identifier is bare only before a link other than `?.`, a nil-safe one stands only before `?.`
    rintro mi n ns rfl
    rw [hq]
    cases ns
    · simp only [baseBare, Bool.and_eq_true, Bool.not_eq_true'] at hbb
      exact hbb.2.symm
    · simp only [canonBaseWith, Bool.and_eq_true, Bool.not_true, Bool.false_or] at hc
      simp [hc.2]
  · rw [if_neg hbb]
    -- in parentheses `x` is canonical, as a nil-safe identifier is always bare
    have hcx : canon cfg d x = true := by
      rcases canonBase_cases hc with hcx | ⟨mi, n, rfl⟩
      · exact hcx
      · exact absurd rfl hbb
    exact conv_primary_wrap hE hcx π (pc π) (by simpa [baseSt, hbb] using hp)

theorem parsePostfix_link (s : Bool) (name : String) (l : Loc) (f d : Nat) (x : Node) (st : Bool) (tk : Token)
    (tl : List Token) :
    parsePostfix cfg (f+1) d x st (tok .operator (if s then "?." else ".") :: tok .identifier name l :: tk :: tl) =
      if tk.is .bracket "(" then
        (parseArguments cfg f d (tk :: tl)).bind fun args ts3 =>
          parsePostfix cfg f d (.method (mk l) x name args (st || s)) (st || s) ts3
      else parsePostfix cfg f d (.prop (mk l) x name (st || s)) (st || s) (tk :: tl) := by
  rw [parsePostfix]
  cases s <;> simp [tok, next, nameOk] <;> rfl

theorem C_prop (mt : Meta) (x : Node) (name : String) (s : Bool) (ihx : PStmt cfg sh pc x) :
    CStmt cfg sh pc (.prop mt x name s) := by
  intro π tk tl d res hc htk _ hp
  simp only [canonBaseWith, canon, Bool.and_eq_true] at hc
  have hcb : canonBaseWith (canon cfg d x) s x = true := hc.2
  rw [body_prop]
  refine ihx (0 :: π) true s _ _ d res (by simpa using hcb) (by simp [tok, Token.is])
    (by cases s <;> simp [tok]) ?_
  refine Conv.step (fun f => (parsePostfix_link s name mt.loc f d x _ tk tl).trans (if_neg (by simp [htk]))) ?_
  rw [baseSt_link]
  simpa [chainSt, mk_of_inv hc.1] using hp

variable (cfg) in
/-- the optional upper bound of a slice, as `parsePostfix` reads it after the `:` (twice: with and without a lower
    bound) -/
def upperBound (f d : Nat) (ts : List Token) : Res (Option Node) :=
  if (cur ts).is .bracket "]" then .ok none ts
  else (parseExpression cfg f d 0 ts).bind fun e ts' => .ok (some e) ts'

theorem parsePostfix_lbr {R : List Token} (hR : R ≠ []) (l : Loc) (f d : Nat) (x : Node) (st : Bool) :
    parsePostfix cfg (f+1) d x st (lbr l :: R) =
      if (cur R).is .operator ":" then
        (next R).bind fun _ ts2 =>
        (upperBound cfg f d ts2).bind fun to ts3 =>
        (expect .bracket "]" ts3).bind fun _ ts4 =>
        parsePostfix cfg f d (.slice (mk l) x none to) st ts4
      else
        (parseExpression cfg f d 0 R).bind fun fr ts2 =>
        if (cur ts2).is .operator ":" then
          (next ts2).bind fun _ ts3 =>
          (upperBound cfg f d ts3).bind fun to ts4 =>
          (expect .bracket "]" ts4).bind fun _ ts5 =>
          parsePostfix cfg f d (.slice (mk l) x (some fr) to) st ts5
        else
          (expect .bracket "]" ts2).bind fun _ ts3 =>
          parsePostfix cfg f d (.index (mk l) x fr) st ts3 := by
  rw [parsePostfix]
  simp [lbr, tok, next_cons_of_ne _ _ hR, upperBound]

theorem lbr_not_lparen (l : Loc) : (lbr l).is .bracket "(" = false := by simp [lbr, tok, Token.is]

theorem optP_some (π : List Nat) (i : Nat) (close : Token) (e : Node) :
    optP cfg sh pc π i close (some e) = pr cfg sh pc (i :: π) 0 close e := by
  simp [optP, pr]

theorem C_index (hy : TbOK cfg.tb) (mt : Meta) (x i : Node) (ihx : PStmt cfg sh pc x) (ihi : EStmt cfg sh pc i) :
    CStmt cfg sh pc (.index mt x i) := by
  intro π tk tl d res hc htk _ hp
  simp only [canonBaseWith, canon, Bool.and_eq_true] at hc
  have hcb : canonBaseWith (canon cfg d x) false x = true := hc.1.2
  rw [body_index]
  refine ihx (0 :: π) false false _ _ d res (by simpa using hcb) (lbr_not_lparen _)
    (by simp [lbr, tok]) ?_
  have hi := E_closed ihi hc.2 (1 :: π) closer_rbr (tk :: tl)
  refine Conv.step (fun f => (parsePostfix_lbr (by simp) mt.loc f d x _).trans
    (if_neg (by simp [(headOK_of_conv hy hi).start.1]))) ?_
  refine Conv.bind hi ?_
  have h1 : (cur (rbr :: tk :: tl)).is .operator ":" = false := by simp [rbr, tok, Token.is]
  simp only [h1, Bool.false_eq_true, if_false, expect_rbr, Res.bind_ok]
  rw [baseSt_nonmember]
  simpa [chainSt, mk_of_inv hc.1.1] using hp

theorem conv_upperBound (hy : TbOK cfg.tb) {d : Nat} (to : Option Node) (hc : canonOpt cfg d to = true)
    (iht : ∀ e, to = some e → EStmt cfg sh pc e) (π : List Nat) (R : List Token) :
    Conv (fun f => upperBound cfg f d (optP cfg sh pc π 2 rbr to ++ rbr :: R)) (.ok to (rbr :: R)) := by
  unfold upperBound
  cases to with
  | none =>
    have h1 : rbr.is .bracket "]" = true := by simp [rbr, tok, Token.is]
    simpa [optP, h1] using Conv.const _
  | some e =>
    have he := E_closed (iht e rfl) (by simpa [canonOpt] using hc) (2 :: π) closer_rbr R
    rw [optP_some]
    simp only [(headOK_of_conv hy he).start.2.2.2.1, Bool.false_eq_true, if_false]
    exact Conv.bind (K := fun _ e ts4 => .ok (some e) ts4) he (Conv.const _)

theorem C_slice (hy : TbOK cfg.tb) (mt : Meta) (x : Node) (fr to : Option Node) (ihx : PStmt cfg sh pc x)
    (ihf : ∀ e, fr = some e → EStmt cfg sh pc e) (iht : ∀ e, to = some e → EStmt cfg sh pc e) :
    CStmt cfg sh pc (.slice mt x fr to) := by
  intro π tk tl d res hc htk _ hp
  simp only [canonBaseWith, canon, Bool.and_eq_true] at hc
  have hcb : canonBaseWith (canon cfg d x) false x = true := hc.1.1.2
  rw [body_slice]
  refine ihx (0 :: π) false false _ _ d res (by simpa using hcb) (lbr_not_lparen _)
    (by simp [lbr, tok]) ?_
  rw [baseSt_nonmember]
  have hp' : Conv (fun f => parsePostfix cfg f d (.slice (mk mt.loc) x fr to)
      (pc (0 :: π) == 0 && chainSt pc (0 :: π) x) (tk :: tl)) res := by
    simpa [chainSt, mk_of_inv hc.1.1.1] using hp
  have hto := conv_upperBound hy to hc.2 iht π (tk :: tl)
  cases fr with
  | none =>
    simp only [optP, List.nil_append]
    refine Conv.step (fun f => (parsePostfix_lbr (by simp) mt.loc f d x _).trans (if_pos rfl)) ?_
    simp only [next_cons_append, Res.bind_ok]
    refine Conv.bind hto ?_
    simpa only [expect_rbr, Res.bind_ok] using hp'
  | some e =>
    have hce : canon cfg d e = true := by simpa [canonOpt] using hc.1.2
    rw [optP_some]
    have he := E_closed (ihf e rfl) hce (1 :: π) (closer_colon hy) (optP cfg sh pc π 2 rbr to ++ rbr :: tk :: tl)
    refine Conv.step (fun f => (parsePostfix_lbr (by simp) mt.loc f d x _).trans
      (if_neg (by simp [(headOK_of_conv hy he).start.1]))) ?_
    refine Conv.bind he ?_
    have h1 : (cur (colon :: (optP cfg sh pc π 2 rbr to ++ rbr :: tk :: tl))).is .operator ":" = true := by
      simp [colon, tok, Token.is]
    simp only [h1, if_true, next_cons_append, Res.bind_ok]
    refine Conv.bind hto ?_
    simpa only [expect_rbr, Res.bind_ok] using hp'

/-- `L` loops over comma-separated elements, each read by `el`, up to the token `close`: its step equations at an
    element (`enter`: after the comma unless the element is the first) and at `close`, on a text whose next element
    does not start with a separator or a closer (`HeadOK`: the loops' tests for a trailing comma fail). -/
structure SepLoop (L : Nat → Bool → List Token → Res (List Node)) (el : Nat → List Token → Res Node)
    (close : Token) : Prop where
  enter : ∀ f first ts, HeadOK ts → L (f+1) first ((if first then [] else [comma]) ++ ts) =
    (el f ts).bind fun n ts2 => (L f false ts2).bind fun ns ts3 => .ok (n :: ns) ts3
  stop : ∀ f b R, L (f+1) b (close :: R) = .ok [] (close :: R)

/-- The round trip of a comma-separated list up to its closing token, for any such loop.  `T j xs` is the text of
    the elements `xs` from index `j` on, laid out from the element texts `txt` (`hT1`, `hT2`: the last element is
    followed by `close`, any other by `comma`); `G` is what is known of each element, and gives its own round trip
    before either follow token (`hel`). -/
theorem conv_sep {L : Nat → Bool → List Token → Res (List Node)} {el : Nat → List Token → Res Node} {close : Token}
    (hL : SepLoop L el close)
    {G : Node → Prop} {txt : Nat → Token → Node → List Token} {T : Nat → List Node → List Token}
    (hT1 : ∀ j a, G a → T j [a] = txt j close a)
    (hT2 : ∀ j a b r, G a → T j (a :: b :: r) = txt j comma a ++ comma :: T (j+1) (b :: r))
    (hel : ∀ a, G a → ∀ j fw, fw = comma ∨ fw = close → ∀ R, HeadOK (txt j fw a ++ fw :: R) ∧
      Conv (fun f => el f (txt j fw a ++ fw :: R)) (.ok a (fw :: R))) :
    ∀ (rest : List Node) (a : Node), (∀ x ∈ a :: rest, G x) → ∀ (j : Nat) (R : List Token) (first : Bool),
      Conv (fun f => L f first ((if first then [] else [comma]) ++ (T j (a :: rest) ++ close :: R)))
        (.ok (a :: rest) (close :: R)) := by
  intro rest
  induction rest with
  | nil =>
    intro a hg j R first
    have ha := hg a (by simp)
    obtain ⟨hH, hE⟩ := hel a ha j close (.inr rfl) R
    have hrest : Conv (fun f => (L f false (close :: R)).bind fun ns ts3 => Res.ok (a :: ns) ts3)
        (.ok [a] (close :: R)) := by
      apply Conv.of_eq; intro f; rw [hL.stop]; rfl
    rw [hT1 j a ha]
    exact Conv.step (fun f => hL.enter f first _ hH) (Conv.bind hE hrest)
  | cons b rest' ihr =>
    intro a hg j R first
    have ha := hg a (by simp)
    obtain ⟨hH, hE⟩ := hel a ha j comma (.inl rfl) (T (j+1) (b :: rest') ++ close :: R)
    have hrec := ihr b (fun x hx => hg x (List.mem_cons_of_mem _ hx)) (j+1) R false
    simp only [Bool.false_eq_true, if_false, List.singleton_append] at hrec
    have hrest : Conv (fun f => (L f false (comma :: (T (j+1) (b :: rest') ++ close :: R))).bind
        fun ns ts3 => Res.ok (a :: ns) ts3) (.ok (a :: b :: rest') (close :: R)) :=
      Conv.bind (K := fun _ ns ts3 => Res.ok (a :: ns) ts3) hrec (Conv.const _)
    rw [hT2 j a b rest' ha]
    simp only [List.append_assoc, List.cons_append] at hH ⊢
    exact Conv.step (fun f => hL.enter f first _ hH) (Conv.bind hE hrest)

theorem conv_list {d : Nat} {L : Nat → Bool → List Token → Res (List Node)} {close : Token}
    (hL : SepLoop L (fun f ts => parseExpression cfg f d 0 ts) close) (hcl : Closer cfg close) (hy : TbOK cfg.tb)
    (args : List Node) (hc : canonList cfg d args = true) (ih : ∀ a ∈ args, EStmt cfg sh pc a)
    (π : List Nat) (i : Nat) (R : List Token) :
    Conv (fun f => L f true (listP cfg sh pc π i close args ++ close :: R)) (.ok args (close :: R)) := by
  cases args with
  | nil =>
    simp only [listP, List.nil_append]
    exact Conv.of_eq (fun f => hL.stop f true R)
  | cons a rest =>
    have := conv_sep hL
      (G := fun a => canon cfg d a = true ∧ EStmt cfg sh pc a)
      (txt := fun j fw a => pr cfg sh pc (j :: π) 0 fw a) (T := fun j xs => listP cfg sh pc π j close xs)
      (fun j a _ => by simp [listP, pr]) (fun j a b r _ => by simp [listP, pr])
      (fun a ha j fw hfw R => by
        have hfc : Closer cfg fw := by
          rcases hfw with rfl | rfl
          · exact closer_comma hy
          · exact hcl
        have hE := E_closed ha.2 ha.1 (j :: π) hfc R
        exact ⟨headOK_of_conv hy hE, hE⟩)
      rest a (fun x hx => ⟨canonList_mem hc x hx, ih x hx⟩) i R true
    simpa using this

theorem argsLoop_sep (d : Nat) :
    SepLoop (fun f b ts => argsLoop cfg f d b ts) (fun f ts => parseExpression cfg f d 0 ts) rparen where
  enter := fun f first ts h => by
    rw [argsLoop]
    have h1 : comma.is .bracket ")" = false := by simp [comma, tok, Token.is]
    cases first
    · simp [h1, expect_comma _ (headOK_ne_nil h)]
    · simp [h.start.2.2.1]
  stop := fun f b R => by
    rw [argsLoop]
    simp [rparen, tok, Token.is]

theorem conv_parseArguments (hy : TbOK cfg.tb) {d : Nat} (args : List Node) (hc : canonList cfg d args = true)
    (ih : ∀ a ∈ args, EStmt cfg sh pc a) (π : List Nat) (i : Nat) (t2 : Token) (tl : List Token) :
    Conv (fun f => parseArguments cfg f d (lparen :: (listP cfg sh pc π i rparen args ++ rparen :: t2 :: tl)))
      (.ok args (t2 :: tl)) := by
  refine Conv.step (fun f => parseArguments_open cfg rfl f d (by simp)) ?_
  refine Conv.bind (conv_list (argsLoop_sep d) closer_rparen hy args hc ih π i (t2 :: tl)) ?_
  simp only [expect_rparen, Res.bind_ok]
  exact Conv.const _

theorem C_method (hy : TbOK cfg.tb) (mt : Meta) (x : Node) (name : String) (args : List Node) (s : Bool)
    (ihx : PStmt cfg sh pc x) (iha : ∀ a ∈ args, EStmt cfg sh pc a) :
    CStmt cfg sh pc (.method mt x name args s) := by
  intro π tk tl d res hc htk _ hp
  simp only [canonBaseWith, canon, Bool.and_eq_true] at hc
  have hcb : canonBaseWith (canon cfg d x) s x = true := hc.1.2
  rw [body_method]
  refine ihx (0 :: π) true s _ _ d res (by simpa using hcb) (by simp [tok, Token.is])
    (by cases s <;> simp [tok]) ?_
  refine Conv.step (fun f => (parsePostfix_link s name mt.loc f d x _ lparen _).trans (if_pos rfl)) ?_
  refine Conv.bind (conv_parseArguments hy args hc.2 iha π 1 tk tl) ?_
  rw [baseSt_link]
  simpa [chainSt, mk_of_inv hc.1.1] using hp

theorem C_func (hy : TbOK cfg.tb) (mt : Meta) (name : String) (args : List Node) (fast : Bool)
    (iha : ∀ a ∈ args, EStmt cfg sh pc a) : CStmt cfg sh pc (.func mt name args fast) := by
  intro π tk tl d res hc htk _ hp
  simp only [canonBaseWith, canon, Bool.and_eq_true, Bool.not_eq_true', Option.isNone_iff_eq_none] at hc
  obtain ⟨⟨⟨⟨hm, hfast⟩, hres⟩, hnb⟩, hargs⟩ := hc
  subst hfast
  rw [body_func]
  apply Conv.of_succ; apply Conv.of_succ
  refine Conv.congr (fun f => parsePrimary_name hres mt.loc f d lparen _) ?_
  have hid : Conv (fun f => parseIdentifierExpression cfg f d (tok .identifier name mt.loc)
      (lparen :: (listP cfg sh pc π 0 rparen args ++ rparen :: tk :: tl)))
      (.ok (.func mt name args false) (tk :: tl)) := by
    refine Conv.step (fun f => parseIdentifierExpression_func cfg rfl hnb f d _) ?_
    refine Conv.bind (conv_parseArguments hy args hargs iha π 0 tk tl) ?_
    simp only [tok_loc, tok_value, mk_of_inv hm]
    exact Conv.const _
  refine Conv.bind hid ?_
  simpa [chainSt] using hp

theorem conv_parseClosure {d : Nat} (mc : Meta) (b : Node) (hm : inv mc = true) (hcb : canon cfg (d+1) b = true)
    (ihb : EStmt cfg sh pc b) (π : List Nat) (t2 : Token) (tl : List Token) :
    Conv (fun f => parseClosure cfg f d (body cfg sh pc π 0 rparen (.closure mc b) ++ t2 :: tl))
      (.ok (.closure mc b) (t2 :: tl)) := by
  rw [body_closure]
  refine Conv.step (fun f => parseClosure_open cfg rfl f d (by simp)) ?_
  refine Conv.bind (E_closed ihb hcb (0 :: π) closer_rbrace (t2 :: tl)) ?_
  simp only [expect_rbrace, Res.bind_ok, lbrace_loc, mk_of_inv hm]
  exact Conv.const _

theorem parseIdent_builtin1 {n : String} (h : cfg.tb.builtins.lookup n = some 1) (l : Loc) (f d : Nat)
    (R : List Token) (hR : R ≠ []) :
    parseIdentifierExpression cfg (f+1) d (tok .identifier n l) (lparen :: R) =
      (parseExpression cfg f d 0 R).bind fun a ts2 =>
      (expect .bracket ")" ts2).bind fun _ ts6 => .ok (.builtin (mk l) n [a]) ts6 := by
  rw [parseIdentifierExpression]
  simp [lparen, tok, Token.is, h, expect, next_cons_of_ne _ _ hR, Res.bind_assoc]

theorem parseIdent_builtin2 {n : String} (h : cfg.tb.builtins.lookup n = some 2) (l : Loc) (f d : Nat)
    (R : List Token) (hR : R ≠ []) :
    parseIdentifierExpression cfg (f+1) d (tok .identifier n l) (lparen :: R) =
      (parseExpression cfg f d 0 R).bind fun a ts2 =>
      (expect .operator "," ts2).bind fun _ ts3 =>
      (parseClosure cfg f d ts3).bind fun c ts4 =>
      (expect .bracket ")" ts4).bind fun _ ts6 => .ok (.builtin (mk l) n [a, c]) ts6 := by
  rw [parseIdentifierExpression]
  simp [lparen, tok, Token.is, h, expect, next_cons_of_ne _ _ hR, Res.bind_assoc]

theorem C_builtin (hy : TbOK cfg.tb) (mt : Meta) (name : String) (args : List Node)
    (iha : ∀ a ∈ args, EStmt cfg sh pc a)
    (ihc : ∀ a mc b, args = [a, .closure mc b] → EStmt cfg sh pc b) :
    CStmt cfg sh pc (.builtin mt name args) := by
  intro π tk tl d res hc htk _ hp
  have hp' : Conv (fun f => parsePostfix cfg f d (.builtin mt name args) false (tk :: tl)) res := by
    simpa [chainSt] using hp
  obtain ⟨hm, ⟨a, rfl, hl, hca⟩ | ⟨a, mc, b, rfl, hl, hca, hmc, hcb⟩⟩ := canon_builtin hc
  · have hres := hy.bi_names name 1 hl
    rw [body_builtin1]
    apply Conv.of_succ; apply Conv.of_succ
    refine Conv.congr (fun f => parsePrimary_name hres mt.loc f d lparen _) ?_
    refine Conv.bind (a := .builtin mt name [a]) (ts := tk :: tl) ?_ hp'
    refine Conv.step (fun f => parseIdent_builtin1 hl mt.loc f d _ (by simp)) ?_
    refine Conv.bind (E_closed (iha a (by simp)) hca (0 :: π) closer_rparen (tk :: tl)) ?_
    simp only [expect_rparen, Res.bind_ok, mk_of_inv hm]
    exact Conv.const _
  · have hres := hy.bi_names name 2 hl
    rw [body_builtin2]
    apply Conv.of_succ; apply Conv.of_succ
    refine Conv.congr (fun f => parsePrimary_name hres mt.loc f d lparen _) ?_
    refine Conv.bind (a := .builtin mt name [a, .closure mc b]) (ts := tk :: tl) ?_ hp'
    refine Conv.step (fun f => parseIdent_builtin2 hl mt.loc f d _ (by simp)) ?_
    refine Conv.bind (E_closed (iha a (by simp)) hca (0 :: π) (closer_comma hy) _) ?_
    simp only [expect_comma _ (by rw [body_closure]; simp : body cfg sh pc (1 :: π) 0 rparen (.closure mc b) ++ rparen :: tk :: tl ≠ []), Res.bind_ok]
    refine Conv.bind (conv_parseClosure mc b hmc hcb (ihc a mc b rfl) (1 :: π) rparen (tk :: tl)) ?_
    simp only [expect_rparen, Res.bind_ok, mk_of_inv hm]
    exact Conv.const _

theorem arrayLoop_sep (d : Nat) :
    SepLoop (fun f b ts => arrayLoop cfg f d b ts) (fun f ts => parseExpression cfg f d 0 ts) rbr where
  enter := fun f first ts h => by
    rw [arrayLoop]
    have h1 : comma.is .bracket "]" = false := by simp [comma, tok, Token.is]
    cases first
    · simp [h1, expect_comma _ (headOK_ne_nil h), h.start.2.2.2.1]
    · simp [h.start.2.2.2.1]
  stop := fun f b R => by
    rw [arrayLoop]
    simp [rbr, tok, Token.is]

theorem C_array (hy : TbOK cfg.tb) (mt : Meta) (xs : List Node) (ih : ∀ a ∈ xs, EStmt cfg sh pc a) :
    CStmt cfg sh pc (.array mt xs) := by
  intro π tk tl d res hc htk _ hp
  simp only [canonBaseWith, canon, Bool.and_eq_true] at hc
  rw [body_array]
  apply Conv.of_succ; apply Conv.of_succ; apply Conv.of_succ
  refine Conv.congr (fun f => by
    rw [parsePrimary_other cfg (by simp [lbr, tok]) rfl, parsePrimaryExpression_array cfg rfl,
      parseArray_open cfg rfl f d (by simp)]) ?_
  refine Conv.bind (a := .array mt xs) (ts := tk :: tl) ?_ (by simpa [chainSt] using hp.shift 1)
  refine Conv.bind (conv_list (arrayLoop_sep d) closer_rbr hy xs hc.2 ih π 0 (tk :: tl)) ?_
  simp only [expect_rbr, Res.bind_ok, lbr_loc, mk_of_inv hc.1]
  exact Conv.const _

variable (cfg) in
/-- one `key : value` entry: the body of `mapLoop` after the separator, up to the pair node -/
def mapElem (f d : Nat) (l : Loc) (ts1 : List Token) : Res Node :=
  (if (cur ts1).kind == .number || (cur ts1).kind == .string || (cur ts1).kind == .identifier then
    (next ts1).bind fun _ ts2 => .ok (Node.str (mk l) (cur ts1).value) ts2
   else if (cur ts1).is .bracket "(" then parseExpression cfg f d 0 ts1
   else .err ((cur ts1).loc, "a map key must be a quoted string, a number, a identifier, or an expression enclosed in parentheses")).bind fun key ts2 =>
  (expect .operator ":" ts2).bind fun _ ts3 =>
  (parseExpression cfg f d 0 ts3).bind fun v ts4 => .ok (.pair (mk l) key v) ts4

theorem mapLoop_sep (d : Nat) (l : Loc) :
    SepLoop (fun f b ts => mapLoop cfg f d l b ts) (fun f ts => mapElem cfg f d l ts) rbrace where
  enter := fun f first ts h => by
    rw [mapLoop]
    have h0 : comma.is .bracket "}" = false := by simp [comma, tok, Token.is]
    cases first
    · simp [h0, expect_comma _ (headOK_ne_nil h), headOK_not_rbrace h, headOK_not_comma h, mapElem, Res.bind_assoc]
    · simp [headOK_not_rbrace h, mapElem, Res.bind_assoc]
  stop := fun f b R => by
    rw [mapLoop]
    simp [rbrace, tok, Token.is]

theorem mapElem_str (f d : Nat) (l : Loc) (s : String) (R : List Token) (hR : R ≠ []) :
    mapElem cfg f d l (tok .string s :: R) =
      (expect .operator ":" R).bind fun _ ts3 =>
      (parseExpression cfg f d 0 ts3).bind fun v ts4 => .ok (.pair (mk l) (.str (mk l) s) v) ts4 := by
  simp [mapElem, tok, next_cons_of_ne _ _ hR]

theorem mapElem_paren (f d : Nat) (l : Loc) (R : List Token) :
    mapElem cfg f d l (lparen :: R) =
      (parseExpression cfg f d 0 (lparen :: R)).bind fun key ts2 =>
      (expect .operator ":" ts2).bind fun _ ts3 =>
      (parseExpression cfg f d 0 ts3).bind fun v ts4 => .ok (.pair (mk l) key v) ts4 := by
  simp [mapElem, lparen, tok, Token.is]

variable (cfg sh pc) in
theorem headOK_keyP (π : List Nat) (j : Nat) (l : Loc) (k : Node) : HeadOK (keyP cfg sh pc π j l k) := by
  by_cases hs : ∃ mk' s, k = .str mk' s ∧ mk'.loc = l ∧ pc ((2*j) :: π) = 0
  · obtain ⟨mk', s, rfl, hl, hp0⟩ := hs
    rw [keyP_str s hl hp0]
    exact HeadOK.cons (startTok_kind (by simp [tok])) _
  · rw [keyP_wrap hs]
    exact headOK_wrap _ _

theorem conv_mapElem (hy : TbOK cfg.tb) {d : Nat} (l : Loc) (k v : Node) (hck : canon cfg d k = true)
    (ihk : EbStmt cfg sh pc k) (π : List Nat) (j : Nat) {VT T' : List Token} (hne : VT ≠ [])
    (hV : Conv (fun f => parseExpression cfg f d 0 VT) (.ok v T')) :
    Conv (fun f => mapElem cfg f d l (keyP cfg sh pc π j l k ++ colon :: VT)) (.ok (.pair (mk l) k v) T') := by
  have hfin : ∀ key, Conv (fun f => (parseExpression cfg f d 0 VT).bind fun v' ts4 =>
      Res.ok (Node.pair (mk l) key v') ts4) (.ok (Node.pair (mk l) key v) T') :=
    fun key => Conv.bind (K := fun _ v' ts4 => Res.ok (Node.pair (mk l) key v') ts4) hV (Conv.const _)
  by_cases hs : ∃ mk' s, k = .str mk' s ∧ mk'.loc = l ∧ pc ((2*j) :: π) = 0
  · obtain ⟨mk', s, rfl, hl, hp0⟩ := hs
    have hmk : mk' = mk l := by
      simp only [canon] at hck
      rw [← hl]; exact (mk_of_inv hck).symm
    subst hmk
    rw [keyP_str s hl hp0, List.singleton_append]
    refine Conv.congr (fun f => mapElem_str f d l s (colon :: VT) (by simp)) ?_
    simp only [expect_colon _ hne, Res.bind_ok]
    exact hfin _
  · have hK := conv_expr_wrap ihk hck ((2*j) :: π) (pc ((2*j) :: π)) (closer_colon hy).follow
      (conv_cont_stop cfg ((closer_colon hy).stops 0) d k VT)
    obtain ⟨k', hk'⟩ := wrap_max (pc ((2*j) :: π)) (body cfg sh pc ((2*j) :: π) 0 rparen k)
    rw [keyP_wrap hs]
    rw [hk'] at hK ⊢
    simp only [List.cons_append, List.append_assoc] at hK ⊢
    refine Conv.congr (fun f => mapElem_paren f d l _) ?_
    refine Conv.bind hK ?_
    simp only [expect_colon _ hne, Res.bind_ok]
    exact hfin _

theorem conv_pairs (hy : TbOK cfg.tb) {d : Nat} (l : Loc) (rest : List Node) (p : Node)
    (hc : canonPairs cfg d l (p :: rest) = true)
    (ih : ∀ pm k v, Node.pair pm k v ∈ p :: rest → EbStmt cfg sh pc k ∧ EStmt cfg sh pc v)
    (π : List Nat) (j : Nat) (R : List Token) (first : Bool) :
    Conv (fun f => mapLoop cfg f d l first ((if first then [] else [comma]) ++
      (pairsP cfg sh pc π j l (p :: rest) ++ rbrace :: R))) (.ok (p :: rest) (rbrace :: R)) := by
  refine conv_sep (mapLoop_sep d l)
    (G := fun p => ∃ k v, p = .pair (mk l) k v ∧ canon cfg d k = true ∧ canon cfg d v = true ∧
      EbStmt cfg sh pc k ∧ EStmt cfg sh pc v)
    (txt := fun j fw p => match p with
      | .pair _ k v => keyP cfg sh pc π j l k ++ colon :: pr cfg sh pc ((2*j+1) :: π) 0 fw v
      | _ => [])
    (T := fun j ps => pairsP cfg sh pc π j l ps) ?_ ?_ ?_ rest p ?_ j R first
  · rintro j _ ⟨k, v, rfl, _⟩
    exact pairsP_last π j l _ k v
  · rintro j _ b r ⟨k, v, rfl, _⟩
    simp only [pairsP_more, List.append_assoc, List.cons_append]
  · rintro _ ⟨k, v, rfl, hck, hcv, ihk, ihv⟩ j fw hfw R
    have hcl : Closer cfg fw := by
      rcases hfw with rfl | rfl
      · exact closer_comma hy
      · exact closer_rbrace
    have hV := E_closed ihv hcv ((2*j+1) :: π) hcl R
    have hH := (headOK_keyP cfg sh pc π j l k).append (colon :: (pr cfg sh pc ((2*j+1) :: π) 0 fw v ++ fw :: R))
    have hE := conv_mapElem hy l k v hck ihk π j (by simp) hV
    simp only [List.append_assoc, List.cons_append] at hH hE ⊢
    exact ⟨hH, hE⟩
  · intro x hx
    obtain ⟨k, v, rfl, hck, hcv⟩ := canonPairs_mem hc x hx
    obtain ⟨ihk, ihv⟩ := ih (mk l) k v hx
    exact ⟨k, v, rfl, hck, hcv, ihk, ihv⟩

theorem C_map (hy : TbOK cfg.tb) (mt : Meta) (ps : List Node)
    (ih : ∀ pm k v, Node.pair pm k v ∈ ps → EbStmt cfg sh pc k ∧ EStmt cfg sh pc v) :
    CStmt cfg sh pc (.map mt ps) := by
  intro π tk tl d res hc htk _ hp
  simp only [canonBaseWith, canon, Bool.and_eq_true] at hc
  rw [body_map]
  apply Conv.of_succ; apply Conv.of_succ; apply Conv.of_succ
  refine Conv.congr (fun f => by
    rw [parsePrimary_other cfg (by simp [lbrace, tok]) rfl, parsePrimaryExpression_map cfg rfl,
      parseMap_open cfg rfl f d (by simp)]) ?_
  refine Conv.bind (a := .map mt ps) (ts := tk :: tl) ?_ (by simpa [chainSt] using hp.shift 1)
  have hloop : Conv (fun f => mapLoop cfg f d mt.loc true (pairsP cfg sh pc π 0 mt.loc ps ++ rbrace :: tk :: tl))
      (.ok ps (rbrace :: tk :: tl)) := by
    cases ps with
    | nil =>
      simp only [pairsP, List.nil_append]
      exact Conv.of_eq (fun f => (mapLoop_sep d mt.loc).stop f true _)
    | cons p rest =>
      have := conv_pairs hy mt.loc rest p hc.2 ih π 0 (tk :: tl) true
      simpa using this
  refine Conv.bind hloop ?_
  simp only [expect_rbrace, Res.bind_ok, lbrace_loc, mk_of_inv hc.1]
  exact Conv.const _

end ExprModel.Parser
