import ExprModel.Proofs.OptStep
import ExprModel.Proofs.OptPipeline
/-
The annotation discipline the fold pass relies on (`wa`), as a property of trees that the type checker
establishes (`CheckerAnnot.check_wellAnnotated`) and that the passes up to and including fold preserve
(`inArray_keepsWA`, `fold_keepsWA`) — the later passes are not asked, since nothing after fold consults it.

At one node (`waHere`): an integer literal is a Go `int`; the annotation of a unary sign / of `+ - * /` whose
operands are annotated `int` (or not at all) is the annotation of its (left) operand; `%` of such operands
is itself annotated `int` (or not at all).  Literals retyped for a function parameter are not `plain`, so
nothing is asked of the nodes above them — and with `foldPlainOnly` the optimizer does not fold those.
-/
namespace ExprModel
namespace OptProofs
open Opt

/-- the binary operators whose folded literal fold.go annotates like the LEFT operand (`patchWithType`) -/
def arith4 (op : String) : Bool := op == "+" || op == "-" || op == "*" || op == "/"

def waHere : Node → Bool
  | .int _ v => decide (inRange .int v)
  | .unary m op x => !(op == "-" || op == "+") || !plainKd x.kd || m.kd == x.kd
  | .binary m op l r =>
    (!arith4 op || !(plainKd l.kd && plainKd r.kd) || m.kd == l.kd) &&
    (!(op == "%") || !(plainKd l.kd && plainKd r.kd) || plainKd m.kd)
  | _ => true

mutual
def wa : Node → Bool
  | .nil m => true
  | .ident m a b => true
  | .int m v => waHere (.int m v)
  | .float m v => true
  | .bool m v => true
  | .str m v => true
  | .const m v => true
  | .pointer m => true
  | .unary m op x => waHere (.unary m op x) && wa x
  | .binary m op l r => waHere (.binary m op l r) && wa l && wa r
  | .matches _ _ l r => wa l && wa r
  | .prop _ x _ _ => wa x
  | .index _ x i => wa x && wa i
  | .slice _ x f t => wa x && waOpt f && waOpt t
  | .method _ x _ args _ => wa x && waList args
  | .func _ _ args _ => waList args
  | .builtin _ _ args => waList args
  | .closure _ x => wa x
  | .cond _ a b d => wa a && wa b && wa d
  | .array _ xs => waList xs
  | .map _ xs => waList xs
  | .pair _ k v => wa k && wa v
def waList : List Node → Bool
  | [] => true
  | n :: ns => wa n && waList ns
def waOpt : Option Node → Bool
  | none => true
  | some n => wa n
end

theorem wa_here : ∀ n : Node, wa n = true → waHere n = true := by
  intro n h
  cases n <;> simp only [wa, Bool.and_eq_true] at h <;> first | exact h | exact h.1 | exact h.1.1 | rfl

structure KeepsWA (rule : Rule) : Prop where
  keep : ∀ N st, wa N = true → wa (rule N st).1 = true ∧ (rule N st).1.kd = N.kd

theorem waHere_unary_congr (m : Meta) (op : String) {x x' : Node} (h : x'.kd = x.kd) :
    waHere (.unary m op x') = waHere (.unary m op x) := by simp only [waHere, h]

theorem waHere_binary_congr (m : Meta) (op : String) {l l' r r' : Node} (hl : l'.kd = l.kd) (hr : r'.kd = r.kd) :
    waHere (.binary m op l' r') = waHere (.binary m op l r) := by simp only [waHere, hl, hr]

def WAres (n : Node) (r : Node × St) : Prop := wa r.1 = true ∧ r.1.kd = n.kd

/-! Two rules that agree on well-annotated nodes walk a well-annotated tree alike; `walk_wa` is the case of one rule.
Why two rules: `walk_sim` asks for a rule that is sound at EVERY node, and fold is sound only at well-annotated ones.
So C02 walks with fold restricted to such nodes (`withWA`), which is sound everywhere, and this block says that on a
well-annotated tree the restriction changes nothing. -/
section
variable (ws : Bool) (r1 r2 : Rule) (hk : KeepsWA r2) (heq : ∀ N st, wa N = true → r1 N st = r2 N st)
include hk heq

theorem agree_node (n N' : Node) (st' : St) (hw : wa N' = true) (hkd : N'.kd = n.kd) :
    r1 N' st' = r2 N' st' ∧ WAres n (r2 N' st') :=
  ⟨heq N' st' hw, (hk.keep N' st' hw).1, (hk.keep N' st' hw).2.trans hkd⟩

mutual
theorem walk_agree_wa : (n : Node) → (st : St) → wa n = true →
    walk ws r1 n st = walk ws r2 n st ∧ WAres n (walk ws r2 n st)
  | .nil _, st, h | .ident .., st, h | .int .., st, h | .float .., st, h | .bool .., st, h | .str .., st, h
  | .const .., st, h | .pointer _, st, h => by simp only [walk]; exact agree_node r1 r2 hk heq _ _ st h rfl
  | .unary m op x, st, h => by
    simp only [walk]
    simp only [wa, Bool.and_eq_true] at h
    obtain ⟨e1, w1, k1⟩ := walk_agree_wa x st h.2
    rw [e1]
    refine agree_node r1 r2 hk heq _ _ _ ?_ rfl
    simp only [wa, Bool.and_eq_true, waHere_unary_congr m op k1]
    exact ⟨h.1, w1⟩
  | .binary m op l r, st, h => by
    simp only [walk]
    simp only [wa, Bool.and_eq_true] at h
    obtain ⟨e1, w1, k1⟩ := walk_agree_wa l st h.1.2
    obtain ⟨e2, w2, k2⟩ := walk_agree_wa r (walk ws r2 l st).2 h.2
    rw [e1, e2]
    refine agree_node r1 r2 hk heq _ _ _ ?_ rfl
    simp only [wa, Bool.and_eq_true, waHere_binary_congr m op k1 k2]
    exact ⟨⟨h.1.1, w1⟩, w2⟩
  | .matches _ _ l r, st, h | .index _ l r, st, h | .pair _ l r, st, h => by
    simp only [walk]
    simp only [wa, Bool.and_eq_true] at h
    obtain ⟨e1, w1, _⟩ := walk_agree_wa l st h.1
    obtain ⟨e2, w2, _⟩ := walk_agree_wa r (walk ws r2 l st).2 h.2
    rw [e1, e2]
    refine agree_node r1 r2 hk heq _ _ _ ?_ rfl
    simp only [wa, Bool.and_eq_true]
    exact ⟨w1, w2⟩
  | .prop _ x _ _, st, h | .closure _ x, st, h => by
    simp only [walk]
    simp only [wa] at h
    obtain ⟨e1, w1, _⟩ := walk_agree_wa x st h
    rw [e1]
    refine agree_node r1 r2 hk heq _ _ _ ?_ rfl
    simp only [wa]
    exact w1
  | .slice m x f t, st, h => by
    simp only [walk]
    simp only [wa, Bool.and_eq_true] at h
    by_cases hws : ws = true
    · obtain ⟨e1, w1, _⟩ := walk_agree_wa x st h.1.1
      obtain ⟨e2, w2⟩ := walkOpt_agree_wa f (walk ws r2 x st).2 h.1.2
      obtain ⟨e3, w3⟩ := walkOpt_agree_wa t (walkOpt ws r2 f (walk ws r2 x st).2).2 h.2
      rw [if_pos hws, if_pos hws, e1, e2, e3]
      refine agree_node r1 r2 hk heq _ _ _ ?_ rfl
      simp only [wa, Bool.and_eq_true]
      exact ⟨⟨w1, w2⟩, w3⟩
    · obtain ⟨e2, w2⟩ := walkOpt_agree_wa f st h.1.2
      obtain ⟨e3, w3⟩ := walkOpt_agree_wa t (walkOpt ws r2 f st).2 h.2
      rw [if_neg hws, if_neg hws, e2, e3]
      refine agree_node r1 r2 hk heq _ _ _ ?_ rfl
      simp only [wa, Bool.and_eq_true]
      exact ⟨⟨h.1.1, w2⟩, w3⟩
  | .method m x name args ns, st, h => by
    simp only [walk]
    simp only [wa, Bool.and_eq_true] at h
    obtain ⟨e1, w1, _⟩ := walk_agree_wa x st h.1
    obtain ⟨e2, w2⟩ := walkList_agree_wa args (walk ws r2 x st).2 h.2
    rw [e1, e2]
    refine agree_node r1 r2 hk heq _ _ _ ?_ rfl
    simp only [wa, Bool.and_eq_true]
    exact ⟨w1, w2⟩
  | .func _ _ xs _, st, h | .builtin _ _ xs, st, h | .array _ xs, st, h | .map _ xs, st, h => by
    simp only [walk]
    simp only [wa] at h
    obtain ⟨e2, w2⟩ := walkList_agree_wa xs st h
    rw [e2]
    refine agree_node r1 r2 hk heq _ _ _ ?_ rfl
    simp only [wa]
    exact w2
  | .cond m a b d, st, h => by
    simp only [walk]
    simp only [wa, Bool.and_eq_true] at h
    obtain ⟨e1, w1, _⟩ := walk_agree_wa a st h.1.1
    obtain ⟨e2, w2, _⟩ := walk_agree_wa b (walk ws r2 a st).2 h.1.2
    obtain ⟨e3, w3, _⟩ := walk_agree_wa d (walk ws r2 b (walk ws r2 a st).2).2 h.2
    rw [e1, e2, e3]
    refine agree_node r1 r2 hk heq _ _ _ ?_ rfl
    simp only [wa, Bool.and_eq_true]
    exact ⟨⟨w1, w2⟩, w3⟩
theorem walkList_agree_wa : (ns : List Node) → (st : St) → waList ns = true →
    walkList ws r1 ns st = walkList ws r2 ns st ∧ waList (walkList ws r2 ns st).1 = true
  | [], st, _ => by simp only [walkList, waList, and_self]
  | n :: ns, st, h => by
    simp only [walkList]
    simp only [waList, Bool.and_eq_true] at h ⊢
    obtain ⟨e1, w1, _⟩ := walk_agree_wa n st h.1
    obtain ⟨e2, w2⟩ := walkList_agree_wa ns (walk ws r2 n st).2 h.2
    rw [e1, e2]
    exact ⟨rfl, w1, w2⟩
theorem walkOpt_agree_wa : (o : Option Node) → (st : St) → waOpt o = true →
    walkOpt ws r1 o st = walkOpt ws r2 o st ∧ waOpt (walkOpt ws r2 o st).1 = true
  | none, st, _ => by simp only [walkOpt, waOpt, and_self]
  | some n, st, h => by
    simp only [walkOpt]
    simp only [waOpt] at h ⊢
    obtain ⟨e1, w1, _⟩ := walk_agree_wa n st h
    rw [e1]
    exact ⟨rfl, w1⟩
end

theorem walk_agree : (n : Node) → (st : St) → wa n = true → walk ws r1 n st = walk ws r2 n st
  | n, st, h => (walk_agree_wa ws r1 r2 hk heq n st h).1
theorem walkList_agree : (ns : List Node) → (st : St) → waList ns = true → walkList ws r1 ns st = walkList ws r2 ns st
  | ns, st, h => (walkList_agree_wa ws r1 r2 hk heq ns st h).1
theorem walkOpt_agree : (o : Option Node) → (st : St) → waOpt o = true → walkOpt ws r1 o st = walkOpt ws r2 o st
  | o, st, h => (walkOpt_agree_wa ws r1 r2 hk heq o st h).1
end

theorem walk_wa (ws : Bool) (rule : Rule) (hk : KeepsWA rule) (n : Node) (st : St) (h : wa n = true) :
    WAres n (walk ws rule n st) :=
  (walk_agree_wa ws rule rule hk (fun _ _ _ => rfl) n st h).2

theorem repeatPass_wa (ws : Bool) (rule : Rule) (hk : KeepsWA rule) :
    ∀ (k : Nat) (n n' : Node), wa n = true → repeatPass ws rule k n = .ok n' → wa n' = true :=
  fun k n _ hw h => (repeatPass_keeps (Q := (wa · = true)) (E := fun _ => True)
    (fun n hn => ⟨(walk_wa ws rule hk n {} hn).1, fun _ _ => trivial⟩) k n hw).ok h

theorem repeatPass_agree (ws : Bool) (r1 r2 : Rule) (hk : KeepsWA r2) (heq : ∀ N st, wa N = true → r1 N st = r2 N st) :
    ∀ (k : Nat) (n : Node), wa n = true → repeatPass ws r1 k n = repeatPass ws r2 k n := by
  intro k
  induction k with
  | zero => intro n _; simp only [repeatPass]
  | succ k ih =>
    intro n h
    simp only [repeatPass]
    rw [walk_agree ws r1 r2 hk heq n {} h]
    split
    · rfl
    · split
      · exact ih _ (walk_wa ws r2 hk n {} h).1
      · rfl

theorem Step.keepsWA {marks : Bool} {Rej : Prop} {New : Node → Prop} {N : Node} {st : St} {out : Node × St}
    (h : Step marks Rej New N st out) (hw : wa N = true) (hn : ∀ n', New n' → wa n' = true ∧ n'.kd = N.kd) :
    wa out.1 = true ∧ out.1.kd = N.kd := by
  cases h with
  | keep => exact ⟨hw, rfl⟩
  | reject => exact ⟨hw, rfl⟩
  | new h => exact hn _ h

theorem guarded_keepsWA (g : Guard) (p : Pass) (r : Rule) (h : KeepsWA r) : KeepsWA (guarded g p r) where
  keep := by
    intro N st hw
    simp only [guarded]
    split
    · exact h.keep N st hw
    · exact ⟨hw, rfl⟩

theorem inArray_keepsWA (fl : Flags) : KeepsWA (inArrayRule fl) where
  keep := fun N st hw => (inArrayRule_step fl N st).keepsWA hw fun _ h => by
    obtain ⟨m, op, l, ma, xs, v, rfl, hop, rfl⟩ := h.shape
    have hl : wa l = true := by simp only [wa, Bool.and_eq_true] at hw; exact hw.1.2
    refine ⟨?_, rfl⟩
    simp only [wa, hl, Bool.and_true]
    rcases hop with rfl | rfl <;> rfl

/-- the literal `fold` puts in place is a Go `int` (`FoldNew` says so) and is annotated like the node it replaces: for
    the unary signs and `+ - * /` over un-retyped literals that is what `waHere` of the node says -/
theorem foldNew_keepsWA {fl : Flags} {w : World} (hf : fl.foldPlainOnly = true) {N n' : Node} (h : FoldNew fl w N n')
    (hw : wa N = true) : wa n' = true ∧ n'.kd = N.kd := by
  have hh := wa_here N hw
  cases h with
  | sign ho hp hr _ =>
    simp only [wa, waHere, Bool.and_eq_true, decide_eq_true_eq] at hw
    refine ⟨by simpa only [wa, waHere, decide_eq_true_eq] using hr hw.2, ?_⟩
    simp [waHere, ho, hp hf, Node.kd, Node.getMeta] at hh
    exact hh.symm
  | arith h4 hp hr _ =>
    refine ⟨by simpa only [wa, waHere, decide_eq_true_eq] using hr, ?_⟩
    simp [waHere, arith4, h4, (hp hf).1, (hp hf).2, Node.kd, Node.getMeta] at hh
    exact hh.1.symm
  | mod hr _ => exact ⟨by simpa only [wa, waHere, decide_eq_true_eq] using hr, rfl⟩
  | pow | concat | ints | strs => exact ⟨rfl, rfl⟩

theorem fold_keepsWA (fl : Flags) (w : World) (hf : fl.foldPlainOnly = true) : KeepsWA (foldRule fl w) where
  keep := fun N st hw => (foldRule_step fl w N st).keepsWA hw fun _ h => foldNew_keepsWA hf h hw

end OptProofs
end ExprModel
