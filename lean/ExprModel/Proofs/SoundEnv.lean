import ExprModel.Proofs.SoundCall
import ExprModel.Proofs.NameRes
/-
Sufficient conditions for the hypotheses of the soundness theorems: `EnvConforms2` entry by entry of an arbitrary types
table (`HoldsAt`), what a function type of the table and a successful `funcPlan` give.  At the end, member resolution on a
flat struct with exactly two exported fields (`fieldTypeT_flat2`, `methodTypeT_flat2`): the shape of the environments in C03's
witnesses.
-/
namespace ExprModel

/-- one table entry's share of `EnvConforms2` (`envConforms2_of_table`): the same value is fetched with and without `?.` -/
def HoldsAt (env : Val) (name : String) (t : OTy) : Prop :=
  ∀ V, vtyOf t = some V → ∃ v, (∀ ns, fetchV env (.str name) ns = .ok v) ∧ ValOfV v V

theorem HoldsAt.intro {env : Val} {name : String} {t : OTy} {V : VTy} {v : Val} (hV : vtyOf t = some V)
    (hf : ∀ ns, fetchV env (.str name) ns = .ok v) (hv : ValOfV v V) : HoldsAt env name t := by
  intro V' hV'
  rw [hV] at hV'
  cases hV'
  exact ⟨v, hf, hv⟩

theorem HoldsAt.of_unclassified {env : Val} {name : String} {t : OTy} (hV : vtyOf t = none) : HoldsAt env name t := by
  intro V hV'
  rw [hV] at hV'
  cases hV'

/-- strict: an unknown name is an error, or with `?.` has the nil type, which has no value type -/
theorem envConforms2_of_table {cfg : CheckCfg} {tbl : Table} {env : Val} (ht : cfg.types = some tbl)
    (hs : cfg.strict = true) (hent : ∀ e ∈ tbl, HoldsAt env e.1 e.2.ty) : EnvConforms2 cfg env := by
  intro name ns τ V hr hV
  unfold identRule at hr
  rw [ht] at hr
  cases hg : tbl.get? name with
  | some g =>
    have hτ : g.ty = τ := by
      simp only [hg] at hr
      split at hr
      · cases hr
      · split at hr
        · cases hr
        · cases hr; rfl
    obtain ⟨v, hf, hv⟩ := hent (name, g) (Table.mem_of_get? hg) V (hτ ▸ hV)
    exact ⟨v, hf ns, hv⟩
  | none =>
    simp only [hg, hs, Bool.not_true, Bool.false_eq_true, if_false] at hr
    split at hr
    · cases hr
    · cases hr; cases hV

theorem fetchV_field {nm : String} {p : Bool} {fs : List (String × Val)} {k : String} {v : Val}
    (h : lookupKv k fs = some v) (hm : isMethodVal v = false) (ns : Bool) :
    fetchV (.struct nm p fs) (.str k) ns = .ok v := by
  simp only [fetchV, h, hm, Bool.false_eq_true, if_false]

theorem conf_of_unclassified {w : Val} {t : OTy} (hV : vtyOf t = none) : ∀ n, Conf n w t
  | 0 => trivial
  | n + 1 => by simp only [Conf, hV]

theorem funcTargetC_mem {cfg : CheckCfg} {tbl : Table} {name : String} {fn : Ty} {im : Bool} (ht : cfg.types = some tbl)
    (h : funcTargetC cfg name = some (fn, im)) : ∃ g, (name, g) ∈ tbl ∧ isFuncType g.ty = some fn := by
  unfold funcTargetC at h
  rw [ht] at h
  cases hg : tbl.get? name with
  | none => rw [Option.bind_some, hg] at h; cases h
  | some g =>
    rw [Option.bind_some, hg, Option.bind_some] at h
    cases hf : isFuncType g.ty with
    | none => rw [hf] at h; cases h
    | some fn' =>
      rw [hf] at h
      cases h
      exact ⟨g, Table.mem_of_get? hg, hf⟩

theorem funcPlan_out {fn : Ty} {im : Bool} {n : Nat} {ins : List Ty} {variadic : Bool} {numIn offset : Nat} {out : Ty}
    (h : funcPlan fn im n = .inr (ins, variadic, numIn, offset, out)) : ∃ v, fn.funcParts = some (ins, v, [out]) := by
  have := funcPlan_cases fn im n
  rw [h] at this
  exact ⟨_, this⟩

theorem fieldTypeT_flat2 {t s : Ty} {a b : String} {ta tb : Ty} (hd : t.deref = s) (hk : s.kind = .struct)
    (hf : s.fields = [.mk a ta false true, .mk b tb false true]) (hab : a ≠ b) (name : String) :
    fieldTypeT .asIs (some t) name = if name = a then some ta else if name = b then some tb else none := by
  have he : s.embedded = [] := by rw [Ty.embedded, hf]; rfl
  simp only [fieldTypeT]
  rw [C16.fieldType_asIs_succ, hd, hk]
  simp only []
  rw [reflField_flat he, hf]
  by_cases h1 : name = a
  · subst h1
    simp [List.filter, Field.name, Field.exported, Field.ty, Ne.symm hab]
  · by_cases h2 : name = b
    · subst h2
      simp [List.filter, Field.name, Field.exported, Field.ty, hab, h1]
    · simp [List.filter, Field.name, h1, h2, Ne.symm h1, Ne.symm h2]

theorem methodTypeT_flat2 {t s : Ty} {a b : String} {ta tb : Ty} (hd : t.derefOnce = s) (hk : s.kind = .struct)
    (hf : s.fields = [.mk a ta false true, .mk b tb false true]) (hab : a ≠ b) (name : String) :
    methodTypeT .asIs (some t) name =
      match methodByName t name with
      | some m => some (m, t.kind != .iface)
      | none => if name = a then some (ta, false) else if name = b then some (tb, false) else none := by
  have he : s.embedded = [] := by rw [Ty.embedded, hf]; rfl
  simp only [methodTypeT, methodType]
  cases methodByName t name with
  | some m => rfl
  | none =>
    simp only [hd, hk, NDefects.asIs, Bool.false_eq_true, if_false, Bool.false_or]
    rw [reflField_flat he, hf]
    by_cases h1 : name = a
    · subst h1
      simp [List.filter, Field.name, Field.exported, Field.ty, Ne.symm hab]
    · by_cases h2 : name = b
      · subst h2
        simp [List.filter, Field.name, Field.exported, Field.ty, hab, h1]
      · simp [List.filter, Field.name, h1, h2, Ne.symm h1, Ne.symm h2]

end ExprModel
