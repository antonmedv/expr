import ExprModel.Proofs.WalkThm
/-
The position-tracking visitor `Visitor.atPath target g` finds `target` by counting its own `Enter`/`Exit` calls; a
walk with it returns the tree with `g` applied to the sub-tree at `target` and nothing else changed (`walkU_atPath`).
Positions as the visitor counts them begin with the ordinal of the root itself, which a walk started in state
`⟨[], 0⟩` makes `0`: the root is at `[0]`, its `i`-th child at `[0, i]`.  Hence the target `0 :: p` for the position
that `nodeAt` / `rewriteAt` call `p` (`walkU_atPath_root`).
-/
namespace ExprModel
open Node

/-- `cur` is the position of the parent and `j` the ordinal of the first node of `cs` among its children -/
theorem walkList_atPath (g : Node → Node) (target cur : List Nat)
    (rec : Node → PathSt → Option (Node × PathSt)) (cs : List Node)
    (hrec : ∀ c ∈ cs, ∀ j, rec c ⟨cur, j⟩ = some (expectAt g target (cur ++ [j]) c, ⟨cur, j + 1⟩)) :
    ∀ j, walkList rec cs ⟨cur, j⟩ =
      some ((cs.zipIdx j).map (fun ci => expectAt g target (cur ++ [ci.2]) ci.1), ⟨cur, j + cs.length⟩) := by
  induction cs with
  | nil => intro j; simp [walkList]
  | cons c cs ih =>
    intro j
    rw [walkList_cons]
    refine ⟨_, _, _, _, hrec c List.mem_cons_self j, ih (fun d hd => hrec d (List.mem_cons_of_mem _ hd)) (j + 1), ?_⟩
    simp [List.zipIdx_cons, Nat.add_assoc, Nat.add_comm 1]

theorem zipIdx_map_modify {α : Type} (h : α → α) (cs : List α) (i0 k : Nat) :
    (cs.zipIdx k).map (fun ci => if ci.2 = k + i0 then h ci.1 else ci.1) = cs.modify i0 h := by
  apply List.ext_getElem?
  intro i
  rw [List.getElem?_map, List.getElem?_zipIdx, List.getElem?_modify]
  cases cs[i]? with
  | none => rfl
  | some a => simp [eq_comm (a := i0)]

theorem walkU_atPath (g : Node → Node) (target : List Nat) :
    ∀ (f : Nat) (n : Node) (cur : List Nat) (j : Nat), n.height ≤ f →
      walkU (Visitor.atPath target g) f n ⟨cur, j⟩ = some (expectAt g target (cur ++ [j]) n, ⟨cur, j + 1⟩) := by
  intro f n cur j h
  revert cur j
  refine Node.induction_fuel (P := fun f n => ∀ cur j, walkU (Visitor.atPath target g) f n ⟨cur, j⟩ =
    some (expectAt g target (cur ++ [j]) n, ⟨cur, j + 1⟩)) (fun f n ih cur j => ?_) f n h
  rw [walkU_succ]
  have hk : ∀ c ∈ n.children, ∀ i, walkU (Visitor.atPath target g) f c ⟨cur ++ [j], i⟩ =
      some (expectAt g target (cur ++ [j] ++ [i]) c, ⟨cur ++ [j], i + 1⟩) := fun c hc i => ih c hc _ i
  have hl := walkList_atPath g target (cur ++ [j]) (walkU (Visitor.atPath target g) f) n.children hk 0
  have he : (Visitor.atPath target g).enter n ⟨cur, j⟩ = (n, ⟨cur ++ [j], 0⟩) := rfl
  rw [he]
  simp only [hl]
  simp only [Visitor.atPath, List.dropLast_concat, List.getLast?_concat, Option.getD_some, Option.some.injEq,
    Prod.mk.injEq, and_true]
  have kidsSame (hno : ∀ i, ¬ (cur ++ [j] ++ [i] <+: target)) :
      (n.children.zipIdx 0).map (fun ci => expectAt g target (cur ++ [j] ++ [ci.2]) ci.1) = n.children := by
    rw [List.map_congr_left (fun ci _ => if_neg (hno ci.2)), List.zipIdx_map_fst]
  by_cases hp : cur ++ [j] <+: target
  · obtain ⟨rel, hrel⟩ := hp
    cases rel with
    | nil =>
      -- this node is the target: no child position is a prefix of the target
      have ht : cur ++ [j] = target := by simpa using hrel
      rw [kidsSame fun i hpre => by have := hpre.length_le; rw [← ht] at this; simp at this,
        withChildren_children]
      simp [ht, expectAt, rewriteAt]
    | cons i0 rel =>
      -- the target lies below child `i0`: that child is rewritten at the rest of the path, the others are left alone
      have hne : cur ++ [j] ≠ target := by
        intro e; rw [← hrel] at e
        have := congrArg List.length e
        simp at this
      have hkids : ∀ ci ∈ n.children.zipIdx 0,
          expectAt g target (cur ++ [j] ++ [ci.2]) ci.1 = if ci.2 = 0 + i0 then rewriteAt g rel ci.1 else ci.1 := by
        intro ci _
        unfold expectAt
        rw [← hrel]
        by_cases hi : ci.2 = i0
        · subst hi
          have : cur ++ [j] ++ [ci.2] <+: cur ++ [j] ++ ci.2 :: rel := by
            rw [List.prefix_append_right_inj]; simp
          rw [if_pos this]
          simp
        · have : ¬ (cur ++ [j] ++ [ci.2] <+: cur ++ [j] ++ i0 :: rel) := by
            rw [List.prefix_append_right_inj]; simp [hi]
          rw [if_neg this]
          simp [hi]
      -- "rewrite the child whose ordinal is `i0`" is `List.modify i0`, the body of `rewriteAt`
      rw [List.map_congr_left hkids, zipIdx_map_modify]
      have hpre : cur ++ [j] <+: target := ⟨i0 :: rel, hrel⟩
      simp only [hne, ↓reduceIte, expectAt, hpre]
      rw [← hrel]
      simp [rewriteAt]
  · -- this node is off the path to the target, and so is everything below it
    have hne : cur ++ [j] ≠ target := by
      intro e; exact hp (e ▸ List.prefix_refl _)
    rw [kidsSame fun i hpre => hp ((List.prefix_append _ _).trans hpre), withChildren_children]
    simp [hne, expectAt, hp]

theorem walkU_atPath_root (g : Node → Node) (p : List Nat) (f : Nat) (n : Node) (h : n.height ≤ f) :
    walkU (Visitor.atPath (0 :: p) g) f n ⟨[], 0⟩ = some (rewriteAt g p n, ⟨[], 1⟩) := by
  have := walkU_atPath g (0 :: p) f n [] 0 h
  simpa [expectAt] using this

end ExprModel
