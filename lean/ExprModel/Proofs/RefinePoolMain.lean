import ExprModel.Proofs.Emits
/-
C01: `compileNode cfg n p = ok (code, p')` implies `Compiles K cfg n code` for every constant array `K` that extends
`p'`, when no two float constants of the tree are aliased in the pool: `compile_emits` with the exact constant fact,
and `Compiles K` read off `Emits (K[·]? = some ·)` constructor by constructor.
-/
namespace ExprModel.Refine
open ExprModel

variable {K : Array Val} {cfg : CompCfg}

theorem Emits.compiles {n code} (h : Emits (fun k v => K[k]? = some v) cfg n code) : Compiles K cfg n code := by
  apply Emits.rec (motive_1 := fun n code _ => Compiles K cfg n code) (motive_2 := fun o d code _ => CompilesO K cfg o d code)
    (motive_3 := fun ns code _ => CompilesL K cfg ns code) (t := h)
  case nilN =>
    intro _
    exact (Compiles_nil K cfg _).mpr rfl
  case bool =>
    intro _ _
    exact (Compiles_bool K cfg _).mpr rfl
  case ident =>
    intro _ _ _ k hk
    exact (Compiles_ident K cfg _).mpr ⟨k, hk, rfl⟩
  case int =>
    intro _ _ k hk
    exact (Compiles_int K cfg _).mpr ⟨k, hk, rfl⟩
  case float =>
    intro _ _ k hk
    exact (Compiles_float K cfg _).mpr ⟨k, hk, rfl⟩
  case str =>
    intro _ _ k hk
    exact (Compiles_str K cfg _).mpr ⟨k, hk, rfl⟩
  case constNil =>
    intro _
    exact (Compiles_const K cfg _).mpr (.inl ⟨rfl, rfl⟩)
  case const =>
    intro _ _ k hv hk
    exact (Compiles_const K cfg _).mpr (.inr ⟨hv, k, hk, rfl⟩)
  case not =>
    intro _ _ _ cx h1 _ ih
    exact (Compiles_unary K cfg _).mpr ⟨cx, ih, (if_pos h1).mpr rfl⟩
  case plus =>
    intro _ _ cx _ ih
    exact (Compiles_unary K cfg _).mpr ⟨cx, ih, rfl⟩
  case neg =>
    intro _ _ cx _ ih
    exact (Compiles_unary K cfg _).mpr ⟨cx, ih, rfl⟩
  case eq =>
    intro _ _ _ cl cr _ _ ihl ihr
    exact (Compiles_binary K cfg _).mpr ⟨cl, cr, ihl, ihr, rfl⟩
  case or =>
    intro _ op _ _ cl cr h2 _ _ ihl ihr
    refine (Compiles_binary K cfg _).mpr ⟨cl, cr, ihl, ihr, ?_⟩
    by_cases h1 : (op == "==") = true
    · cases eq_of_beq h1; cases h2
    · rw [if_neg h1, if_pos h2]
  case and =>
    intro _ op _ _ cl cr h3 _ _ ihl ihr
    refine (Compiles_binary K cfg _).mpr ⟨cl, cr, ihl, ihr, ?_⟩
    by_cases h1 : (op == "==") = true
    · cases eq_of_beq h1; cases h3
    · by_cases h2 : (op == "or" || op == "||") = true
      · rcases Bool.or_eq_true_iff.1 h2 with h | h <;> cases eq_of_beq h <;> cases h3
      · rw [if_neg h1, if_neg h2, if_pos h3]
  case simple =>
    intro _ _ _ _ cl cr _ h1 h2 h3 hops _ _ ihl ihr
    refine (Compiles_binary K cfg _).mpr ⟨cl, cr, ihl, ihr, ?_⟩
    rw [if_neg (Bool.eq_false_iff.1 h1), if_neg (Bool.eq_false_iff.1 h2), if_neg (Bool.eq_false_iff.1 h3), hops]
  case matchesRe =>
    intro _ _ _ cl k _ hk ihl
    exact (Compiles_matches K cfg _).mpr ⟨cl, ihl, (if_pos rfl).mpr ⟨k, hk, rfl⟩⟩
  case matchesN =>
    intro _ _ _ cl cr _ _ ihl ihr
    exact (Compiles_matches K cfg _).mpr ⟨cl, ihl, (if_neg Bool.false_ne_true).mpr ⟨cr, ihr, rfl⟩⟩
  case prop =>
    intro _ _ _ _ cx k _ hk ih
    exact (Compiles_prop K cfg _).mpr ⟨cx, k, ih, hk, rfl⟩
  case index =>
    intro _ _ _ cx ci _ _ ihx ihi
    exact (Compiles_index K cfg _).mpr ⟨cx, ci, ihx, ihi, rfl⟩
  case slice =>
    intro _ _ _ _ cx ct cf _ _ _ ihx iht ihf
    exact (Compiles_slice K cfg _).mpr ⟨cx, ct, cf, ihx, iht, ihf, rfl⟩
  case method =>
    intro _ _ _ _ _ cx ca k _ _ hk ihx iha
    exact (Compiles_method K cfg _).mpr ⟨cx, ca, k, ihx, iha, hk, rfl⟩
  case func =>
    intro _ _ _ _ ca k _ hk iha
    exact (Compiles_func K cfg _).mpr ⟨ca, k, iha, hk, rfl⟩
  case len =>
    intro _ _ ca _ iha
    exact (Compiles_builtin1 K cfg _ _ _ _).mpr ⟨rfl, ca, iha, rfl⟩
  case all =>
    intro _ _ _ ca cb ci cs car c0 _ _ L iha ihb
    exact (Compiles_builtin2 K cfg _ _ _ _ _).mpr ⟨ca, cb, ci, cs, car, c0, iha, ihb, L.loopK,
      .inl ⟨rfl, rfl⟩⟩
  case noneB =>
    intro _ _ _ ca cb ci cs car c0 _ _ L iha ihb
    exact (Compiles_builtin2 K cfg _ _ _ _ _).mpr ⟨ca, cb, ci, cs, car, c0, iha, ihb, L.loopK,
      .inr (.inl ⟨rfl, rfl⟩)⟩
  case any =>
    intro _ _ _ ca cb ci cs car c0 _ _ L iha ihb
    exact (Compiles_builtin2 K cfg _ _ _ _ _).mpr ⟨ca, cb, ci, cs, car, c0, iha, ihb, L.loopK,
      .inr (.inr (.inl ⟨rfl, rfl⟩))⟩
  case one =>
    intro _ _ _ ca cb ci cs car c0 cc c1 _ _ L hcc h1 iha ihb
    exact (Compiles_builtin2 K cfg _ _ _ _ _).mpr ⟨ca, cb, ci, cs, car, c0, iha, ihb, L.loopK,
      .inr (.inr (.inr (.inl ⟨rfl, cc, c1, hcc, h1, rfl⟩)))⟩
  case filter =>
    intro _ _ _ ca cb ci cs car c0 cc _ _ L hcc iha ihb
    exact (Compiles_builtin2 K cfg _ _ _ _ _).mpr ⟨ca, cb, ci, cs, car, c0, iha, ihb, L.loopK,
      .inr (.inr (.inr (.inr (.inl ⟨rfl, cc, hcc, rfl⟩))))⟩
  case mapB =>
    intro _ _ _ ca cb ci cs car c0 _ _ L iha ihb
    exact (Compiles_builtin2 K cfg _ _ _ _ _).mpr ⟨ca, cb, ci, cs, car, c0, iha, ihb, L.loopK,
      .inr (.inr (.inr (.inr (.inr (.inl ⟨rfl, rfl⟩)))))⟩
  case count =>
    intro _ _ _ ca cb ci cs car c0 cc _ _ L hcc iha ihb
    exact (Compiles_builtin2 K cfg _ _ _ _ _).mpr ⟨ca, cb, ci, cs, car, c0, iha, ihb, L.loopK,
      .inr (.inr (.inr (.inr (.inr (.inr ⟨rfl, cc, hcc, rfl⟩)))))⟩
  case closure =>
    intro _ _ _ _ ih
    exact ih
  case pointer =>
    intro _ car ci har hi
    exact (Compiles_pointer K cfg _).mpr ⟨car, ci, har, hi, rfl⟩
  case cond =>
    intro _ _ _ _ cc ca cb _ _ _ ihc iha ihb
    exact (Compiles_cond K cfg _).mpr ⟨cc, ca, cb, ihc, iha, ihb, rfl⟩
  case array =>
    intro _ _ cx k _ hk ih
    exact (Compiles_array K cfg _).mpr ⟨cx, k, ih, hk, rfl⟩
  case map =>
    intro _ _ cx k _ hk ih
    exact (Compiles_map K cfg _).mpr ⟨cx, k, ih, hk, rfl⟩
  case pair =>
    intro _ _ _ ck cv _ _ ihk ihv
    exact (Compiles_pair K cfg _).mpr ⟨ck, cv, ihk, ihv, rfl⟩
  case none =>
    intro _ _ hd
    exact hd
  case some =>
    intro _ _ _ _ ih
    exact ih
  case nil => exact (CompilesL_nil K cfg _).mpr rfl
  case cons =>
    intro _ _ c1 c2 _ _ ih1 ih2
    exact (CompilesL_cons K cfg _ _ _).mpr ⟨c1, c2, ih1, ih2, rfl⟩

theorem EmitsL.compiles : ∀ {ns code}, EmitsL (fun k v => K[k]? = some v) cfg ns code → CompilesL K cfg ns code
  | _, _, .nil => (CompilesL_nil K cfg _).mpr rfl
  | _, _, .cons _ _ c1 c2 h1 h2 => (CompilesL_cons K cfg _ _ _).mpr ⟨c1, c2, h1.compiles, EmitsL.compiles h2, rfl⟩

theorem compile_compiles (cfg : CompCfg) (F : Val → Prop) (hF : AliasFree F) :
    ∀ (n : Node) (p : Pool) (code : List LInstr) (p' : Pool), compileNode cfg n p = .ok (code, p') →
      PoolInv F p → FloatsIn F n → CompOK F p p' (fun K => Compiles K cfg n code) :=
  fun n p code p' h hinv hfl =>
    let ⟨i, x, c⟩ := compile_emits (poolSpec_exact hF) cfg n p hfl code p' h hinv
    ⟨i, x, fun K hK => (c K hK).compiles⟩

theorem compileList_compiles (cfg : CompCfg) (F : Val → Prop) (hF : AliasFree F) :
    ∀ (ns : List Node) (p : Pool) (code : List LInstr) (p' : Pool), compileList cfg ns p = .ok (code, p') →
      PoolInv F p → FloatsInL F ns → CompOK F p p' (fun K => CompilesL K cfg ns code) :=
  fun ns p code p' h hinv hfl =>
    let ⟨i, x, c⟩ := compileList_emits (poolSpec_exact hF) cfg ns p hfl code p' h hinv
    ⟨i, x, fun K hK => (c K hK).compiles⟩

end ExprModel.Refine
