import ExprModel.Lex.Lexer
/-
The lexer's position rule, `Loc.adv` (line feed: next line, column 0; any other rune: next column), iterated over a
text: `advLoc`, and `posOf pre`, the position of the rune that follows the prefix `pre` of a source.  Closed form:
the line counts the line feeds, the column the runes since the last one.
-/
namespace ExprModel.Lex

def advLoc (l : Loc) (cs : List Char) : Loc := cs.foldl Loc.adv l

@[simp] theorem advLoc_nil (l : Loc) : advLoc l [] = l := rfl
@[simp] theorem advLoc_cons (l : Loc) (c : Char) (cs : List Char) : advLoc l (c :: cs) = advLoc (Loc.adv l c) cs := rfl
theorem advLoc_append (l : Loc) (a b : List Char) : advLoc l (a ++ b) = advLoc (advLoc l a) b := by
  simp [advLoc, List.foldl_append]
theorem advLoc_snoc (l : Loc) (a : List Char) (c : Char) : advLoc l (a ++ [c]) = Loc.adv (advLoc l a) c := by
  simp [advLoc_append]

/-- line 1-based, column 0-based in runes -/
def posOf (pre : List Char) : Loc := advLoc ⟨1, 0⟩ pre

theorem advLoc_line (l : Loc) (cs : List Char) : (advLoc l cs).line = l.line + cs.count '\n' := by
  induction cs generalizing l with
  | nil => simp
  | cons c cs ih =>
    rw [advLoc_cons, ih]
    by_cases h : c = '\n'
    · subst h; simp [Loc.adv]; omega
    · have : ('\n' == c) = false := by simpa using fun e => h e.symm
      simp [Loc.adv, h]

theorem advLoc_noNL (l : Loc) (cs : List Char) (h : ∀ c ∈ cs, c ≠ '\n') :
    advLoc l cs = ⟨l.line, l.col + cs.length⟩ := by
  induction cs generalizing l with
  | nil => rfl
  | cons c cs ih =>
    have hc : c ≠ '\n' := h c (by simp)
    rw [advLoc_cons, ih _ (fun x hx => h x (by simp [hx]))]
    simp [Loc.adv, hc]; omega

theorem advLoc_col_afterNL (l : Loc) (a b : List Char) (h : ∀ c ∈ b, c ≠ '\n') :
    (advLoc l (a ++ '\n' :: b)).col = b.length := by
  rw [advLoc_append, advLoc_cons, advLoc_noNL _ b h]
  simp [Loc.adv]

end ExprModel.Lex
