import ExprModel.Proofs.SpecOps
/-
Run-time library facts for C18's slice identities; nothing here mentions `Spec.eval`.  `sliceV` on an array or a
string is the clamping function `cut` on the list of elements (bytes): prefix `[:i]`, suffix `[i:]`, negative bounds.
The two cuts of a string are strings again when they are valid UTF-8 (`strCut`; always for ASCII), and then their
concatenation is the original (`strCut_partition`).
-/
namespace ExprModel
namespace Spec

/-- core has no `ByteArray.toList = data.toList`; this and `ByteArray_toList_eq` supply it -/
theorem ByteArray_toList_loop (bs : ByteArray) (n i : Nat) (r : List UInt8) (hn : n = bs.size - i) (h : i ≤ bs.size) :
    ByteArray.toList.loop bs i r = r.reverse ++ bs.data.toList.drop i := by
  have hs : bs.size = bs.data.toList.length := by
    show bs.data.size = _
    rw [Array.length_toList]
  induction n generalizing i r with
  | zero =>
    unfold ByteArray.toList.loop
    have : ¬ i < bs.size := by omega
    have hd : bs.data.toList.drop i = [] := List.drop_eq_nil_of_le (by omega)
    rw [if_neg this, hd, List.append_nil]
  | succ n ih =>
    unfold ByteArray.toList.loop
    have hlt : i < bs.size := by omega
    rw [if_pos hlt, ih (i + 1) _ (by omega) (by omega)]
    have hl : i < bs.data.toList.length := by omega
    rw [List.drop_eq_getElem_cons hl, List.reverse_cons, List.append_assoc]
    congr 1
    show [bs.data[i]!] ++ _ = _
    rw [getElem!_pos bs.data i (by rw [← Array.length_toList]; exact hl)]
    simp

theorem ByteArray_toList_eq (bs : ByteArray) : bs.toList = bs.data.toList := by
  unfold ByteArray.toList
  rw [ByteArray_toList_loop bs _ 0 [] rfl (Nat.zero_le _)]
  simp

/-- the clamping `runtime.slice` does on the element list, before the result is wrapped -/
def cut {α : Type} (xs : List α) (f t : Int) : Option (List α) :=
  let len : Int := xs.length
  let b := if t > len then len else t
  let a := if f > b then b else f
  if a < 0 ∨ b < 0 then none else some ((xs.drop a.toNat).take (b - a).toNat)

def strCut (bs : List UInt8) : R Val :=
  if h : (ByteArray.mk bs.toArray).IsValidUTF8 then .ok (.str (String.fromUTF8 _ h)) else .ok (.opaque "invalid-utf8")

theorem sliceV_arr (t : ElemT) (xs : List Val) (f t' : Int) (hf : inRange .int f) (ht : inRange .int t') :
    sliceV (.arr t xs) (.int .int f) (.int .int t') =
      match cut xs f t' with
      | some l => .ok (.arr t l)
      | none => .error .index := by
  simp only [sliceV, toIntR_int' _ hf, toIntR_int' _ ht, cut]
  generalize (if t' > (xs.length : Int) then (xs.length : Int) else t') = b
  generalize (if f > b then b else f) = a
  split <;> rfl

theorem sliceV_str (s : String) (f t' : Int) (hf : inRange .int f) (ht : inRange .int t') :
    sliceV (.str s) (.int .int f) (.int .int t') =
      match cut (strBytes s) f t' with
      | some l => strCut l
      | none => .error .index := by
  simp only [sliceV, toIntR_int' _ hf, toIntR_int' _ ht, cut]
  generalize (if t' > ((strBytes s).length : Int) then ((strBytes s).length : Int) else t') = b
  generalize (if f > b then b else f) = a
  split <;> rfl

theorem cut_prefix {α : Type} (xs : List α) (i : Int) (h0 : 0 ≤ i) : cut xs 0 i = some (xs.take i.toNat) := by
  unfold cut
  by_cases hgt : i > (xs.length : Int)
  · have h1 : ¬ (0 : Int) > (xs.length : Int) := by omega
    simp only [hgt, if_true, h1, if_false, List.drop_zero, Int.toNat_zero, Int.sub_zero, Int.toNat_natCast]
    rw [if_neg (by simp), List.take_of_length_le (Nat.le_refl _), List.take_of_length_le (by omega)]
  · have h1 : ¬ (0 : Int) > i := by omega
    simp only [hgt, if_false, h1, List.drop_zero, Int.toNat_zero, Int.sub_zero]
    rw [if_neg (by simp)]

theorem cut_suffix {α : Type} (xs : List α) (i : Int) (h0 : 0 ≤ i) :
    cut xs i (xs.length : Nat) = some (xs.drop i.toNat) := by
  unfold cut
  have h1 : ¬ ((xs.length : Int) > (xs.length : Int)) := by omega
  simp only [h1, if_false]
  by_cases hgt : i > (xs.length : Int)
  · have h2 : ¬ ((xs.length : Int) < 0 ∨ (xs.length : Int) < 0) := by omega
    simp only [hgt, if_true, h2, if_false, Int.toNat_natCast, Int.sub_self, Int.toNat_zero, List.take_zero]
    rw [List.drop_eq_nil_of_le (by omega)]
  · have h2 : ¬ (i < 0 ∨ (xs.length : Int) < 0) := by omega
    simp only [hgt, if_false, h2]
    rw [List.take_of_length_le]
    simp only [List.length_drop]; omega

theorem cut_neg {α : Type} (xs : List α) (i : Int) (h0 : i < 0) :
    cut xs 0 i = none ∧ cut xs i (xs.length : Nat) = none := by
  unfold cut
  have hgt : ¬ i > (xs.length : Int) := by omega
  have h1 : (0 : Int) > i := by omega
  have h2 : ¬ ((xs.length : Int) > (xs.length : Int)) := by omega
  simp only [hgt, if_false, h1, if_true, h2, true_or, and_self]

theorem sliceV_arr_prefix (t : ElemT) (xs : List Val) (i : Int) (h0 : 0 ≤ i) (hi : inRange .int i) :
    sliceV (.arr t xs) (.int .int 0) (.int .int i) = .ok (.arr t (xs.take i.toNat)) := by
  rw [sliceV_arr t xs 0 i (by decide) hi, cut_prefix xs i h0]

theorem sliceV_arr_suffix (t : ElemT) (xs : List Val) (i : Int) (h0 : 0 ≤ i) (hi : inRange .int i)
    (hlen : inRange .int (xs.length : Nat)) :
    sliceV (.arr t xs) (.int .int i) (.int .int (xs.length : Nat)) = .ok (.arr t (xs.drop i.toNat)) := by
  rw [sliceV_arr t xs i _ hi hlen, cut_suffix xs i h0]

theorem sliceV_arr_neg (t : ElemT) (xs : List Val) (i : Int) (h0 : i < 0) (hi : inRange .int i)
    (hlen : inRange .int (xs.length : Nat)) :
    sliceV (.arr t xs) (.int .int 0) (.int .int i) = .error .index ∧
    sliceV (.arr t xs) (.int .int i) (.int .int (xs.length : Nat)) = .error .index := by
  rw [sliceV_arr t xs 0 i (by decide) hi, sliceV_arr t xs i _ hi hlen, (cut_neg xs i h0).1, (cut_neg xs i h0).2]
  exact ⟨rfl, rfl⟩

theorem sliceV_str_prefix (s : String) (i : Int) (h0 : 0 ≤ i) (hi : inRange .int i) :
    sliceV (.str s) (.int .int 0) (.int .int i) = strCut ((strBytes s).take i.toNat) := by
  rw [sliceV_str s 0 i (by decide) hi, cut_prefix _ i h0]

theorem sliceV_str_suffix (s : String) (i : Int) (h0 : 0 ≤ i) (hi : inRange .int i)
    (hlen : inRange .int ((strBytes s).length : Nat)) :
    sliceV (.str s) (.int .int i) (.int .int ((strBytes s).length : Nat)) = strCut ((strBytes s).drop i.toNat) := by
  rw [sliceV_str s i _ hi hlen, cut_suffix _ i h0]

theorem sliceV_str_neg (s : String) (i : Int) (h0 : i < 0) (hi : inRange .int i)
    (hlen : inRange .int ((strBytes s).length : Nat)) :
    sliceV (.str s) (.int .int 0) (.int .int i) = .error .index ∧
    sliceV (.str s) (.int .int i) (.int .int ((strBytes s).length : Nat)) = .error .index := by
  rw [sliceV_str s 0 i (by decide) hi, sliceV_str s i _ hi hlen, (cut_neg _ i h0).1, (cut_neg _ i h0).2]
  exact ⟨rfl, rfl⟩

theorem strBytes_eq (s : String) : strBytes s = s.toByteArray.data.toList := by
  unfold strBytes String.toUTF8
  exact ByteArray_toList_eq _

theorem strCut_partition (s : String) (n : Nat) (a b : String)
    (ha : strCut ((strBytes s).take n) = .ok (.str a)) (hb : strCut ((strBytes s).drop n) = .ok (.str b)) :
    a ++ b = s := by
  unfold strCut at ha hb
  split at ha
  · split at hb
    · simp only [Except.ok.injEq, Val.str.injEq] at ha hb
      rw [← ha, ← hb, ← String.toByteArray_inj, String.toByteArray_append]
      apply ByteArray.ext
      simp only [String.fromUTF8, ByteArray.data_append]
      rw [← Array.toList_inj]
      simp [strBytes_eq]
    · simp at hb
  · simp at ha

def IsAscii (s : String) : Prop := ∀ c ∈ s.toList, c.utf8Size = 1

theorem utf8Encode_ascii (l : List Char) (h : ∀ c ∈ l, c.utf8Size = 1) :
    l.utf8Encode.data.toList = l.map (fun c => c.val.toUInt8) := by
  induction l with
  | nil => simp [List.utf8Encode_nil]
  | cons c l ih =>
    rw [List.utf8Encode_cons, ByteArray.toList_data_append, ih (fun d hd => h d (List.mem_cons_of_mem _ hd)),
      List.utf8Encode_singleton, String.utf8EncodeChar_eq_singleton (h c (List.mem_cons_self ..)),
      List.toList_data_toByteArray]
    rfl

theorem strBytes_ascii (s : String) (h : IsAscii s) : strBytes s = s.toList.map (fun c => c.val.toUInt8) := by
  rw [strBytes_eq, ← String.utf8Encode_toList, utf8Encode_ascii _ h]

theorem strCut_ascii (l : List Char) (h : ∀ c ∈ l, c.utf8Size = 1) :
    ∃ a, strCut (l.map (fun c => c.val.toUInt8)) = .ok (.str a) := by
  have hb : ByteArray.mk (l.map (fun c => c.val.toUInt8)).toArray = l.utf8Encode := by
    apply ByteArray.ext
    rw [← Array.toList_inj, utf8Encode_ascii _ h]
  have hv : (ByteArray.mk (l.map (fun c => c.val.toUInt8)).toArray).IsValidUTF8 := by
    rw [hb]; exact ByteArray.isValidUTF8_utf8Encode
  exact ⟨_, by unfold strCut; rw [dif_pos hv]⟩

theorem strCut_ascii_take (s : String) (h : IsAscii s) (n : Nat) :
    ∃ a, strCut ((strBytes s).take n) = .ok (.str a) := by
  rw [strBytes_ascii s h, ← List.map_take]
  exact strCut_ascii _ fun c hc => h c (List.mem_of_mem_take hc)

theorem strCut_ascii_drop (s : String) (h : IsAscii s) (n : Nat) :
    ∃ a, strCut ((strBytes s).drop n) = .ok (.str a) := by
  rw [strBytes_ascii s h, ← List.map_drop]
  exact strCut_ascii _ fun c hc => h c (List.mem_of_mem_drop hc)

end Spec
end ExprModel
