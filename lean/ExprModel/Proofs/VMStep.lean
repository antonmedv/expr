import ExprModel.Proofs.VMStepDefs
/-
One walk over the clauses of `step` with the rules of Proofs/VMInv.lean, for any `E` that `Reports`: a successful step
establishes `Done` (`step_done`), of which `step_sat` reads the accounting for C06 and `StepPP`, `StepIp` read `pp` and
`ip` for C13.  The 49 opcodes that do not allocate share `step_plain`; `OpRange`, `OpArray`, `OpMap` have a theorem each.
-/
namespace ExprModel

variable {c : Cfg} {p : Prog} {s t : VM} {E : ErrClass → VM → Prop} {op : Op}

/-- the clause ends here, behind the instruction.  The index is the operand size `op` DECLARES (`Op.hasArg`, what the
    encoder and `Landed` go by) while `Mid` counts the bytes the clause has READ: `step_plain` closes an arm with `.ret`
    only if the two agree, so a clause that reads an operand its opcode does not declare, or skips one, does not check. -/
theorem Mid.ret (h : Mid s (cond op.hasArg 2 0) t) : Sat (pure t : RV VM) (Plain p s op) E :=
  ⟨h.pp, h.frame, .inl h.ip⟩

theorem Mid.jump (h : Mid s 2 t) (hop : op.argClass = .jumpFwd) :
    Sat (pure { t with ip := t.ip + argAt p (s.ip + 1) } : RV VM) (Plain p s op) E :=
  ⟨h.pp, h.frame, .inr (.inl ⟨hop, by show t.ip + _ = _; rw [h.ip]⟩)⟩

theorem Mid.jumpBack (h : Mid s 2 t) (hop : op.argClass = .jumpBack) (hle : argAt p (s.ip + 1) ≤ t.ip) :
    Sat (pure { t with ip := t.ip - argAt p (s.ip + 1) } : RV VM) (Plain p s op) E :=
  ⟨h.pp, h.frame, .inr (.inr ⟨hop, by rw [← h.ip]; exact hle, by show t.ip - _ = _; rw [h.ip]⟩)⟩

/-- the 49 instructions that do not allocate: an arm names the helpers its clause of `step` calls, in order, with one
    `split` for each `match` / `if` of the clause; opcodes whose clauses have one shape share an arm.  The arm of the nine
    ordering and arithmetic opcodes has no `split`: their `match binOpOf op` reduces once `cases op` has made `op` concrete. -/
theorem step_plain (H : Reports c p s E) (hop : Op.ofCode? (p.code[s.ip]?.getD 255) = some op)
    (h1 : op ≠ .range) (h2 : op ≠ .array) (h3 : op ≠ .map) : Sat (step c p s) (Plain p s op) E := by
  unfold step
  -- `-proj` leaves the state at the head of the step as one term, so that it can be named before the 52 cases copy it
  dsimp -proj only
  rw [hop]
  dsimp -proj only
  have h := Mid.start s
  generalize ({ s with pp := s.ip, ip := s.ip + 1 } : VM) = s0 at h ⊢
  cases op
  case range => exact absurd rfl h1
  case array => exact absurd rfl h2
  case map => exact absurd rfl h3
  case push => exact H.readConst h fun v t h => (h.push v).ret
  case pop => exact H.pop h fun _ t _ h => h.ret
  case rot => exact H.pop2 h fun a b t _ h => ((h.push b).push a).ret
  case fetch | fetchNilSafe =>
    exact H.readConst h fun k t h => H.lift h (lib_fetchV _ _ _).nb fun v _ => (h.push v).ret
  case fetchMap =>
    refine H.readConst h fun k t h => ?_
    split
    · exact (h.push _).ret
    · exact H.fail h (by decide)
  case true_ | false_ | nil_ => exact (h.push _).ret
  case negate => exact H.pop h fun v t _ h => H.lift h (lib_negV v).nb fun r _ => (h.push r).ret
  case not_ => exact H.pop h fun v t _ h => H.lift h (lib_notV v).nb fun r _ => (h.push r).ret
  case equal => exact H.pop2 h fun a b t _ h => (h.push _).ret
  case equalInt | equalString =>
    refine H.pop2 h fun a b t _ h => ?_
    split
    · exact (h.push _).ret
    · exact H.fail h (by decide)
  case jump => exact H.readArg h fun t h => h.jump rfl
  case jumpIfTrue | jumpIfFalse =>
    refine H.readArg h fun t h => H.current h fun v => ?_
    split
    · exact h.jump rfl
    · exact h.ret
    · exact H.fail h (by decide)
  case jumpBackward =>
    refine H.readArg h fun t h => ?_
    split
    · next hle => exact h.jumpBack rfl hle
    · exact H.fail h (by decide)
  case in_ => exact H.pop2 h fun a b t _ h => H.lift h (lib_inV a b).nb fun r _ => (h.push _).ret
  case less | more | lessOrEqual | moreOrEqual | add | subtract | multiply | divide | modulo =>
    exact H.pop2 h fun a b t _ h => H.lift h (lib_binHelper _ a b).nb fun r _ => (h.push r).ret
  case exponent =>
    refine H.pop2 h fun a b t _ h => ?_
    split
    · exact (h.push _).ret
    · exact H.fail h (by decide)
  case matches_ =>
    refine H.pop2 h fun a b t _ h => ?_
    split
    · split
      · exact (h.push _).ret
      · exact H.fail h (by decide)
    · exact H.fail h (by decide)
  case matchesConst =>
    refine H.pop h fun a t _ h => H.readConst h fun r t h => ?_
    split
    · split
      · exact (h.push _).ret
      · exact H.fail h (by decide)
    · exact H.fail h (by decide)
  case contains | startsWith | endsWith =>
    exact H.pop2 h fun a b t _ h => H.lift h (lib_strOp _ a b).nb fun r _ => (h.push r).ret
  case index => exact H.pop2 h fun a b t _ h => H.lift h (lib_fetchV a b _).nb fun r _ => (h.push r).ret
  case slice =>
    exact H.pop h fun f t _ h => H.pop h fun u t _ h => H.pop h fun a t _ h =>
      H.lift h (lib_sliceV a f u).nb fun r _ => (h.push r).ret
  case property | propertyNilSafe =>
    exact H.pop h fun a t _ h => H.readConst h fun k t h => H.lift h (lib_fetchV a k _).nb fun r _ => (h.push r).ret
  case call | callFast =>
    refine H.readConst h fun cv t h => ?_
    split
    · exact H.popN _ [] h fun args t _ _ h => H.member (h.logIf _ _) fun r => ((h.logIf _ _).push r).ret
    · exact H.fail h (by decide)
  case method | methodNilSafe =>
    refine H.readConst h fun cv t h => ?_
    split
    · refine H.popN _ [] h fun args t _ _ h => H.pop h fun obj t _ h => ?_
      split
      · exact (h.push _).ret
      · exact H.member (h.logIf _ _) fun r => ((h.logIf _ _).push r).ret
    · exact H.fail h (by decide)
  case len => exact H.current h fun v => H.lift h (lib_lengthV v).nb fun r _ => (h.push _).ret
  case cast =>
    refine H.readArg h fun t h => ?_
    split
    · exact H.pop h fun v t _ h => H.lift h (lib_castV _ v).nb fun r _ => (h.push r).ret
    · exact h.ret
  case store =>
    refine H.readConst h fun k t h => H.lift h (lib_constStr k).nb fun key _ => H.pop h fun v t _ h => ?_
    split
    · exact (h.scopes _).ret
    · exact H.fail h (by decide)
  case load =>
    refine H.readConst h fun k t h => H.lift h (lib_constStr k).nb fun key _ => ?_
    split
    · exact (h.push _).ret
    · exact (h.push _).ret
  case inc =>
    refine H.readConst h fun k t h => H.lift h (lib_constStr k).nb fun key _ => ?_
    split
    · split
      · exact (h.scopes _).ret
      · exact H.fail h (by decide)
    · exact H.fail h (by decide)
  case begin_ => exact (h.scopes _).ret
  case end_ =>
    dsimp only
    split
    · exact (h.scopes _).ret
    · exact H.fail h (by decide)

theorem step_range (H : Reports c p s E) (hop : Op.ofCode? (p.code[s.ip]?.getD 255) = some .range) :
    Sat (step c p s) (Done c p s .range) E := by
  unfold step
  simp only [hop]
  refine H.pop2 (Mid.start s) fun a b t (hst : s.stack = _) h =>
    H.lift h (lib_toIntR a).nb fun lo hlo => H.lift h (lib_toIntR b).nb fun hi hhi => ?_
  have hpend : pending p s = some (rangeElems lo hi).length := by
    unfold pending
    rw [hop, hst]
    simp only [hlo, hhi]
  obtain ⟨hm, hc, hl⟩ := h.frame
  dsimp only
  -- matched syntactically: the left side must repeat the `counted` expression of `step`'s `.range` clause as `dsimp`
  -- leaves it; when that clause is reworded, this line has to follow
  generalize hcnt : (if c.defects.rangeSizeSigned = true then hi - lo + 1
    else if hi - lo + 1 < 0 then 0 else hi - lo + 1) = counted
  have hk : c.defects.rangeSizeSigned = false → counted = (rangeElems lo hi).length := fun hr => by
    rw [← hcnt, hr, rangeElems_length]
    rfl
  split
  · next hge =>
    refine H.refused h.pp hl fun hr => .before _ hpend hm hc ?_
    rw [← hk hr, ← hm, ← hl]
    exact hge
  · next hlt =>
    refine ⟨h.pp, .inl h.ip, fun hr => StepOk.ofAlloc hpend hl ?_ ?_ ?_⟩
    · show t.memory + _ = _
      rw [hk hr, hm]
    · show t.created + _ = _
      rw [hc]
    · show t.memory + _ < t.limit
      omega

/-- the tail `OpArray` and `OpMap` share: push, add, then test.  `size` is the popped operand, added to `memory`; `k'` is
    what the clause adds to `created` (`elems.length` for an array, `size.toNat` for a map); both are the pending `k`. -/
theorem Mid.counted (h : Mid s 0 t) (H : Reports c p s E) {k k' : Nat} {size : Int} (hpend : pending p s = some k)
    (hop : op.hasArg = false) (hsize : size = k) (hk' : k' = k) (v : Val) :
    Sat (let u : VM := { t.push v with memory := t.memory + size, created := t.created + k' }
         if u.memory ≥ u.limit then failV .budget u else pure u) (Done c p s op) E := by
  obtain ⟨hm, hc, hl⟩ := h.frame
  have hm' : t.memory + size = s.memory + k := by rw [hm, hsize]
  have hc' : t.created + k' = s.created + k := by rw [hc, hk']
  dsimp only
  split
  · next hge => exact H.refused h.pp hl fun _ => .after _ hpend hm' hc' (by rw [← hl]; exact hge)
  · next hlt =>
    exact ⟨h.pp, .inl (by rw [hop]; exact h.ip), fun _ => .ofAlloc hpend hl hm' hc' (Int.not_le.mp hlt)⟩

theorem step_array (H : Reports c p s E) (hop : Op.ofCode? (p.code[s.ip]?.getD 255) = some .array) :
    Sat (step c p s) (Done c p s .array) E := by
  unfold step
  simp only [hop]
  refine H.pop (Mid.start s) fun n t (hst : s.stack = _) h => ?_
  dsimp only
  split
  · next size =>
    split
    · exact H.fail h (by decide)
    · next hneg =>
      refine H.popN _ [] h fun elems t' hlen hdepth h' => ?_
      have hpend : pending p s = some size.toNat := by
        unfold pending
        rw [hop, hst]
        dsimp only
        rw [if_pos ⟨by omega, by omega⟩]
      exact h'.counted H hpend rfl (Int.toNat_of_nonneg (by omega)).symm hlen _
  · exact H.fail h (by decide)

theorem step_map (H : Reports c p s E) (hop : Op.ofCode? (p.code[s.ip]?.getD 255) = some .map) :
    Sat (step c p s) (Done c p s .map) E := by
  unfold step
  simp only [hop]
  refine H.pop (Mid.start s) fun n t (hst : s.stack = _) h => ?_
  dsimp only
  split
  · next size =>
    split
    · exact H.fail h (by decide)
    · next hneg =>
      refine H.popN _ [] h fun flat t' _ hdepth h' => H.lift h' (nb_buildMap flat) fun m _ => ?_
      have hpend : pending p s = some size.toNat := by
        unfold pending
        rw [hop, hst]
        dsimp only
        rw [if_pos ⟨by omega, by omega⟩]
      exact h'.counted H hpend rfl (Int.toNat_of_nonneg (by omega)).symm rfl _
  · exact H.fail h (by decide)

theorem step_done (H : Reports c p s E) :
    Sat (step c p s) (fun t => ∃ op, Op.ofCode? (p.code[s.ip]?.getD 255) = some op ∧ Done c p s op t) E := by
  cases hop : Op.ofCode? (p.code[s.ip]?.getD 255) with
  | none => exact H.badop hop
  | some op =>
    refine Sat.mono ?_ (fun t ht => ⟨op, rfl, ht⟩) (fun _ _ he => he)
    by_cases h1 : op = .range
    · subst h1; exact step_range H hop
    by_cases h2 : op = .array
    · subst h2; exact step_array H hop
    by_cases h3 : op = .map
    · subst h3; exact step_map H hop
    exact (step_plain H hop h1 h2 h3).mono (fun _ ht => ht.done (pending_none hop h1 h2 h3)) (fun _ _ he => he)

/-- `hw` serves `Reports.call` alone, for the reason given at `WorldNB` -/
theorem step_sat (c : Cfg) (hr : c.defects.rangeSizeSigned = false) (hw : WorldNB c.world) (p s) :
    Sat (step c p s) (StepOk p s) (StepErr p s) :=
  (step_done ⟨fun h he => .ofFrame h.frame he, fun h hc => .ofFrame h.frame fun he => hw _ _ (he ▸ hc),
    fun _ hl hR => .ofRefusal hl (hR hr)⟩).mono (fun _ ⟨_, _, h⟩ => h.acct hr) (fun _ _ he => he)

end ExprModel
