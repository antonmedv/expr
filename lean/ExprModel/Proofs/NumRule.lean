import ExprModel.Num.Arith
/- The promotion rule of Num/Arith.lean, independent of the generated helper table. -/
namespace ExprModel

/-- Looking up the entry of `(a, b)` in a product table `[f x y | x ← l₁, y ← l₂]`, where `hp` says that `p`
    recognises exactly the image of `(a, b)`.  It is the one step from the rule's table `ruleArms` to a lookup
    `findArm` (`C14.findArm_rule`). -/
theorem find?_product {α β : Type} [DecidableEq α] (f : α → α → β) (p : β → Bool) (a b : α)
    (hp : ∀ x y, p (f x y) = (x == a && y == b)) (l₁ l₂ : List α) :
    (l₁.flatMap fun x => l₂.map (f x)).find? p = if a ∈ l₁ ∧ b ∈ l₂ then some (f a b) else none := by
  have key : ∀ w ∈ l₁.flatMap (fun x => l₂.map (f x)), p w = true → w = f a b ∧ a ∈ l₁ ∧ b ∈ l₂ := by
    intro w hw hpw
    obtain ⟨x, hx, hw⟩ := List.mem_flatMap.1 hw
    obtain ⟨y, hy, rfl⟩ := List.mem_map.1 hw
    rw [hp, Bool.and_eq_true, beq_iff_eq, beq_iff_eq] at hpw
    rw [← hpw.1, ← hpw.2]
    exact ⟨rfl, hx, hy⟩
  split
  · next hm =>
    cases hfind : List.find? p _ with
    | none =>
      have := List.find?_eq_none.1 hfind (f a b)
        (List.mem_flatMap.2 ⟨a, hm.1, List.mem_map.2 ⟨b, hm.2, rfl⟩⟩)
      simp [hp] at this
    | some w => rw [(key w (List.mem_of_find?_eq_some hfind) (List.find?_some hfind)).1]
  · next hm => exact List.find?_eq_none.2 fun w hw hpw => hm (key w hw hpw).2

theorem find?_product_none {α β : Type} (f : α → α → β) (p : β → Bool)
    (hp : ∀ x y, p (f x y) = false) (l₁ l₂ : List α) :
    (l₁.flatMap fun x => l₂.map (f x)).find? p = none := by
  simp [List.find?_eq_none, hp]

theorem mem_ruleKinds (h : Helper) (k : Kind) : k ∈ ruleKinds h ↔ (h.noFloat && k.isFloat) = false := by
  unfold ruleKinds
  split <;> simp [Kind.mem_all, *]

theorem conv_int {K : Kind} (hK : K.isFloat = false) (k : Kind) (n : Int) :
    conv K (.int k n) = .int K (wrap K n) := by
  cases K <;> first | rfl | cases hK

/-- what `refSem` does to an integer operand on its way to the integer kind `K` -/
theorem promote_int {K : Kind} (hK : K.isFloat = false) (k : Kind) (n : Int) :
    (if k = K then Val.int k n else conv K (.int k n)) = .int K (if k = K then n else wrap K n) := by
  split
  · next e => rw [e]
  · exact conv_int hK k n

theorem maxRank_isFloat {ka kb : Kind} (ha : ka.isFloat = false) (hb : kb.isFloat = false) :
    (Kind.maxRank ka kb).isFloat = false := by
  unfold Kind.maxRank
  split <;> assumption

theorem refSem_int_same (h : Helper) (k : Kind) (a b : Int) :
    refSem h (.int k a) (.int k b) =
      if h.noFloat && k.isFloat then .error .noArm else applyOp h.op (.int k a) (.int k b) := by
  simp [refSem, armTypeOf, Kind.maxRank]

theorem applyOp_arith_kind {op : BinOp} (hop : op = .add ∨ op = .sub ∨ op = .mul ∨ op = .div ∨ op = .mod)
    {x y v : Val} (hr : applyOp op x y = .ok v) : kindOfVal v = kindOfVal x := by
  unfold applyOp at hr
  split at hr
  · split at hr
    · cases hr
    · rcases hop with rfl | rfl | rfl | rfl | rfl
      iterate 3 (cases hr; rfl)
      iterate 2 (simp only at hr; split at hr <;> cases hr; rfl)
  iterate 3 (rcases hop with rfl | rfl | rfl | rfl | rfl <;> cases hr <;> rfl)
  cases hr

theorem armTypeOf_of_kindOfVal {a : Val} {k : Kind} (h : kindOfVal a = some k) : armTypeOf a = some (some k) := by
  unfold kindOfVal at h
  split at h
  iterate 3 exact congrArg some h
  cases h

theorem applyOp_cmp_bool {op : BinOp} (hop : op = .eq ∨ op = .lt ∨ op = .gt ∨ op = .le ∨ op = .ge)
    {x y v : Val} (hr : applyOp op x y = .ok v) : ∃ b, v = .bool b := by
  unfold applyOp at hr
  split at hr
  · split at hr
    · cases hr
    · rcases hop with rfl | rfl | rfl | rfl | rfl <;> exact ⟨_, (Except.ok.inj hr).symm⟩
  iterate 3 (rcases hop with rfl | rfl | rfl | rfl | rfl <;> exact ⟨_, (Except.ok.inj hr).symm⟩)
  cases hr

end ExprModel
