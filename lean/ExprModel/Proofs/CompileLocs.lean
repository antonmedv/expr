import ExprModel.Proofs.AllLocDef
import ExprModel.Proofs.Emits
import ExprModel.Proofs.LocMap
/-
C13, locations through the compiler: every instruction the compiler model emits for a tree carries the location of some
node of that tree: an induction over `Refine.Emits`.  Stated for an arbitrary predicate `P` that holds of every node
location of the tree.  At the end: the `Locations` table (`locTable`), keyed by increasing offsets.
-/
namespace ExprModel

def LocsOK (P : Loc → Prop) (code : List LInstr) : Prop := ∀ i ∈ code, P i.loc

namespace LocsOK
variable {P : Loc → Prop}

@[simp] theorem nil : LocsOK P [] := fun _ hi => nomatch hi
@[simp] theorem cons {i : LInstr} {is : List LInstr} : LocsOK P (i :: is) ↔ P i.loc ∧ LocsOK P is :=
  List.forall_mem_cons
@[simp] theorem append {a b : List LInstr} : LocsOK P (a ++ b) ↔ LocsOK P a ∧ LocsOK P b :=
  List.forall_mem_append
@[simp] theorem li_loc (l : Loc) (op : Op) (a : Nat) : (li l op a).loc = l := rfl
theorem map_li {l : Loc} (h : P l) (ops : List Op) : LocsOK P (ops.map (fun o => li l o)) := by
  intro i hi
  obtain ⟨o, _, rfl⟩ := List.mem_map.mp hi
  exact h
@[simp] theorem emitLoop {l : Loc} (h : P l) (ci cs car c0 : Nat) {body : List LInstr} :
    LocsOK P (emitLoop l ci cs car c0 body) ↔ LocsOK P body := by
  simp [ExprModel.emitLoop, h]
@[simp] theorem emitCond {l : Loc} (h : P l) {body : List LInstr} : LocsOK P (emitCond l body) ↔ LocsOK P body := by
  simp [ExprModel.emitCond, h]
end LocsOK

variable {P : Loc → Prop} {C : Nat → Val → Prop} {cfg : CompCfg}

/-- Every instruction of an emit scheme is `li m.loc …` for the node's own `m` or belongs to the code of a child, so each
    case is `simp` with the node's own `hm : P m.loc` and the induction hypotheses.  In `motive_2` (`EmitsO`, an
    optional slice bound) `d` is what the scheme admits as code of an absent bound; the premise `∀ c, d c → LocsOK P c`
    is discharged in the `slice` case, where `d` is a `li m.loc …` of the slice node. -/
theorem _root_.ExprModel.Refine.Emits.locs {n code} (h : Refine.Emits C cfg n code) : n.AllLoc P → LocsOK P code := by
  apply Refine.Emits.rec (motive_1 := fun n code _ => n.AllLoc P → LocsOK P code)
    (motive_2 := fun o d code _ => Node.AllLocO P o → (∀ c, d c → LocsOK P c) → LocsOK P code)
    (motive_3 := fun ns code _ => Node.AllLocL P ns → LocsOK P code) (t := h)
  case nilN | bool | constNil | ident | int | float | str | const | pointer =>
    intros
    simp [show P _ from ‹_›]
  case not =>
    rintro _ _ _ _ _ _ ih ⟨hm, h⟩
    simp [ih h, hm]
  case neg =>
    rintro _ _ _ _ ih ⟨hm, h⟩
    simp [ih h, hm]
  case plus | closure =>
    rintro _ _ _ _ ih ⟨_, h⟩
    exact ih h
  case eq | matchesN | index =>
    rintro _ _ _ _ _ _ _ ihl ihr ⟨hm, h1, h2⟩
    simp [ihl h1, ihr h2, hm]
  case or | and =>
    rintro _ _ _ _ _ _ _ _ _ ihl ihr ⟨hm, h1, h2⟩
    simp [ihl h1, ihr h2, hm]
  case pair =>
    rintro _ _ _ _ _ _ _ ihl ihr ⟨_, h1, h2⟩
    simp [ihl h1, ihr h2]
  case simple =>
    rintro _ _ _ _ _ _ _ _ _ _ _ _ _ ihl ihr ⟨hm, h1, h2⟩
    simp [ihl h1, ihr h2, LocsOK.map_li hm]
  case matchesRe =>
    rintro _ _ _ _ _ _ _ ihl ⟨hm, h1, _⟩
    simp [ihl h1, hm]
  case prop =>
    rintro _ _ _ _ _ _ _ _ ih ⟨hm, h⟩
    simp [ih h, hm]
  case slice =>
    rintro _ _ _ _ _ _ _ _ _ _ ihx iht ihf ⟨hm, h1, h2, h3⟩
    simp [ihx h1, iht h3 (fun _ e => by simp [e, hm]), ihf h2 (fun _ ⟨_, _, e⟩ => by simp [e, hm]), hm]
  case method =>
    rintro _ _ _ _ _ _ _ _ _ _ _ ihx iha ⟨hm, h1, h2⟩
    simp [ihx h1, iha h2, hm]
  case func =>
    rintro _ _ _ _ _ _ _ _ iha ⟨hm, h⟩
    simp [iha h, hm]
  case array | map =>
    rintro _ _ _ _ _ _ iha ⟨hm, h⟩
    simp [iha h, hm]
  case len =>
    rintro _ _ _ _ iha ⟨hm, h, _⟩
    simp [iha h, hm]
  case all | noneB | any | mapB =>
    rintro _ _ _ _ _ _ _ _ _ _ _ _ iha ihb ⟨hm, h1, h2, _⟩
    simp [iha h1, ihb h2, hm]
  case one =>
    rintro _ _ _ _ _ _ _ _ _ _ _ _ _ _ _ _ iha ihb ⟨hm, h1, h2, _⟩
    simp [iha h1, ihb h2, hm]
  case filter | count =>
    rintro _ _ _ _ _ _ _ _ _ _ _ _ _ _ iha ihb ⟨hm, h1, h2, _⟩
    simp [iha h1, ihb h2, hm]
  case cond =>
    rintro _ _ _ _ _ _ _ _ _ _ ihc iha ihb ⟨hm, h1, h2, h3⟩
    simp [ihc h1, iha h2, ihb h3, hm]
  case none =>
    rintro _ _ hd _ h
    exact h _ hd
  case some =>
    rintro _ _ _ _ ih ho _
    exact ih ho
  case nil =>
    intro _
    exact LocsOK.nil
  case cons =>
    rintro _ _ _ _ _ _ ih1 ih2 ⟨a, b⟩
    exact LocsOK.append.mpr ⟨ih1 a, ih2 b⟩

theorem _root_.ExprModel.Refine.EmitsL.locs : ∀ {ns code}, Refine.EmitsL C cfg ns code → Node.AllLocL P ns → LocsOK P code
  | _, _, .nil, _ => LocsOK.nil
  | _, _, .cons _ _ _ _ h1 h2, ⟨a, b⟩ => LocsOK.append.mpr ⟨h1.locs a, Refine.EmitsL.locs h2 b⟩

theorem compileNode_locs {cfg : CompCfg} {n : Node} {p p' : Pool} {code : List LInstr}
    (h : compileNode cfg n p = .ok (code, p')) (hn : n.AllLoc P) : LocsOK P code := by
  have ⟨_, _, hK⟩ := Refine.compile_emits Refine.poolSpec_none cfg n p (Refine.FloatsIn.top n) code p' h trivial
  exact (hK _ (Refine.PoolExt.refl _)).locs hn

def GoodC (P : Loc → Prop) : CR (List LInstr × Pool) → Prop
  | .ok (code, _) => LocsOK P code
  | .error _ => True

theorem compileEach_locs (cfg : CompCfg) : ∀ (ns : List Node), Node.AllLocL P ns →
    ∀ a ∈ ns, ∀ p, GoodC P (compileNode cfg a p)
  | [], _, a, ha, _ => by cases ha
  | n :: ns, ⟨hn, hns⟩, a, ha, p => by
    rcases List.mem_cons.mp ha with e | e
    · rw [e]
      cases h : compileNode cfg n p with
      | error _ => exact True.intro
      | ok r =>
        obtain ⟨code, p'⟩ := r
        exact compileNode_locs h hn
    · exact compileEach_locs cfg ns hns a e p

theorem compileList_locs (cfg : CompCfg) : ∀ (ns : List Node) (p : Pool), Node.AllLocL P ns → GoodC P (compileList cfg ns p) := by
  intro ns p hns
  cases h : compileList cfg ns p with
  | error e => exact True.intro
  | ok r =>
    obtain ⟨code, p'⟩ := r
    have ⟨_, _, hK⟩ := Refine.compileList_emits Refine.poolSpec_none cfg ns p (Refine.FloatsInL.top ns) code p' h trivial
    exact (hK _ (Refine.PoolExt.refl _)).locs hns

theorem locTable_mem {k : Nat} {code : List LInstr} {e : Nat × Loc} (h : e ∈ locTable k code) :
    ∃ i ∈ code, i.loc = e.2 := by
  induction code generalizing k with
  | nil => simp [locTable] at h
  | cons i is ih =>
    simp only [locTable, List.mem_cons] at h
    rcases h with rfl | h
    · exact ⟨i, by simp, rfl⟩
    · obtain ⟨j, hj, hl⟩ := ih h
      exact ⟨j, by simp [hj], hl⟩

theorem locTable_sorted (k : Nat) (code : List LInstr) : LocMap.Sorted k (locTable k code) (k + lsize code) := by
  induction code generalizing k with
  | nil => exact ⟨Nat.le_refl _, nofun, .nil⟩
  | cons i is ih =>
    rw [Refine.lsize_cons, ← Nat.add_assoc]
    exact (LocMap.Sorted.singleton (Nat.lt_add_of_pos_right (Bc.instr_size_pos i.instr)) i.loc).append (ih _)

theorem locTable_append (off : Nat) (a b : List LInstr) :
    locTable off (a ++ b) = locTable off a ++ locTable (off + lsize a) b := by
  induction a generalizing off with
  | nil => rfl
  | cons x xs ih =>
    rw [List.cons_append, locTable, ih, locTable, List.cons_append, Nat.add_assoc]
    rfl

theorem locTable_at {code pre post : List LInstr} {i : LInstr} {k : Nat} (hcode : code = pre ++ i :: post)
    (hk : lsize pre = k) : (k, i.loc) ∈ locTable 0 code := by
  subst hcode hk
  rw [locTable_append]; simp [locTable]

/-- The only instruction that does not carry the location of a node of the tree is the `OpCast` epilogue of
    `AsInt64` / `AsFloat64`, emitted with an empty node stack. -/
theorem compileProgram_locs {cfg : CompCfg} {n : Node} {cp : Compiled} (hc : compileProgram cfg n = .ok cp)
    (hn : n.AllLoc P) : ∀ i ∈ cp.code, P i.loc ∨ (i.loc = {} ∧ i.instr.op = .cast ∧ cfg.cast ≠ none) := by
  obtain ⟨code, p, hcn, _, rfl⟩ := Refine.compileProgram_ok hc
  intro i hi
  rcases List.mem_append.1 hi with hi | hi
  · exact .inl (compileNode_locs hcn hn i hi)
  · obtain ⟨t, ht, rfl⟩ := Refine.mem_castCode hi
    exact .inr ⟨rfl, rfl, by rw [ht]; nofun⟩

end ExprModel
