import ExprModel.Code.Compile
/-
C01: one unfolding equation of `compileNode` / `compileList` per clause, stated once so that no importing file
has to make Lean generate them for this large mutual definition.  Each is `rfl` except `compileNode_const`: that
clause matches on the value (`.nil` is emitted as `OpNil`), so the equation for `v ≠ .nil` needs the case split.
-/
namespace ExprModel.Refine
open ExprModel

theorem compileNode_nil (cfg : CompCfg) {m} (p : Pool) :
    compileNode cfg (.nil m) p = (.ok ([li m.loc .nil_], p)) := rfl

theorem compileNode_ident (cfg : CompCfg) {m} {name} {nilsafe} (p : Pool) :
    compileNode cfg (.ident m name nilsafe) p = (do
    let (k, p) ← mkConst (.str name) p
    let op := if cfg.mapEnv then Op.fetchMap else if nilsafe then .fetchNilSafe else .fetch
    pure ([li m.loc op k], p)) := rfl

theorem compileNode_int (cfg : CompCfg) {m} {v} (p : Pool) :
    compileNode cfg (.int m v) p = (do
    let (k, p) ← mkConst (intConst m.kd v) p
    pure ([li m.loc .push k], p)) := rfl

theorem compileNode_float (cfg : CompCfg) {m} {bits} (p : Pool) :
    compileNode cfg (.float m bits) p = (do
    let (k, p) ← mkConst (.f64 (Float.ofBits bits)) p
    pure ([li m.loc .push k], p)) := rfl

theorem compileNode_bool (cfg : CompCfg) {m} {b} (p : Pool) :
    compileNode cfg (.bool m b) p = (.ok ([li m.loc (if b then .true_ else .false_)], p)) := rfl

theorem compileNode_str (cfg : CompCfg) {m} {s} (p : Pool) :
    compileNode cfg (.str m s) p = (do
    let (k, p) ← mkConst (.str s) p
    pure ([li m.loc .push k], p)) := rfl

theorem compileNode_const_nil (cfg : CompCfg) {m} (p : Pool) :
    compileNode cfg (.const m .nil) p = .ok ([li m.loc .nil_], p) := rfl

theorem compileNode_const (cfg : CompCfg) {m} {v} (p : Pool) (h : v ≠ .nil) :
    compileNode cfg (.const m v) p = (do
    let (k, p) ← mkConst v p
    pure ([li m.loc .push k], p)) := by
  cases v
  case nil => exact absurd rfl h
  all_goals rfl

theorem compileNode_unary (cfg : CompCfg) {m} {op} {x} (p : Pool) :
    compileNode cfg (.unary m op x) p = (do
    let (cx, p) ← compileNode cfg x p
    if op == "!" || op == "not" then pure (cx ++ [li m.loc .not_], p)
    else if op == "+" then pure (cx, p)
    else if op == "-" then pure (cx ++ [li m.loc .negate], p)
    else .error (.unknownOperator op)) := rfl

theorem compileNode_binary (cfg : CompCfg) {m} {op} {l} {r} (p : Pool) :
    compileNode cfg (.binary m op l r) p = (do
    if op == "==" then
      let (cl, p) ← compileNode cfg l p
      let (cr, p) ← compileNode cfg r p
      let e := if l.kd == r.kd && l.kd == .num .int then Op.equalInt
               else if l.kd == r.kd && l.kd == .string then .equalString else .equal
      pure (cl ++ cr ++ [li m.loc e], p)
    else if op == "or" || op == "||" then
      let (cl, p) ← compileNode cfg l p
      let (cr, p) ← compileNode cfg r p
      pure (cl ++ [li m.loc .jumpIfTrue (1 + lsize cr), li m.loc .pop] ++ cr, p)
    else if op == "and" || op == "&&" then
      let (cl, p) ← compileNode cfg l p
      let (cr, p) ← compileNode cfg r p
      pure (cl ++ [li m.loc .jumpIfFalse (1 + lsize cr), li m.loc .pop] ++ cr, p)
    else match binSimpleOp op with
      | some ops => do
        let (cl, p) ← compileNode cfg l p
        let (cr, p) ← compileNode cfg r p
        pure (cl ++ cr ++ ops.map (fun o => li m.loc o), p)
      | none => .error (.unknownOperator op)) := rfl

theorem compileNode_matches (cfg : CompCfg) {m} {hasRe} {l} {r} (p : Pool) :
    compileNode cfg (.matches m hasRe l r) p = (do
    if hasRe then
      let (cl, p) ← compileNode cfg l p
      let pat := match r with
        | .str _ s => s
        | _ => ""
      let (k, p) ← mkRegexConst m.loc pat p
      pure (cl ++ [li m.loc .matchesConst k], p)
    else
      let (cl, p) ← compileNode cfg l p
      let (cr, p) ← compileNode cfg r p
      pure (cl ++ cr ++ [li m.loc .matches_], p)) := rfl

theorem compileNode_prop (cfg : CompCfg) {m} {x} {name} {nilsafe} (p : Pool) :
    compileNode cfg (.prop m x name nilsafe) p = (do
    let (cx, p) ← compileNode cfg x p
    let (k, p) ← mkConst (.str name) p
    pure (cx ++ [li m.loc (if nilsafe then .propertyNilSafe else .property) k], p)) := rfl

theorem compileNode_index (cfg : CompCfg) {m} {x} {i} (p : Pool) :
    compileNode cfg (.index m x i) p = (do
    let (cx, p) ← compileNode cfg x p
    let (ci, p) ← compileNode cfg i p
    pure (cx ++ ci ++ [li m.loc .index], p)) := rfl

theorem compileNode_slice_ss (cfg : CompCfg) (m : Meta) (x f t : Node) (p : Pool) :
    compileNode cfg (.slice m x (some f) (some t)) p = (do
    let (cx, p) ← compileNode cfg x p
    let (ct, p) ← compileNode cfg t p
    let (cf, p) ← compileNode cfg f p
    pure (cx ++ ct ++ cf ++ [li m.loc .slice], p)) := rfl

theorem compileNode_slice_sn (cfg : CompCfg) (m : Meta) (x f : Node) (p : Pool) :
    compileNode cfg (.slice m x (some f) none) p = (do
    let (cx, p) ← compileNode cfg x p
    let (ct, p) ← (pure ([li m.loc .len], p) : CR (List LInstr × Pool))
    let (cf, p) ← compileNode cfg f p
    pure (cx ++ ct ++ cf ++ [li m.loc .slice], p)) := rfl

theorem compileNode_slice_ns (cfg : CompCfg) (m : Meta) (x t : Node) (p : Pool) :
    compileNode cfg (.slice m x none (some t)) p = (do
    let (cx, p) ← compileNode cfg x p
    let (ct, p) ← compileNode cfg t p
    let (k, p) ← mkConst (.int .int 0) p
    let (cf, p) ← (pure ([li m.loc .push k], p) : CR (List LInstr × Pool))
    pure (cx ++ ct ++ cf ++ [li m.loc .slice], p)) := rfl

theorem compileNode_slice_nn (cfg : CompCfg) (m : Meta) (x : Node) (p : Pool) :
    compileNode cfg (.slice m x none none) p = (do
    let (cx, p) ← compileNode cfg x p
    let (ct, p) ← (pure ([li m.loc .len], p) : CR (List LInstr × Pool))
    let (k, p) ← mkConst (.int .int 0) p
    let (cf, p) ← (pure ([li m.loc .push k], p) : CR (List LInstr × Pool))
    pure (cx ++ ct ++ cf ++ [li m.loc .slice], p)) := rfl

theorem compileNode_method (cfg : CompCfg) {m} {x} {name} {args} {nilsafe} (p : Pool) :
    compileNode cfg (.method m x name args nilsafe) p = (do
    let (cx, p) ← compileNode cfg x p
    let (ca, p) ← compileList cfg args p
    let (k, p) ← mkConst (.call name args.length) p
    pure (cx ++ ca ++ [li m.loc (if nilsafe then .methodNilSafe else .method) k], p)) := rfl

theorem compileNode_func (cfg : CompCfg) {m} {name} {args} {fast} (p : Pool) :
    compileNode cfg (.func m name args fast) p = (do
    let (ca, p) ← compileList cfg args p
    let (k, p) ← mkConst (.call name args.length) p
    pure (ca ++ [li m.loc (if fast then .callFast else .call) k], p)) := rfl

theorem compileNode_bi_len (cfg : CompCfg) (m : Meta) (a : Node) (p : Pool) :
    compileNode cfg (.builtin m "len" [a]) p = ( do
      let (ca, p) ← compileNode cfg a p
      pure (ca ++ [li m.loc .len, li m.loc .rot, li m.loc .pop], p)) := rfl

theorem compileNode_bi_all (cfg : CompCfg) (m : Meta) (a b : Node) (p : Pool) :
    compileNode cfg (.builtin m "all" [a, b]) p = ( do
      let (ca, p) ← compileNode cfg a p
      let (ci, p) ← mkConst (.str "i") p
      let (cs, p) ← mkConst (.str "size") p
      let (car, p) ← mkConst (.str "array") p
      let (c0, p) ← mkConst (.int .int 0) p
      let (cb, p) ← compileNode cfg b p
      let rest := [li m.loc .pop, li m.loc .inc ci, li m.loc .jumpBackward 0, li m.loc .pop, li m.loc .true_]
      let body := cb ++ [li m.loc .jumpIfFalse (lsize rest), li m.loc .pop]
      pure (ca ++ [li m.loc .begin_] ++ emitLoop m.loc ci cs car c0 body ++ [li m.loc .true_, li m.loc .end_], p)) := rfl

theorem compileNode_bi_none (cfg : CompCfg) (m : Meta) (a b : Node) (p : Pool) :
    compileNode cfg (.builtin m "none" [a, b]) p = ( do
      let (ca, p) ← compileNode cfg a p
      let (ci, p) ← mkConst (.str "i") p
      let (cs, p) ← mkConst (.str "size") p
      let (car, p) ← mkConst (.str "array") p
      let (c0, p) ← mkConst (.int .int 0) p
      let (cb, p) ← compileNode cfg b p
      let rest := [li m.loc .pop, li m.loc .inc ci, li m.loc .jumpBackward 0, li m.loc .pop, li m.loc .true_]
      let body := cb ++ [li m.loc .not_, li m.loc .jumpIfFalse (lsize rest), li m.loc .pop]
      pure (ca ++ [li m.loc .begin_] ++ emitLoop m.loc ci cs car c0 body ++ [li m.loc .true_, li m.loc .end_], p)) := rfl

theorem compileNode_bi_any (cfg : CompCfg) (m : Meta) (a b : Node) (p : Pool) :
    compileNode cfg (.builtin m "any" [a, b]) p = ( do
      let (ca, p) ← compileNode cfg a p
      let (ci, p) ← mkConst (.str "i") p
      let (cs, p) ← mkConst (.str "size") p
      let (car, p) ← mkConst (.str "array") p
      let (c0, p) ← mkConst (.int .int 0) p
      let (cb, p) ← compileNode cfg b p
      let rest := [li m.loc .pop, li m.loc .inc ci, li m.loc .jumpBackward 0, li m.loc .pop, li m.loc .false_]
      let body := cb ++ [li m.loc .jumpIfTrue (lsize rest), li m.loc .pop]
      pure (ca ++ [li m.loc .begin_] ++ emitLoop m.loc ci cs car c0 body ++ [li m.loc .false_, li m.loc .end_], p)) := rfl

theorem compileNode_bi_one (cfg : CompCfg) (m : Meta) (a b : Node) (p : Pool) :
    compileNode cfg (.builtin m "one" [a, b]) p = ( do
      let (cc, p) ← mkConst (.str "count") p
      let (ca, p) ← compileNode cfg a p
      let (c0, p) ← mkConst (.int .int 0) p
      let (ci, p) ← mkConst (.str "i") p
      let (cs, p) ← mkConst (.str "size") p
      let (car, p) ← mkConst (.str "array") p
      let (cb, p) ← compileNode cfg b p
      let body := cb ++ emitCond m.loc [li m.loc .inc cc]
      let (c1, p) ← mkConst (.int .int 1) p
      pure (ca ++ [li m.loc .begin_, li m.loc .push c0, li m.loc .store cc] ++ emitLoop m.loc ci cs car c0 body ++
            [li m.loc .load cc, li m.loc .push c1, li m.loc .equal, li m.loc .end_], p)) := rfl

theorem compileNode_bi_filter (cfg : CompCfg) (m : Meta) (a b : Node) (p : Pool) :
    compileNode cfg (.builtin m "filter" [a, b]) p = ( do
      let (cc, p) ← mkConst (.str "count") p
      let (ca, p) ← compileNode cfg a p
      let (c0, p) ← mkConst (.int .int 0) p
      let (ci, p) ← mkConst (.str "i") p
      let (cs, p) ← mkConst (.str "size") p
      let (car, p) ← mkConst (.str "array") p
      let (cb, p) ← compileNode cfg b p
      let body := cb ++ emitCond m.loc [li m.loc .inc cc, li m.loc .load car, li m.loc .load ci, li m.loc .index]
      pure (ca ++ [li m.loc .begin_, li m.loc .push c0, li m.loc .store cc] ++ emitLoop m.loc ci cs car c0 body ++
            [li m.loc .load cc, li m.loc .end_, li m.loc .array], p)) := rfl

theorem compileNode_bi_map (cfg : CompCfg) (m : Meta) (a b : Node) (p : Pool) :
    compileNode cfg (.builtin m "map" [a, b]) p = ( do
      let (ca, p) ← compileNode cfg a p
      let (ci, p) ← mkConst (.str "i") p
      let (cs, p) ← mkConst (.str "size") p
      let (car, p) ← mkConst (.str "array") p
      let (c0, p) ← mkConst (.int .int 0) p
      let (cb, p) ← compileNode cfg b p
      pure (ca ++ [li m.loc .begin_] ++ emitLoop m.loc ci cs car c0 cb ++ [li m.loc .load cs, li m.loc .end_, li m.loc .array], p)) := rfl

theorem compileNode_bi_count (cfg : CompCfg) (m : Meta) (a b : Node) (p : Pool) :
    compileNode cfg (.builtin m "count" [a, b]) p = ( do
      let (cc, p) ← mkConst (.str "count") p
      let (ca, p) ← compileNode cfg a p
      let (c0, p) ← mkConst (.int .int 0) p
      let (ci, p) ← mkConst (.str "i") p
      let (cs, p) ← mkConst (.str "size") p
      let (car, p) ← mkConst (.str "array") p
      let (cb, p) ← compileNode cfg b p
      let body := cb ++ emitCond m.loc [li m.loc .inc cc]
      pure (ca ++ [li m.loc .begin_, li m.loc .push c0, li m.loc .store cc] ++ emitLoop m.loc ci cs car c0 body ++
            [li m.loc .load cc, li m.loc .end_], p)) := rfl

theorem compileNode_closure (cfg : CompCfg) {m} {x} (p : Pool) :
    compileNode cfg (.closure m x) p = (compileNode cfg x p) := rfl

theorem compileNode_pointer (cfg : CompCfg) {m} (p : Pool) :
    compileNode cfg (.pointer m) p = (do
    let (car, p) ← mkConst (.str "array") p
    let (ci, p) ← mkConst (.str "i") p
    pure ([li m.loc .load car, li m.loc .load ci, li m.loc .index], p)) := rfl

theorem compileNode_cond (cfg : CompCfg) {m} {c} {a} {b} (p : Pool) :
    compileNode cfg (.cond m c a b) p = (do
    let (cc, p) ← compileNode cfg c p
    let (ca, p) ← compileNode cfg a p
    let (cb, p) ← compileNode cfg b p
    pure (cc ++ [li m.loc .jumpIfFalse (1 + lsize ca + 3), li m.loc .pop] ++ ca ++
          [li m.loc .jump (1 + lsize cb), li m.loc .pop] ++ cb, p)) := rfl

theorem compileNode_array (cfg : CompCfg) {m} {xs} (p : Pool) :
    compileNode cfg (.array m xs) p = (do
    let (cx, p) ← compileList cfg xs p
    let (k, p) ← mkConst (.int .int xs.length) p
    pure (cx ++ [li m.loc .push k, li m.loc .array], p)) := rfl

theorem compileNode_map (cfg : CompCfg) {m} {ps} (p : Pool) :
    compileNode cfg (.map m ps) p = (do
    let (cx, p) ← compileList cfg ps p
    let (k, p) ← mkConst (.int .int ps.length) p
    pure (cx ++ [li m.loc .push k, li m.loc .map], p)) := rfl

theorem compileNode_pair (cfg : CompCfg) {m} {k} {v} (p : Pool) :
    compileNode cfg (.pair m k v) p = (do
    let (ck, p) ← compileNode cfg k p
    let (cv, p) ← compileNode cfg v p
    pure (ck ++ cv, p)) := rfl

theorem compileList_nil (cfg : CompCfg) (p : Pool) : compileList cfg [] p = .ok ([], p) := rfl
theorem compileList_cons (cfg : CompCfg) (n : Node) (ns : List Node) (p : Pool) :
    compileList cfg (n :: ns) p = (do
      let (c1, p) ← compileNode cfg n p
      let (c2, p) ← compileList cfg ns p
      pure (c1 ++ c2, p)) := rfl

/-- a builtin call compiles only in one of the eight shapes -/
theorem compileNode_builtin_ok {cfg : CompCfg} {m : Meta} {name : String} {args : List Node} {p : Pool}
    {r : List LInstr × Pool} (h : compileNode cfg (.builtin m name args) p = .ok r) :
    (name = "len" ∧ ∃ a, args = [a]) ∨
    ((name = "all" ∨ name = "none" ∨ name = "any" ∨ name = "one" ∨ name = "filter" ∨ name = "map" ∨ name = "count") ∧
      ∃ a b, args = [a, b]) := by
  unfold compileNode at h
  split at h
  · exact .inl ⟨rfl, _, rfl⟩
  · exact .inr ⟨.inl rfl, _, _, rfl⟩
  · exact .inr ⟨.inr (.inl rfl), _, _, rfl⟩
  · exact .inr ⟨.inr (.inr (.inl rfl)), _, _, rfl⟩
  · exact .inr ⟨.inr (.inr (.inr (.inl rfl))), _, _, rfl⟩
  · exact .inr ⟨.inr (.inr (.inr (.inr (.inl rfl)))), _, _, rfl⟩
  · exact .inr ⟨.inr (.inr (.inr (.inr (.inr (.inl rfl))))), _, _, rfl⟩
  · exact .inr ⟨.inr (.inr (.inr (.inr (.inr (.inr rfl))))), _, _, rfl⟩
  -- every other shape is a compile error
  all_goals cases h

/-- the epilogue of the result directive (`AsInt64` / `AsFloat64`): one `OpCast`, at location 0:0 -/
def castCode : Option Nat → List LInstr
  | some t => [li {} .cast t]
  | none => []

theorem mem_castCode {c : Option Nat} {i : LInstr} (h : i ∈ castCode c) : ∃ t, c = some t ∧ i = li {} .cast t := by
  cases c with
  | none => cases h
  | some t => exact ⟨t, rfl, List.mem_singleton.1 h⟩

theorem compileProgram_ok {cfg : CompCfg} {n : Node} {cp : Compiled} (h : compileProgram cfg n = .ok cp) :
    ∃ code p, compileNode cfg n {} = .ok (code, p) ∧ (cfg.jumpGuard && jumpOverflow code) = false ∧
      cp = ⟨code ++ castCode cfg.cast, p.consts⟩ := by
  unfold compileProgram at h
  cases hc : compileNode cfg n {} with
  | error e =>
    rw [hc] at h
    cases h
  | ok r =>
    obtain ⟨code, p⟩ := r
    rw [hc] at h
    change (if (cfg.jumpGuard && jumpOverflow code) = true then _ else _) = _ at h
    cases hg : (cfg.jumpGuard && jumpOverflow code)
    · rw [hg, if_neg Bool.false_ne_true] at h
      cases h
      exact ⟨code, p, rfl, hg, by cases cfg.cast <;> rfl⟩
    · rw [hg, if_pos rfl] at h
      cases h

end ExprModel.Refine
