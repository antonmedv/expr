import ExprModel.Proofs.OptSim
import ExprModel.Proofs.OptStep
import ExprModel.Proofs.SpecOps
/-
C02: soundness of the rewrite rules of fold.go (integer arithmetic, unary sign, string concatenation)
under the guard `FoldOKf`, read off the description of the rule in `OptStep` (`foldRule_step`).
-/
namespace ExprModel
namespace OptProofs
open Spec Opt

variable {c : SCfg}

theorem Step.sim {marks : Bool} {Rej : Prop} {New : Node → Prop} {N : Node} {st : St} {out : Node × St}
    (h : Step marks Rej New N st out) (hn : ∀ n', New n' → Sim c n' N) : Sim c out.1 N := by
  cases h with
  | keep => exact sim_refl c N
  | reject => exact sim_refl c N
  | new h => exact hn _ h

/-- an integer literal as the Go parser produces it: a value of Go's `int`, annotated `int` or not at all -/
def IntLitOK (m : Meta) (v : Int) : Prop := plainKd m.kd = true ∧ inRange .int v

theorem intConst_plain {kd : RKind} (h : plainKd kd = true) {v : Int} (hv : inRange .int v) : intConst kd v = .int .int v := by
  cases kd with
  | num k => cases k <;> first | (simp [plainKd] at h; done) | (simp only [intConst]; rw [wrap_of_inRange .int _ hv])
  | _ => first | rfl | (simp [plainKd] at h)

theorem eval_int_plain (ctx : Ctx) (m : Meta) (hk : plainKd m.kd = true) {v : Int} (hv : inRange .int v) :
    eval c ctx (.int m v) = pure (.int .int v) := by
  rw [eval_int, intConst_plain hk hv]

theorem sim_of_pure {n' n : Node} (hp' : n'.isPair = false) (hp : n.isPair = false) (kd : n'.kd = n.kd)
    (lit : strLit n = none) (re : reOK n' = true) (v : Val)
    (h' : ∀ ctx, eval c ctx n' = pure v) (h : ∀ ctx, eval c ctx n = pure v) : Sim c n' n :=
  sim_of_ev hp' hp kd lit (fun _ => re) (fun ctx => by rw [h' ctx, h ctx]; exact RelM.pure v)

theorem div_ints (a b : Int) (hb : b ≠ 0) :
    binHelper .divide (.int .int a) (.int .int b) = .ok (.int .int (wrap .int (Int.tdiv a b))) := by
  simp [binHelper, refSem, armTypeOf, Helper.noFloat, Kind.maxRank, applyOp, Helper.op, hb]

theorem mod_ints (a b : Int) (hb : b ≠ 0) :
    binHelper .modulo (.int .int a) (.int .int b) = .ok (.int .int (wrap .int (Int.tmod a b))) := by
  simp [binHelper, refSem, armTypeOf, Helper.noFloat, Kind.maxRank, applyOp, Helper.op, hb, Kind.isFloat]

/-- `fold` computes what the evaluator computes: over integer literals `+ - * / %` evaluates to `cval` -/
theorem eval_binary_lits (ctx : Ctx) (m ma mb : Meta) (op : String) (a b v : Int) (pa : IntLitOK ma a) (pb : IntLitOK mb b)
    (hv : cval (.binary m op (.int ma a) (.int mb b)) = some v) :
    eval c ctx (.binary m op (.int ma a) (.int mb b)) = pure (.int .int v) := by
  have ev : ∀ op h, binArith op = some h →
      eval c ctx (.binary m op (.int ma a) (.int mb b)) = SM.lift (binHelper h (.int .int a) (.int .int b)) :=
    fun op h hop => by
      rw [eval_arith c ctx m op h hop, eval_int_plain ctx ma pa.1 pa.2, eval_int_plain ctx mb pb.1 pb.2]; rfl
  simp only [cval] at hv
  by_cases h1 : op = "+"
  · subst h1; cases hv; exact ev "+" .add rfl
  by_cases h2 : op = "-"
  · subst h2; cases hv; exact ev "-" .subtract rfl
  by_cases h3 : op = "*"
  · subst h3; cases hv; exact ev "*" .multiply rfl
  by_cases hb : b = 0
  · simp [h1, h2, h3, hb] at hv
  by_cases h4 : op = "/"
  · subst h4
    simp only [String.reduceBEq, ↓reduceIte, Bool.false_eq_true, beq_iff_eq, hb, Option.some.injEq] at hv
    subst hv
    exact (ev "/" .divide rfl).trans (congrArg SM.lift (div_ints a b hb))
  by_cases h5 : op = "%"
  · subst h5
    simp only [String.reduceBEq, ↓reduceIte, Bool.false_eq_true, beq_iff_eq, hb, Option.some.injEq] at hv
    subst hv
    exact (ev "%" .modulo rfl).trans (congrArg SM.lift (mod_ints a b hb))
  · simp [h1, h2, h3, h4, h5] at hv

theorem eval_unary_lits (ctx : Ctx) (m mi : Meta) (op : String) (i v : Int) (pi : IntLitOK mi i)
    (hv : cval (.unary m op (.int mi i)) = some v) :
    eval c ctx (.unary m op (.int mi i)) = pure (.int .int v) := by
  simp only [cval] at hv
  rw [Spec.eval_unary, eval_int, intConst_plain pi.1 pi.2]
  by_cases h1 : op = "-"
  · subst h1; cases hv; rfl
  by_cases h2 : op = "+"
  · subst h2; cases hv; rfl
  · simp [h1, h2] at hv

theorem sim_lit {N : Node} (hp : N.isPair = false) (hs : strLit N = none) (loc : Loc) {kd : RKind} {v : Int}
    (hpl : plainKd kd = true) (hk : kd = N.kd) (hv : inRange .int v) (ev : ∀ ctx, eval c ctx N = pure (.int .int v)) :
    Sim c (.int ⟨loc, kd⟩ v) N :=
  sim_of_pure rfl hp hk hs rfl (.int .int v) (fun ctx => eval_int_plain ctx _ hpl hv) ev

theorem eval_str_concat (ctx : Ctx) (m ma mb : Meta) (a b : String) :
    eval c ctx (.binary m "+" (.str ma a) (.str mb b)) = pure (.str (a ++ b)) := by
  rw [eval_arith c ctx m "+" .add rfl, Spec.eval_str, Spec.eval_str]
  rfl

/-- the guard of the fold pass, for a setting `fl` of the switches (the `f`): Go `int` literals; an annotation of the
    folded node that agrees with its literal; no `**` (IEEE operations are opaque to the kernel); no literal array of
    integers / of strings (that rewrite changes the element type of the slice, which `==` observes).  That the literals
    are un-retyped is asked only where the rule does not test it itself (`foldPlainOnly` off). -/
def FoldOKf (fl : Flags) : Node → Prop
  | .unary m _ (.int mi i) => inRange .int i ∧ m.kd = mi.kd ∧ (fl.foldPlainOnly = false → plainKd mi.kd = true)
  | .binary m op (.int ma a) (.int mb b) =>
    op ≠ "**" ∧ inRange .int a ∧ inRange .int b ∧
    (op = "%" → plainKd ma.kd = true ∧ plainKd mb.kd = true ∧ plainKd m.kd = true) ∧
    (op ≠ "%" → m.kd = ma.kd ∧ (fl.foldPlainOnly = false → plainKd ma.kd = true ∧ plainKd mb.kd = true))
  | .array _ xs => xs.isEmpty = true ∨ (allInts xs = none ∧ allStrs xs = none)
  | _ => True

theorem foldNew_sim {fl : Flags} {w : World} {N n' : Node} (h : FoldNew fl w N n') (hg : FoldOKf fl N) : Sim c n' N := by
  -- what the rule checks when the switch is set, the guard supplies when it is not
  have plain : ∀ {q : Prop}, (fl.foldPlainOnly = true → q) → (fl.foldPlainOnly = false → q) → q := fun ht hf => by
    cases h : fl.foldPlainOnly
    · exact hf h
    · exact ht h
  cases h with
  | sign _ hp hr hv =>
    obtain ⟨hi, hkd, hpl⟩ := hg
    have hpk := plain hp hpl
    exact sim_lit rfl rfl _ hpk hkd.symm (hr hi) fun ctx => eval_unary_lits ctx _ _ _ _ _ ⟨hpk, hi⟩ hv
  | @arith _ op _ _ _ _ _ h4 hp hr hv =>
    obtain ⟨_, ha, hb, _, hoth⟩ := hg
    have hne : op ≠ "%" := by rintro rfl; exact absurd h4 (by decide)
    have hpk := plain hp (hoth hne).2
    exact sim_lit rfl rfl _ hpk.1 (hoth hne).1.symm hr fun ctx =>
      eval_binary_lits ctx _ _ _ _ _ _ _ ⟨hpk.1, ha⟩ ⟨hpk.2, hb⟩ hv
  | mod hr hv =>
    obtain ⟨_, ha, hb, hmod, _⟩ := hg
    obtain ⟨pa, pb, pm⟩ := hmod rfl
    exact sim_lit rfl rfl _ pm rfl hr fun ctx => eval_binary_lits ctx _ _ _ _ _ _ _ ⟨pa, ha⟩ ⟨pb, hb⟩ hv
  | pow => exact absurd rfl hg.1
  | concat =>
    exact sim_of_pure rfl rfl rfl rfl rfl (.str _) (fun ctx => Spec.eval_str c ctx _ _) fun ctx =>
      eval_str_concat ctx _ _ _ _ _
  | ints he hx =>
    rcases hg with hg | hg
    · rw [he] at hg; cases hg
    · rw [hx] at hg; cases hg.1
  | strs he hx =>
    rcases hg with hg | hg
    · rw [he] at hg; cases hg
    · rw [hx] at hg; cases hg.2

theorem foldRule_sound (fl : Flags) (w : World) (N : Node) (hg : FoldOKf fl N) (st : St) :
    Sim c (foldRule fl w N st).1 N :=
  (foldRule_step fl w N st).sim fun _ h => foldNew_sim h hg

end OptProofs
end ExprModel
