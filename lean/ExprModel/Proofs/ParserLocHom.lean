import ExprModel.Syntax.ParserLoc
import ExprModel.Proofs.ParserZero
/-
The parser commutes with forgetting locations: running it on the location-free tokens gives the
location-free result (tree, remaining tokens, error message).  Hence two token lists that differ only in
locations parse to trees that differ only in locations.
-/
namespace ExprModel.Parser

def Res.noLoc {α : Type} (g : α → α) : Res α → Res α
  | .ok a ts => .ok (g a) (noLocs ts)
  | .err e => .err ({}, e.2)
  | .fuel => .fuel

/-- `r'` is `r` with its locations forgotten: the graph of `Res.noLoc g`, written as a relation so that the cases of
    `homAt` compose like those of the other inductions (`Sim.bind`, `Sim.ite`) -/
def Sim {α : Type} (g : α → α) (r r' : Res α) : Prop := r' = r.noLoc g

theorem Sim.ok {α : Type} {g : α → α} {a : α} {ts : List Token} : Sim g (.ok a ts) (.ok (g a) (noLocs ts)) := rfl

theorem Sim.err {α : Type} {g : α → α} {l : Loc} {m : String} : Sim g (Res.err (l, m) : Res α) (.err ({}, m)) := rfl

theorem Sim.bind {α β : Type} {g1 : α → α} {g : β → β} {a a' : Res α} {k k' : α → List Token → Res β}
    (h : Sim g1 a a') (hk : ∀ x ts, Sim g (k x ts) (k' (g1 x) (noLocs ts))) : Sim g (a.bind k) (a'.bind k') := by
  unfold Sim at h; subst h
  cases a with
  | ok x ts => exact hk x ts
  | err e => rfl
  | fuel => rfl

theorem Sim.ite {α : Type} {g : α → α} {c : Prop} [Decidable c] {a a' b b' : Res α}
    (h1 : Sim g a a') (h2 : Sim g b b') : Sim g (if c then a else b) (if c then a' else b') := by
  split
  · exact h1
  · exact h2

@[simp] theorem noLoc_kind (t : Token) : (Token.noLoc t).kind = t.kind := rfl
@[simp] theorem noLoc_value (t : Token) : (Token.noLoc t).value = t.value := rfl
@[simp] theorem noLoc_loc (t : Token) : (Token.noLoc t).loc = {} := rfl
@[simp] theorem noLoc_is (t : Token) (k : TokKind) (v : String) : (Token.noLoc t).is k v = t.is k v := rfl

@[simp] theorem cur_noLocs (ts : List Token) : cur (noLocs ts) = Token.noLoc (cur ts) := by
  cases ts <;> rfl

theorem sim_next {ts : List Token} : Sim id (next ts) (next (noLocs ts)) := by
  unfold Sim
  match ts with
  | [] => rfl
  | [_] => rfl
  | _ :: _ :: _ => rfl

theorem sim_expect {k : TokKind} {v : String} {ts : List Token} : Sim id (expect k v ts) (expect k v (noLocs ts)) := by
  unfold expect
  simp only [cur_noLocs, noLoc_is, noLoc_loc]
  split
  · exact sim_next
  · exact Sim.err

theorem sim_sep {first : Bool} {ts : List Token} :
    Sim id (if first = true then Res.ok () ts else expect .operator "," ts)
      (if first = true then Res.ok () (noLocs ts) else expect .operator "," (noLocs ts)) := by
  split
  · exact Sim.ok
  · exact sim_expect

variable (cfg : Cfg)

@[simp] theorem binOp_noLoc (t : Token) : binOp cfg (Token.noLoc t) = binOp cfg t := rfl
@[simp] theorem unOp_noLoc (t : Token) : unOp cfg (Token.noLoc t) = unOp cfg t := rfl
@[simp] theorem nameOk_noLoc (t : Token) : nameOk (Token.noLoc t) = nameOk t := rfl

theorem strLit_eraseLoc (r : Node) : strLit? r.eraseLoc = strLit? r := by
  cases r <;> rfl

theorem mk_noLoc (l : Loc) : (mk l).noLoc = mk {} := rfl

open Node in
structure HomAt (f : Nat) : Prop where
  expr : ∀ {d p ts}, Sim eraseLoc (parseExpression cfg f d p ts) (parseExpression cfg f d p (noLocs ts))
  loop : ∀ {d p l ts}, Sim eraseLoc (exprLoop cfg f d p l ts) (exprLoop cfg f d p l.eraseLoc (noLocs ts))
  prim : ∀ {d ts}, Sim eraseLoc (parsePrimary cfg f d ts) (parsePrimary cfg f d (noLocs ts))
  cond : ∀ {d nd ts}, Sim eraseLoc (parseConditional cfg f d nd ts) (parseConditional cfg f d nd.eraseLoc (noLocs ts))
  pexp : ∀ {d ts}, Sim eraseLoc (parsePrimaryExpression cfg f d ts) (parsePrimaryExpression cfg f d (noLocs ts))
  ident : ∀ {d tok ts}, Sim eraseLoc (parseIdentifierExpression cfg f d tok ts)
    (parseIdentifierExpression cfg f d (Token.noLoc tok) (noLocs ts))
  clos : ∀ {d ts}, Sim eraseLoc (parseClosure cfg f d ts) (parseClosure cfg f d (noLocs ts))
  arr : ∀ {d ts}, Sim eraseLoc (parseArray cfg f d ts) (parseArray cfg f d (noLocs ts))
  arrL : ∀ {d b ts}, Sim eraseLocL (arrayLoop cfg f d b ts) (arrayLoop cfg f d b (noLocs ts))
  map : ∀ {d ts}, Sim eraseLoc (parseMap cfg f d ts) (parseMap cfg f d (noLocs ts))
  mapL : ∀ {d l b ts}, Sim eraseLocL (mapLoop cfg f d l b ts) (mapLoop cfg f d {} b (noLocs ts))
  post : ∀ {d nd b ts}, Sim eraseLoc (parsePostfix cfg f d nd b ts) (parsePostfix cfg f d nd.eraseLoc b (noLocs ts))
  args : ∀ {d ts}, Sim eraseLocL (parseArguments cfg f d ts) (parseArguments cfg f d (noLocs ts))
  argsL : ∀ {d b ts}, Sim eraseLocL (argsLoop cfg f d b ts) (argsLoop cfg f d b (noLocs ts))

/- A test on the current token of the location-free run is the test on the original token once `cur_noLocs` has
   been applied (`Token.noLoc` keeps kind and value); a tree built from `mk l` erases to the one built from `mk {}`
   by computation. -/
open Node in
theorem homAt : ∀ f, HomAt cfg f
  | 0 => by
    constructor <;> intros <;> simp only [parser_zero] <;> rfl
  | f+1 => by
    have ih := homAt f
    constructor
    · intro d p ts
      rw [parseExpression, parseExpression]
      exact .bind ih.prim fun _ _ => .bind ih.loop fun _ _ => .ite ih.cond .ok
    · intro d p l ts
      rw [exprLoop, exprLoop, cur_noLocs, binOp_noLoc]
      split
      · refine .ite (.bind sim_next fun _ _ => .bind ih.expr fun r ts2 => .ite ?_ ih.loop)
          .ok
        rw [strLit_eraseLoc, cur_noLocs]
        split
        · exact .ite .err ih.loop
        · exact ih.loop
      · exact .ok
    · intro d ts
      rw [parsePrimary, parsePrimary, cur_noLocs, unOp_noLoc]
      split
      · exact .bind sim_next fun _ _ => .bind ih.expr fun _ _ => ih.post
      · exact .ite
          (.bind sim_next fun _ _ => .bind ih.expr fun _ _ => .bind sim_expect fun _ _ =>
            ih.post)
          (.ite (.ite (.bind sim_next fun _ _ => ih.post) .err)
            (.ite (.ite ih.post .err) ih.pexp))
    · intro d nd ts
      rw [parseConditional, parseConditional, cur_noLocs]
      refine .ite (.bind sim_next fun _ ts1 => ?_) .ok
      rw [cur_noLocs]
      exact .ite
        (.bind sim_next fun _ _ => .bind ih.expr fun _ _ => ih.cond)
        (.bind ih.expr fun _ _ => .bind sim_expect fun _ _ => .bind ih.expr fun _ _ =>
          ih.cond)
    · intro d ts
      rw [parsePrimaryExpression, parsePrimaryExpression, cur_noLocs, noLoc_kind]
      split
      · exact .bind sim_next fun _ _ => .ite .ok (.ite .ok (.ite .ok
          (.bind ih.ident fun _ _ => ih.post)))
      · refine .bind sim_next fun _ ts1 => ?_
        rw [cur_noLocs, noLoc_value]
        split
        · exact .ok
        · exact .ok
        · exact .err
      · exact .bind sim_next fun _ _ => .ok
      · exact .ite (.bind ih.arr fun _ _ => ih.post)
          (.ite (.bind ih.map fun _ _ => ih.post) .err)
    · intro d tok ts
      rw [parseIdentifierExpression, parseIdentifierExpression, cur_noLocs, noLoc_value]
      refine .ite ?_ .ok
      split
      · exact .bind sim_expect fun _ _ => .bind (g1 := eraseLocL)
          (.ite (.bind ih.expr fun _ _ => .ok)
            (.ite
              (.bind ih.expr fun _ _ => .bind sim_expect fun _ _ => .bind ih.clos fun _ _ =>
                .ok)
              .ok))
          fun _ _ => .bind sim_expect fun _ _ => .ok
      · exact .bind ih.args fun _ _ => .ok
    · intro d ts
      rw [parseClosure, parseClosure, cur_noLocs]
      exact .bind sim_expect fun _ _ => .bind ih.expr fun _ _ => .bind sim_expect fun _ _ =>
        .ok
    · intro d ts
      rw [parseArray, parseArray, cur_noLocs]
      exact .bind sim_expect fun _ _ => .bind ih.arrL fun _ _ => .bind sim_expect fun _ _ =>
        .ok
    · intro d b ts
      rw [arrayLoop, arrayLoop, cur_noLocs]
      refine .ite .ok (.bind sim_sep fun _ ts1 => ?_)
      rw [cur_noLocs]
      exact .ite .ok (.bind ih.expr fun _ _ => .bind ih.arrL fun _ _ => .ok)
    · intro d ts
      rw [parseMap, parseMap, cur_noLocs]
      exact .bind sim_expect fun _ _ => .bind ih.mapL fun _ _ => .bind sim_expect fun _ _ =>
        .ok
    · intro d l b ts
      rw [mapLoop, mapLoop, cur_noLocs]
      refine .ite .ok (.bind sim_sep fun _ ts1 => ?_)
      rw [cur_noLocs]
      exact .ite .ok (.ite .err
        (.bind (g1 := eraseLoc)
          (.ite (.bind sim_next fun _ _ => .ok) (.ite ih.expr .err))
          fun _ _ => .bind sim_expect fun _ _ => .bind ih.expr fun _ _ =>
            .bind ih.mapL fun _ _ => .ok))
    · intro d nd b ts
      rw [parsePostfix, parsePostfix, cur_noLocs]
      refine .ite (.ite ?member (.ite ?index .ok)) .ok
      case member =>
        refine .bind sim_next fun _ ts1 => .bind sim_next fun _ ts2 => ?_
        rw [cur_noLocs, cur_noLocs]
        exact .ite .err (.ite (.bind ih.args fun _ _ => ih.post) ih.post)
      case index =>
        refine .bind sim_next fun _ ts1 => ?_
        rw [cur_noLocs]
        refine .ite ?_ ?_
        · refine .bind sim_next fun _ ts2 => ?_
          rw [cur_noLocs]
          exact .bind (g1 := eraseLocO) (.ite .ok (.bind ih.expr fun _ _ => .ok))
            fun _ _ => .bind sim_expect fun _ _ => ih.post
        · refine .bind ih.expr fun _ ts2 => ?_
          rw [cur_noLocs]
          refine .ite (.bind sim_next fun _ ts3 => ?_) (.bind sim_expect fun _ _ => ih.post)
          rw [cur_noLocs]
          exact .bind (g1 := eraseLocO) (.ite .ok (.bind ih.expr fun _ _ => .ok))
            fun _ _ => .bind sim_expect fun _ _ => ih.post
    · intro d ts
      rw [parseArguments, parseArguments]
      exact .bind sim_expect fun _ _ => .bind ih.argsL fun _ _ => .bind sim_expect fun _ _ =>
        .ok
    · intro d b ts
      rw [argsLoop, argsLoop, cur_noLocs]
      exact .ite .ok (.bind sim_sep fun _ _ =>
        .bind ih.expr fun _ _ => .bind ih.argsL fun _ _ => .ok)

def Outcome.noLoc : Outcome → Outcome
  | .ok n => .ok n.eraseLoc
  | .error e => .error ({}, e.2)
  | .outOfFuel => .outOfFuel

theorem parseFuel_noLocs (f : Nat) (ts : List Token) :
    parseFuel cfg f (noLocs ts) = (parseFuel cfg f ts).noLoc := by
  unfold parseFuel
  have h := (homAt cfg f).expr (d := 0) (p := 0) (ts := ts)
  unfold Sim at h
  rw [h]
  cases parseExpression cfg f 0 0 ts with
  | ok n rest =>
    simp only [Res.noLoc, cur_noLocs, noLoc_kind, noLoc_loc]
    split <;> rfl
  | err e => rfl
  | fuel => rfl

theorem fuelFor_noLocs (ts : List Token) : fuelFor (noLocs ts) = fuelFor ts := by
  simp [fuelFor, noLocs]

/-- "same text": the same kinds and values, token by token (`noLocs`) -/
theorem parse_same_text {ts ts' : List Token} (h : noLocs ts = noLocs ts') {t : Node}
    (ht : parse cfg ts = .ok t) : ∃ t', parse cfg ts' = .ok t' ∧ t'.eraseLoc = t.eraseLoc := by
  have h1 := parseFuel_noLocs cfg (fuelFor ts) ts
  have h2 := parseFuel_noLocs cfg (fuelFor ts') ts'
  have hf : fuelFor ts' = fuelFor ts := by rw [← fuelFor_noLocs ts', ← fuelFor_noLocs ts, h]
  rw [hf, ← h, h1] at h2
  unfold parse at ht ⊢
  rw [hf]
  cases hp : parseFuel cfg (fuelFor ts) ts with
  | ok n =>
    rw [hp] at ht h2; cases ht
    cases hp' : parseFuel cfg (fuelFor ts) ts' with
    | ok n' =>
      rw [hp'] at h2
      simp only [Outcome.noLoc, Outcome.ok.injEq] at h2
      exact ⟨n', rfl, h2.symm⟩
    | error e => rw [hp'] at h2; simp [Outcome.noLoc] at h2
    | outOfFuel => rw [hp'] at h2; simp [Outcome.noLoc] at h2
  | error e => rw [hp] at ht; cases ht
  | outOfFuel => rw [hp] at ht; cases ht

end ExprModel.Parser
