import ExprModel.Proofs.RefineSem
import ExprModel.Proofs.SpecOps
/-
C01, the loop builtins.  All seven are one located computation `loopL`, compiled to one code shape (collection,
prologue, `emitLoop` around closure and per-element code, epilogue).  `loop_iter` is the induction on the remaining
iterations, `SimC.loop` the whole builtin; both are parametric in the accumulator's footprint on the stack (`S`)
and in the scope (`Extra`).
-/
namespace ExprModel.Refine
open ExprModel
open ExprModel.Spec
open ExprModel.Spec.SML

theorem lookup_set_same (k : String) (v : Val) : ∀ sc : Scope, lookupKv k (scopeSet k v sc) = some v
  | [] => by simp [scopeSet, lookupKv]
  | (k', v') :: rest => by
    unfold scopeSet
    by_cases h : (k == k') = true
    · simp [h, lookupKv]
    · simp [h, lookupKv, lookup_set_same k v rest]

theorem lookup_set_other {k k' : String} (hne : k ≠ k') (v : Val) : ∀ sc : Scope, lookupKv k' (scopeSet k v sc) = lookupKv k' sc
  | [] => by
    have : (k' == k) = false := by simpa using fun h => hne h.symm
    simp [scopeSet, lookupKv, this]
  | (k'', v') :: rest => by
    unfold scopeSet
    by_cases h : (k == k'') = true
    · have hk : k = k'' := by simpa using h
      subst hk
      have : (k' == k) = false := by simpa using fun h => hne h.symm
      simp [lookupKv, this]
    · simp [h, lookupKv, lookup_set_other hne v rest]

theorem wrap_int_id {x : Int} (h0 : 0 ≤ x) (h1 : x < 2 ^ 63) : wrap .int x = x :=
  wrap_of_inRange .int x ⟨Int.le_trans (by decide) h0, h1⟩

structure LoopVars (sc : Scope) (coll : Val) (N : Nat) (i : Nat) : Prop where
  array : lookupKv "array" sc = some coll
  size : lookupKv "size" sc = some (.int .int N)
  idx : lookupKv "i" sc = some (.int .int i)

theorem LoopVars.step {sc coll N i} (h : LoopVars sc coll N i) : LoopVars (scopeSet "i" (.int .int ((i + 1 : Nat) : Int)) sc) coll N (i + 1) :=
  ⟨by rw [lookup_set_other (by decide)]; exact h.array, by rw [lookup_set_other (by decide)]; exact h.size,
   lookup_set_same _ _ _⟩

theorem LoopVars.scopesOK {sc coll N i} (h : LoopVars sc coll N i) (ctx : Ctx) (scs : List Scope) :
    ScopesOK ((coll, (i : Int)) :: ctx) (sc :: scs) := ⟨sc, scs, rfl, h.array, h.idx⟩

/-- `emitLoop` with the jump operands in closed form.  An instruction takes 1 byte, or 3 with its operand (two
    bytes); from the start `k0` of this code, with `B = lsize body`:
      k0        len; store cs; store car; push c0; store ci     1+3+3+3+3 = 13   sets the loop variables
      k0+13     load ci; load cs; less; jumpIfFalse _; pop      3+3+1+3+1 = 11   the test, where `loop_iter` stands
      k0+24     body
      k0+24+B   inc ci; jumpBackward _; pop                     3+3+1 = 7        ends at k0+31+B
    A jump counts from the byte after its operand: `jumpIfFalse (B + 7)`, from k0+23, lands on the last `pop` (over
    `pop`, the body, `inc`, `jumpBackward`); `jumpBackward (B + 17)`, from k0+30+B, lands on the test at k0+13. -/
def loopCode (l : Loc) (ci cs car c0 : Nat) (body : List LInstr) : List LInstr :=
  [li l .len, li l .store cs, li l .store car, li l .push c0, li l .store ci,
   li l .load ci, li l .load cs, li l .less, li l .jumpIfFalse (lsize body + 7), li l .pop] ++ body ++
  [li l .inc ci, li l .jumpBackward (lsize body + 17), li l .pop]

theorem emitLoop_eq (l : Loc) (ci cs car c0 : Nat) (body : List LInstr) :
    emitLoop l ci cs car c0 body = loopCode l ci cs car c0 body := by
  have h1 : lsize ([li l .pop] ++ body ++ [li l .inc ci]) + 3 = lsize body + 7 := by ip_arith
  have h2 : lsize [li l .load ci, li l .load cs, li l .less] + 3 + lsize ([li l .pop] ++ body ++ [li l .inc ci]) + 3
      = lsize body + 17 := by ip_arith
  unfold emitLoop loopCode
  dsimp only
  rw [h1, h2]
  simp only [List.append_assoc, List.cons_append, List.nil_append]

theorem lsize_loopCode (l : Loc) (ci cs car c0 : Nat) (body : List LInstr) :
    lsize (loopCode l ci cs car c0 body) = lsize body + 31 := by
  unfold loopCode; ip_arith

theorem loopCode_parts {P : LProg} {k0 : Nat} {l : Loc} {ci cs car c0 : Nat} {body : List LInstr}
    (h : CodeAt P k0 (loopCode l ci cs car c0 body)) :
    CodeAt P k0 [li l .len, li l .store cs, li l .store car, li l .push c0, li l .store ci] ∧
    CodeAt P (k0 + 13) [li l .load ci, li l .load cs, li l .less, li l .jumpIfFalse (lsize body + 7), li l .pop] ∧
    CodeAt P (k0 + 24) body ∧
    CodeAt P (k0 + 24 + lsize body) [li l .inc ci, li l .jumpBackward (lsize body + 17), li l .pop] := by
  have h' : CodeAt P k0 ([li l .len, li l .store cs, li l .store car, li l .push c0, li l .store ci] ++
      [li l .load ci, li l .load cs, li l .less, li l .jumpIfFalse (lsize body + 7), li l .pop] ++ body ++
      [li l .inc ci, li l .jumpBackward (lsize body + 17), li l .pop]) := h
  exact ⟨h'.left.left.left, h'.left.left.right, h'.left.right.cast (by ip_arith), h'.right.cast (by ip_arith)⟩

/-- the collection a loop iterates over is never astronomically long (a Go slice, map or string has
    fewer than 2^63 elements; the VM's loop counter is a 64-bit `int`) -/
def SmallColl (c : Cfg) (a : Node) : Prop :=
  ∀ (ctx : Ctx) (σ : SState) (coll : Val) (σ1 : SState) (len : Int),
    eval (specOf c) ctx a σ = (.ok coll, σ1) → lengthV coll = .ok len → len < 2 ^ 63

section
variable {c : Cfg} {P : LProg} {l : Loc} {ci cs car c0 : Nat} {body : List LInstr} {k0 : Nat}
  {st : List Val} {scs : List Scope} {α : Type}

/-- a run from `s0` follows the result `y` of loop iterations: with accumulator `acc'` it is at `kcont`, loop
    variables at index `ib` and the accumulator's footprint at `ie` in the innermost scope; after an early exit it
    is at `kexit`, past the builtin's code, scope closed; or it fails as `y` says -/
def LoopPost (c : Cfg) (P : LProg) (S : α → List Val) (Extra : Scope → Nat → α → Prop) (coll : Val) (N ib ie : Nat)
    (kcont kexit : Nat) (st : List Val) (scs : List Scope) (s0 : VM) (y : Except LErr (α ⊕ Val) × SState) : Prop :=
  match y with
  | (.ok (.inl acc'), σ1) => ∃ sc', LoopVars sc' coll N ib ∧ Extra sc' ie acc' ∧
      Reach c P s0 (vm kcont (S acc' ++ st) (sc' :: scs) σ1 c.budget)
  | (.ok (.inr v), σ1) => Reach c P s0 (vm kexit (v :: st) scs σ1 c.budget)
  | (.error e, σ1) => ReachErr c P s0 e.1 σ1

theorem LoopPost.goal {S : α → List Val} {Extra : Scope → Nat → α → Prop} {coll : Val} {N ib ie kcont kexit : Nat} :
    RunGoal c P (LoopPost c P S Extra coll N ib ie kcont kexit st scs) := by
  refine ⟨fun {s s' y} h hp => ?_, fun h => h⟩
  obtain ⟨r, σ1⟩ := y
  rcases r with e | x | v
  · exact h.trans_err hp
  · obtain ⟨sc', hb, he, hr⟩ := hp; exact ⟨sc', hb, he, h.trans hr⟩
  · exact h.trans hp

/-- Induction on the iterations left, `i + fuel = N`.  The body leaves the loop variables at `i` and the accumulator at
    `i + 1`, the two indices of `LoopPost`: `OpInc` on `i` runs after it, here, and does not wrap since `N < 2^63`. -/
theorem loop_iter (fbL : Nat → α → SML (α ⊕ Val)) (S : α → List Val) (Extra : Scope → Nat → α → Prop)
    (hEx : ∀ sc j acc v, Extra sc j acc → Extra (scopeSet "i" v sc) j acc)
    (coll : Val) (N : Nat) (hN : (N : Int) < 2 ^ 63) (kexit : Nat)
    (hcode : CodeAt P k0 (loopCode l ci cs car c0 body)) (hK : LoopK P.consts ci cs car c0)
    (Hbody : ∀ (i : Nat) (acc : α) (σ : SState) (sc : Scope), i < N → LoopVars sc coll N i → Extra sc i acc →
      BAt P.blame (fbL i acc) σ →
      LoopPost c P S Extra coll N i (i + 1) (k0 + 24 + lsize body) kexit st scs
        (vm (k0 + 24) (S acc ++ st) (sc :: scs) σ c.budget) (fbL i acc σ)) :
    ∀ (fuel i : Nat) (acc : α) (sc : Scope) (σ : SState), i + fuel = N → LoopVars sc coll N i → Extra sc i acc →
      BAt P.blame (loopIdxL fbL fuel i acc) σ →
      LoopPost c P S Extra coll N N N (k0 + 31 + lsize body) kexit st scs
        (vm (k0 + 13) (S acc ++ st) (sc :: scs) σ c.budget) (loopIdxL fbL fuel i acc σ) := by
  obtain ⟨_, hcond, _, htail⟩ := loopCode_parts hcode
  have hless : ∀ (i : Nat) (acc : α) (sc : Scope) (σ : SState), LoopVars sc coll N i →
      Reach c P (vm (k0 + 13) (S acc ++ st) (sc :: scs) σ c.budget)
        (vm (k0 + 13 + 3 + 3 + 1) (.bool (decide ((i : Int) < N)) :: (S acc ++ st)) (sc :: scs) σ c.budget) := by
    intro i acc sc σ hb
    show Runs _ _ _ (Res.ok _)
    refine Runs.load hcond hK.i ?_
    rw [hb.idx]
    refine Runs.load hcond.tail3 hK.size ?_
    rw [hb.size]
    exact Runs.binop (x := .int .int i) (y := .int .int N) hcond.tail3.tail3 (hlp := .less) rfl (RBlame.ok _)
  intro fuel
  induction fuel with
  | zero =>
    intro i acc sc σ hi hb he _
    have hiN : i = N := by omega
    subst hiN
    refine ⟨sc, hb, he, (hless i acc sc σ hb).trans ?_⟩
    rw [decide_eq_false (Int.lt_irrefl _)]
    show Runs _ _ _ (Res.ok _)
    refine Runs.jumpIf (jt := false) hcond.tail3.tail3.tail1 ?_
    exact Runs.pop (htail.tail3.tail3.cast (by ip_arith)) ((Reach.refl _).to_ip (by ip_arith))
  | succ fuel ih =>
    intro i acc sc σ hi hb he hblm
    have hiN : i < N := by omega
    have hhead : Reach c P (vm (k0 + 13) (S acc ++ st) (sc :: scs) σ c.budget)
        (vm (k0 + 24) (S acc ++ st) (sc :: scs) σ c.budget) := by
      refine (hless i acc sc σ hb).trans ?_
      rw [decide_eq_true (show (i : Int) < N by omega)]
      show Runs _ _ _ (Res.ok _)
      exact Runs.jumpIf (jt := false) hcond.tail3.tail3.tail1
        (Runs.pop hcond.tail3.tail3.tail1.tail3 ((Reach.refl _).to_ip (by ip_arith)))
    refine LoopPost.goal.after hhead ?_
    rw [loopIdxL_succ] at hblm ⊢
    have hbp := Hbody i acc σ sc hiN hb he hblm.left
    rw [SML.bind_apply]
    cases hfb : fbL i acc σ with
    | mk r1 σ1 =>
    rw [hfb] at hbp
    rcases r1 with e | acc' | v
    · exact hbp
    · obtain ⟨sc', hb', he', hr⟩ := hbp
      refine LoopPost.goal.after hr ?_
      have hinc : Reach c P (vm (k0 + 24 + lsize body) (S acc' ++ st) (sc' :: scs) σ1 c.budget)
          (vm (k0 + 13) (S acc' ++ st) (scopeSet "i" (.int .int ((i + 1 : Nat) : Int)) sc' :: scs) σ1 c.budget) := by
        show Runs _ _ _ (Res.ok _)
        refine Runs.inc htail hK.i hb'.idx ?_
        rw [wrap_int_id (by omega) (by omega)]
        refine Runs.jumpBackward htail.tail3 (by omega) ?_
        rw [show ((i : Int) + 1) = ((i + 1 : Nat) : Int) by omega]
        exact (Reach.refl _).to_ip (by omega)
      exact LoopPost.goal.after hinc
        (ih (i + 1) acc' _ σ1 (by omega) hb'.step (hEx _ _ _ _ he') (hblm.right hfb))
    · exact hbp

/-- collection code `ca`, prologue `PRO` (opens the scope), `emitLoop` around the closure's code `cb` and the
    builtin's per-element code `POST` (on an early exit it also runs what it needs of the epilogue), epilogue `EPI` -/
theorem SimC.loop {ctx : Ctx} {a b : Node} {ca cb PRO POST EPI : List LInstr} (l : Loc)
    (post : Val → Nat → α → Val → SML (α ⊕ Val)) (fin : Int → α ⊕ Val → SM Val) (acc0 : α)
    (S : α → List Val) (Extra : Scope → Nat → α → Prop)
    (ha : SimC c P ctx [] one (evalLoc (specOf c) ctx a) ca)
    (hb : ∀ ctx', SimC c P ctx' [] one (evalLoc (specOf c) ctx' b) cb)
    (hsmall : SmallColl c a) (hK : LoopK P.consts ci cs car c0) (hS0 : S acc0 = [])
    (hfin : ∀ n v, fin n (.inr v) = pure v)
    (hEx : ∀ sc j acc k v, (k = "i" ∨ k = "size" ∨ k = "array") → Extra sc j acc → Extra (scopeSet k v sc) j acc)
    (Hpro : ∀ (k : Nat) (st : List Val) (scs : List Scope) (σ : SState) (coll : Val), CodeAt P k PRO →
      ∃ sc0, Extra sc0 0 acc0 ∧
        Reach c P (vm k (coll :: st) scs σ c.budget) (vm (k + lsize PRO) (coll :: st) (sc0 :: scs) σ c.budget))
    (Hpost : ∀ (coll : Val) (N kp : Nat) (st : List Val) (scs : List Scope) (i : Nat) (acc : α) (x : Val) (σ : SState)
      (sc : Scope), CodeAt P kp POST → CodeAt P (kp + lsize POST + 7) EPI → i < N → (N : Int) < 2 ^ 63 →
      LoopVars sc coll N i → Extra sc i acc → BAt P.blame (post coll i acc x) σ →
      LoopPost c P S Extra coll N i (i + 1) (kp + lsize POST) (kp + lsize POST + 7 + lsize EPI) st scs
        (vm kp (x :: (S acc ++ st)) (sc :: scs) σ c.budget) (post coll i acc x σ))
    (Hepi : ∀ (coll : Val) (N k : Nat) (st : List Val) (scs : List Scope) (σ : SState) (sc' : Scope) (accF : α),
      CodeAt P k EPI → LoopVars sc' coll N N → Extra sc' N accF → RBlame P l (fin N (.inl accF) σ).1 →
      Runs c P (vm k (S accF ++ st) (sc' :: scs) σ c.budget)
        (outcome (fin N (.inl accF) σ).1 (k + lsize EPI) st scs (fin N (.inl accF) σ).2 c.budget)) :
    SimC c P ctx [] one (loopL (specOf c) ctx a b l post acc0 fin)
      (ca ++ PRO ++ emitLoop l ci cs car c0 (cb ++ POST) ++ EPI) := by
  rw [emitLoop_eq, List.append_assoc, List.append_assoc]
  refine ha.bindYielded fun coll ⟨σa, σb, hav⟩ k st scs σ hcode hsc hB => ?_
  obtain ⟨sc0, hex0, hp⟩ := Hpro k st scs σ coll hcode.left
  refine Reach.runs hp ?_
  obtain ⟨k0, hk0⟩ : ∃ k0, k0 = k + lsize PRO := ⟨_, rfl⟩
  rw [← hk0]
  have hle : CodeAt P k0 (loopCode l ci cs car c0 (cb ++ POST) ++ EPI) := hk0 ▸ hcode.right
  have hhead := hle.left
  have hepi : CodeAt P (k0 + 31 + lsize (cb ++ POST)) EPI := hle.right.cast (by rw [lsize_loopCode]; omega)
  have hfinal : k0 + 31 + lsize (cb ++ POST) + lsize EPI =
      k + lsize (PRO ++ (loopCode l ci cs car c0 (cb ++ POST) ++ EPI)) := by
    simp only [hk0, lsize_append, lsize_loopCode]; omega
  obtain ⟨hlen, _, hbody, _⟩ := loopCode_parts hhead
  have hblen : RBlame P l (lengthV coll) := hB.left.raised (SM.lift_apply _ _)
  show Runs c P _ (endOf one ((raisedAt l (SM.lift (lengthV coll)) >>= _) σ) _ st scs c.budget)
  rw [SML.bind_apply, raisedAt_apply, SM.lift_apply]
  have hlenr := Runs.len (c := c) (st := st) (scs := sc0 :: scs) (σ := σ) (lim := c.budget) hlen hblen
  cases hl : lengthV coll with
  | error e => rw [hl] at hlenr; exact hlenr
  | ok n =>
    rw [hl] at hlenr
    have hnS := hsmall ctx σa coll σb n (eval_of_evalLoc_ok hav) hl
    obtain ⟨N, rfl⟩ : ∃ N : Nat, n = (N : Int) := ⟨n.toNat, by have := lengthV_nonneg hl; omega⟩
    have hB2 := hB.right (a := (N : Int)) (σ1 := σ) (by rw [raisedAt_apply, SM.lift_apply, hl])
    simp only [Int.toNat_natCast] at hB2 ⊢
    have hinit : Reach c P (vm k0 (coll :: st) (sc0 :: scs) σ c.budget)
        (vm (k0 + 13) (S acc0 ++ st)
          (scopeSet "i" (.int .int ((0 : Nat) : Int)) (scopeSet "array" coll (scopeSet "size" (.int .int N) sc0)) :: scs)
          σ c.budget) := by
      refine Reach.trans hlenr ?_
      show Runs _ _ _ (Res.ok _)
      refine Runs.store hlen.tail1 hK.size (Runs.store hlen.tail1.tail3 hK.array
        (Runs.push hlen.tail1.tail3.tail3 hK.zero (Runs.store hlen.tail1.tail3.tail3.tail3 hK.i ?_)))
      rw [hS0]
      exact (Reach.refl _).to_ip (by omega)
    refine Reach.runs hinit ?_
    have hbase : LoopVars (scopeSet "i" (.int .int ((0 : Nat) : Int)) (scopeSet "array" coll (scopeSet "size" (.int .int N) sc0)))
        coll N 0 :=
      ⟨by rw [lookup_set_other (by decide), lookup_set_same],
       by rw [lookup_set_other (by decide), lookup_set_other (by decide), lookup_set_same],
       lookup_set_same _ _ _⟩
    have hextra := hEx _ _ _ "i" (.int .int ((0 : Nat) : Int)) (.inl rfl)
      (hEx _ _ _ "array" coll (.inr (.inr rfl)) (hEx _ _ _ "size" (.int .int N) (.inr (.inl rfl)) hex0))
    have e1 : k0 + 24 + lsize (cb ++ POST) = k0 + 24 + lsize cb + lsize POST := by rw [lsize_append]; omega
    have e2 : k0 + 31 + lsize (cb ++ POST) + lsize EPI = k0 + 24 + lsize cb + lsize POST + 7 + lsize EPI := by
      rw [lsize_append]; omega
    have Hbody : ∀ (i : Nat) (acc : α) (σ : SState) (sc : Scope), i < N → LoopVars sc coll N i → Extra sc i acc →
        BAt P.blame (evalLoc (specOf c) ((coll, (i : Int)) :: ctx) b >>= post coll i acc) σ →
        LoopPost c P S Extra coll N i (i + 1) (k0 + 24 + lsize (cb ++ POST)) (k0 + 31 + lsize (cb ++ POST) + lsize EPI) st scs
          (vm (k0 + 24) (S acc ++ st) (sc :: scs) σ c.budget)
          ((evalLoc (specOf c) ((coll, (i : Int)) :: ctx) b >>= post coll i acc) σ) := by
      intro i acc σ sc hiN hbase hex hBL
      have r1 := hb _ _ (S acc ++ st) (sc :: scs) σ hbody.left (hbase.scopesOK ctx scs) hBL.left
      rw [SML.bind_apply, e1, e2]
      cases hx : evalLoc (specOf c) ((coll, (i : Int)) :: ctx) b σ with
      | mk r σ2 =>
        rw [hx] at r1
        cases r with
        | error e => exact r1
        | ok x =>
          exact LoopPost.goal.after r1 (Hpost coll N _ st scs i acc x σ2 sc hbody.right
            (hepi.cast (by rw [lsize_append]; omega)) hiN hnS hbase hex (hBL.right hx))
    have hiter := loop_iter _ S Extra (fun sc j acc v h => hEx sc j acc "i" v (.inl rfl) h) coll N hnS
      (k0 + 31 + lsize (cb ++ POST) + lsize EPI) hhead hK Hbody N 0 acc0 _ σ (by omega) hbase hextra hB2.left
    rw [SML.bind_apply]
    cases hlv : loopIdxL (fun i acc => evalLoc (specOf c) ((coll, (i : Int)) :: ctx) b >>= post coll i acc) N 0 acc0 σ with
    | mk r1 σ2 =>
    rw [hlv] at hiter
    rcases r1 with e | accF | v
    · exact hiter
    · obtain ⟨sc', hb', he', hr⟩ := hiter
      refine Reach.runs hr ?_
      have := Hepi coll N _ st scs σ2 sc' accF hepi hb' he' ((hB2.right hlv).raised rfl)
      show Runs c P _ (endOf one (raisedAt l (fin N (.inl accF)) σ2) _ st scs c.budget)
      rw [raisedAt_apply]
      revert this
      cases fin N (.inl accF) σ2 with
      | mk r s => cases r <;> exact fun h => h.to_ip hfinal
    · show Runs c P _ (endOf one (raisedAt l (fin N (.inr v)) σ2) _ st scs c.budget)
      rw [hfin]
      exact Reach.to_ip hiter hfinal

end

end ExprModel.Refine
