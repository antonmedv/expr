import ExprModel.Proofs.BcCompile
import ExprModel.Proofs.RefineBytes
import ExprModel.Api.Pipeline
/-
From C05's `Bc.FitsU16` (on instructions) to the `Refine.FitsU16` (on located instructions) that C01's theorems
assume: with the offset guard of patchJump / calcBackwardJump (the code after commit ba2f082; regenerated fact
`Gen.jumpGuard`) every program `compileProgram` returns has all its operands below 65536 (`Bc.fits_of_frag`).
-/
namespace ExprModel.Refine
open ExprModel ExprModel.Bc

theorem fitsU16_of_guard (cfg : CompCfg) (hcfg : CompCfgOk cfg) (hg : cfg.jumpGuard = true) (n : Node)
    (cp : Compiled) (h : compileProgram cfg n = .ok cp) : FitsU16 cp.code := by
  obtain ⟨hf, hsz, hfit⟩ := compileProgram_frag cfg hcfg n cp h
  intro i hi
  exact fits_of_frag hf hsz (hfit hg) i.instr (List.mem_map.2 ⟨i, hi, rfl⟩)

/-- the typed pipeline's result directive is `AsInt64` (0), `AsFloat64` (1) or none (`Api.castOf`) -/
theorem _root_.ExprModel.Api.TypedCfg.compCfgOk (T : Api.TypedCfg) : CompCfgOk T.compCfg := by
  intro t ht
  unfold Api.TypedCfg.compCfg Api.castOf at ht
  split at ht
  · cases ht; exact Nat.zero_le 1
  · cases ht; exact Nat.le_refl 1
  · cases ht

end ExprModel.Refine
