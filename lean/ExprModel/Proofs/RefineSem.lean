import ExprModel.Proofs.RefineSim
import ExprModel.Proofs.RefineCompiles
/-
C01: the simulation per construct (`SimC`).  Operands left to right, then the construct's own rule on their
values, is a chain of `SimC.bind`s ending in the opcode's lemma; here are the cases that need more: the operator
table, conditional jumps, slices, `len`, `#`, lists, calls and literals with their log and allocation accounting.
-/
namespace ExprModel.Refine
open ExprModel
open ExprModel.Spec
open ExprModel.Spec.SML

variable {c : Cfg} {P : LProg} {ctx : Ctx} {loops : Node → Prop}

/-- the opcodes `tail` of a strict binary operator, emitted at `loc`, compute its rule from the two operand values -/
def TailOK (c : Cfg) (P : LProg) (ctx : Ctx) (loc : Loc) (op : String) (l r : Node) (tail : List LInstr) : Prop :=
  ∀ a b, SimC c P ctx [b, a] one (raisedAt loc (binTail (specOf c) op l r a b)) tail

theorem tail_eq {l r : Node} {loc : Loc} : TailOK c P ctx loc "==" l r [li loc (eqOpOf l r)] := by
  intro a b
  rw [binTail_eq]
  unfold eqOpOf
  by_cases hi : (l.kd == r.kd && l.kd == .num .int) = true
  · simp only [hi, if_true]
    exact SimC.lifted fun _ _ _ _ hc hb => Runs.equalInt hc hb
  · simp only [hi, if_false, Bool.false_eq_true]
    by_cases hs : (l.kd == r.kd && l.kd == .string) = true
    · simp only [hs, if_true]
      exact SimC.lifted fun _ _ _ _ hc hb => Runs.equalString hc hb
    · simp only [hs, if_false, Bool.false_eq_true]
      exact SimC.raised (fun σ => (.ok (.bool (equalV a b)), σ)) (fun _ => rfl) fun _ _ _ _ hc _ =>
        Runs.equal hc (Reach.refl _)

theorem BinRow.tail {l r : Node} {loc : Loc} {op : String} {ops : List Op} (h : BinRow (specOf c) l r op ops) :
    TailOK c P ctx loc op l r (ops.map (fun o => li loc o)) := by
  intro a b
  cases h with
  | ne h =>
    rw [h]
    exact SimC.raised (fun σ => (.ok (.bool (!equalV a b)), σ)) (fun _ => rfl) fun _ _ _ _ hc _ =>
      Runs.equal hc (Runs.not_ hc.tail1 (RBlame.ok _))
  | in_ h =>
    rw [h]
    exact SimC.raised _ (SM.lift_map_apply (inV a b) Val.bool) fun _ _ _ _ hc hb => Runs.in_ hc hb.of_map
  | notin h =>
    rw [h]
    refine SimC.raised _ (SM.lift_map_apply (inV a b) fun x => Val.bool (!x)) fun k st scs σ hc hb => ?_
    have h := Runs.in_ (c := c) (st := st) (scs := scs) (σ := σ) (lim := c.budget) hc hb.of_map
    revert h
    cases inV a b with
    | error e => exact id
    | ok v => exact fun h => Reach.runs h (Runs.not_ hc.tail1 (RBlame.ok _))
  | @arith o hlp ho h =>
    rw [h]
    have hsz : lsize [li loc o] = 1 := by cases o <;> first | rfl | (simp [binOpOf] at ho)
    exact SimC.lifted fun _ _ _ _ hc hb => (Runs.binop hc ho hb).to_ip (by show _ = _ + lsize [li loc o]; rw [hsz])
  | pow h =>
    rw [h]
    exact SimC.lifted fun _ _ _ _ hc hb => Runs.exponent hc hb
  | @strop o f ho h =>
    rw [h]
    have hsz : lsize [li loc o] = 1 := by rcases ho with ⟨rfl, _⟩ | ⟨rfl, _⟩ | ⟨rfl, _⟩ <;> rfl
    exact SimC.lifted fun _ _ _ _ hc hb => (Runs.strop hc ho hb).to_ip (by show _ = _ + lsize [li loc o]; rw [hsz])
  | range h =>
    subst h
    exact SimC.raised _ (binTail_range _ l r a b) fun _ _ _ _ hc hb => Runs.range hc hb

/-- `and` (`jt = false`) and `or` (`jt = true`): the left operand decides, or is popped and the right one runs -/
theorem SimC.shortcut {jt : Bool} {ml mr : SML Val} {g : Bool → SML Val} {l : Loc} {cl cr : List LInstr}
    (hj : g jt = pure (.bool jt)) (hf : g (!jt) = mr)
    (hl : SimC c P ctx [] one ml cl) (hr : SimC c P ctx [] one mr cr) :
    SimC c P ctx [] one (ml >>= fun a => raisedAt l (asBool a) >>= g)
      (cl ++ [li l (if jt then .jumpIfTrue else .jumpIfFalse) (1 + lsize cr), li l .pop] ++ cr) := by
  rw [List.append_assoc]
  refine hl.bind fun a k st scs σ hc hsc hB => ?_
  refine (RunGoal.runs (F := fun x => endOf one x _ st scs c.budget) fun _ _ => rfl).branch hc.left hB
    (fun _ => ?_) (fun hBr => ?_)
  · rw [hj]
    exact (Reach.refl _).to_ip (by cases jt <;> ip_arith)
  · rw [hf] at hBr ⊢
    have hp : CodeAt P (k + 3) (li l .pop :: cr) := by cases jt <;> exact hc.tail3
    exact Runs.pop hp ((hr _ st scs σ hp.tail1 hsc hBr).to_ipC (by cases jt <;> ip_arith))

theorem SimC.cond {mc ma mb : SML Val} {l : Loc} {cc ca cb : List LInstr}
    (hc : SimC c P ctx [] one mc cc) (ha : SimC c P ctx [] one ma ca) (hb : SimC c P ctx [] one mb cb) :
    SimC c P ctx [] one (do let v ← mc; if ← raisedAt l (asBool v) then ma else mb)
      (cc ++ [li l .jumpIfFalse (1 + lsize ca + 3), li l .pop] ++ ca ++ [li l .jump (1 + lsize cb), li l .pop] ++ cb) := by
  simp only [List.append_assoc]
  refine hc.bind fun v k st scs σ hcode hsc hB => ?_
  have hj : CodeAt P k (li l .jumpIfFalse (1 + lsize ca + 3) :: li l .pop :: (ca ++ ([li l .jump (1 + lsize cb), li l .pop] ++ cb))) := hcode
  have hca : CodeAt P (k + 4) (ca ++ ([li l .jump (1 + lsize cb), li l .pop] ++ cb)) := hj.tail3.tail1
  have hj2 : CodeAt P (k + 4 + lsize ca) (li l .jump (1 + lsize cb) :: li l .pop :: cb) := hca.right
  refine (RunGoal.runs (F := fun x => endOf one x _ st scs c.budget) fun _ _ => rfl).branch (jt := false) hj hB
    (fun hBb => ?_) (fun hBa => ?_)
  · exact Runs.pop (hj2.tail3.cast (by omega))
      ((hb _ st scs σ (hj2.tail3.tail1.cast (by omega)) hsc hBb).to_ipC (by ip_arith))
  · show Runs c P _ (endOf one (ma σ) _ st scs c.budget)
    refine Runs.pop hj.tail3 (Runs.andThenC (ha _ st scs σ hca.left hsc hBa) (fun va σ' h => ?_) (fun e σ' h => by rw [h]; rfl))
    rw [h]
    exact Runs.jump hj2 ((Reach.refl _).to_ip (by ip_arith))

theorem SimC.len_peek {l : Loc} (a : Val) :
    SimC c P ctx [a] (fun v => [v, a]) (raisedAt l (do pure (.int .int (← SM.lift (lengthV a))))) [li l .len] :=
  SimC.raised _ (SM.lift_map_apply (lengthV a) (Val.int .int)) fun _ _ _ _ hc hb => Runs.len hc hb.of_map

theorem SimC.len {ma : SML Val} {l : Loc} {ca : List LInstr} (ha : SimC c P ctx [] one ma ca) :
    SimC c P ctx [] one (do let v ← ma; raisedAt l (do pure (.int .int (← SM.lift (lengthV v)))))
      (ca ++ [li l .len, li l .rot, li l .pop]) :=
  ha.bind fun v => (SimC.len_peek (l := l) v).then_ (cb := [li l .rot, li l .pop]) fun _ _ _ _ _ hc =>
    Runs.rot hc (Runs.pop hc.tail1 (Reach.refl _))

/-- the upper bound `T` is computed above the sliced value, which `OpLen` reads when the bound is omitted -/
theorem SimC.slice {mx F : SML Val} {T : Val → SML Val} {l : Loc} {cx ct cf : List LInstr}
    (hx : SimC c P ctx [] one mx cx) (ht : ∀ a, SimC c P ctx [a] (fun tv => [tv, a]) (T a) ct)
    (hf : SimC c P ctx [] one F cf) :
    SimC c P ctx [] one (do let a ← mx; let tv ← T a; let fv ← F; raisedAt l (SM.lift (sliceV a fv tv)))
      (cx ++ ct ++ cf ++ [li l .slice]) := by
  rw [List.append_assoc, List.append_assoc]
  exact hx.bind fun a => (ht a).bind fun tv => (hf.under [tv, a]).bind fun fv =>
    SimC.lifted fun _ _ _ _ hc hb => Runs.slice hc hb

theorem SimC.pointer {m : Meta} {car ci : Nat} (hcar : P.consts[car]? = some (.str "array"))
    (hci : P.consts[ci]? = some (.str "i")) :
    SimC c P ctx [] one (evalLoc (specOf c) ctx (.pointer m)) [li m.loc .load car, li m.loc .load ci, li m.loc .index] := by
  have hidx : ∀ x y, SimC c P ctx [y, x] one (raisedAt m.loc (SM.lift (fetchV x y false))) [li m.loc .index] :=
    fun x y => SimC.lifted fun _ _ _ _ hc hb => Runs.index hc hb
  intro k st scs σ hc hsc hB
  cases ctx with
  | nil =>
    cases (hsc : scs = [])
    have hb : P.blame .type_ m.loc := hB _ _ σ rfl
    refine Runs.load_nil hc hcar (Runs.load_nil hc.tail3 hci ?_)
    exact Runs.index hc.tail3.tail3 (x := .nil) (y := .nil) (RBlame.err hb)
  | cons hd tl =>
    obtain ⟨sc, rest, rfl, ha, hi⟩ := hsc
    refine Runs.load hc hcar (Runs.load hc.tail3 hci ?_)
    rw [ha, hi]
    exact (hidx _ _ _ st _ σ hc.tail3.tail3 ⟨sc, rest, rfl, ha, hi⟩ hB).to_ipC (by ip_arith)

theorem SimC.nil : SimC c P ctx [] List.reverse (evalListLoc (specOf c) ctx []) [] :=
  SimC.const fun _ _ _ _ _ => Reach.refl _

theorem SimC.cons {n : Node} {ns : List Node} {c1 c2 : List LInstr} (hp : n.isPair = false)
    (hn : SimC c P ctx [] one (evalLoc (specOf c) ctx n) c1)
    (hns : SimC c P ctx [] List.reverse (evalListLoc (specOf c) ctx ns) c2) :
    SimC c P ctx [] List.reverse (evalListLoc (specOf c) ctx (n :: ns)) (c1 ++ c2) := by
  rw [evalListLoc_cons _ _ _ _ hp]
  exact hn.bind fun v => (hns.under [v]).map (v :: ·) fun vs => List.reverse_cons

theorem SimC.pair {m : Meta} {kn vn : Node} {ns : List Node} {ck cv c2 : List LInstr}
    (hk : SimC c P ctx [] one (evalLoc (specOf c) ctx kn) ck) (hv : SimC c P ctx [] one (evalLoc (specOf c) ctx vn) cv)
    (hns : SimC c P ctx [] List.reverse (evalListLoc (specOf c) ctx ns) c2) :
    SimC c P ctx [] List.reverse (evalListLoc (specOf c) ctx (.pair m kn vn :: ns)) ((ck ++ cv) ++ c2) := by
  rw [evalListLoc_pair, List.append_assoc]
  exact hk.bind fun kv => (hv.under [kv]).bind fun vv => (hns.under [vv, kv]).map (kv :: vv :: ·) fun vs => by
    rw [List.reverse_cons, List.reverse_cons, List.append_assoc]; rfl

theorem SimC.func {m : Meta} {name : String} {args : List Node} {fast : Bool} {ca : List LInstr} {kk : Nat}
    (hargs : SimC c P ctx [] List.reverse (evalListLoc (specOf c) ctx args) ca) (hg : GoodL loops args)
    (hk : P.consts[kk]? = some (.call name args.length)) :
    SimC c P ctx [] one (evalLoc (specOf c) ctx (.func m name args fast))
      (ca ++ [li m.loc (if fast then .callFast else .call) kk]) := by
  rw [evalLoc_func]
  refine hargs.bindYielded fun vs ⟨σ, σ1, hvs⟩ => ?_
  rw [← evalListLoc_length _ args hg _ _ _ hvs] at hk
  refine SimC.raised _ (callTail_apply _ _ name vs) fun _ _ _ _ hc hb => ?_
  cases fast
  · exact Runs.call (.inl rfl) hc hk hb
  · exact Runs.call (.inr rfl) hc hk hb

theorem SimC.method {m : Meta} {x : Node} {name : String} {args : List Node} {nilsafe : Bool} {cx ca : List LInstr}
    {kk : Nat} (hx : SimC c P ctx [] one (evalLoc (specOf c) ctx x) cx)
    (hargs : SimC c P ctx [] List.reverse (evalListLoc (specOf c) ctx args) ca) (hg : GoodL loops args)
    (hk : P.consts[kk]? = some (.call name args.length)) :
    SimC c P ctx [] one (evalLoc (specOf c) ctx (.method m x name args nilsafe))
      (cx ++ ca ++ [li m.loc (if nilsafe then .methodNilSafe else .method) kk]) := by
  rw [evalLoc_method, List.append_assoc]
  refine hx.bind fun obj => (hargs.under [obj]).bindYielded fun vs ⟨σ, σ1, hvs⟩ => ?_
  rw [← evalListLoc_length _ args hg _ _ _ hvs] at hk
  refine SimC.raised _ (method_tail _ nilsafe obj name vs) fun k st _ _ hc hb => ?_
  rw [List.append_assoc]
  cases nilsafe
  · exact Runs.method (.inl ⟨rfl, rfl⟩) hc hk hb
  · exact Runs.method (.inr ⟨rfl, rfl⟩) hc hk hb

theorem SimC.array {m : Meta} {xs : List Node} {cx : List LInstr} {kk : Nat}
    (hxs : SimC c P ctx [] List.reverse (evalListLoc (specOf c) ctx xs) cx) (hg : GoodL loops xs)
    (hk : P.consts[kk]? = some (.int .int xs.length)) :
    SimC c P ctx [] one (evalLoc (specOf c) ctx (.array m xs)) (cx ++ [li m.loc .push kk, li m.loc .array]) := by
  rw [evalLoc_array]
  refine hxs.bindYielded fun vs ⟨σ, σ1, hvs⟩ => ?_
  rw [← evalListLoc_length _ xs hg _ _ _ hvs] at hk
  exact SimC.raised _ (alloc_tail _ vs.length (.arr .iface vs)) fun _ _ _ _ hc hb =>
    Runs.push hc hk (Runs.array hc.tail3 hb)

theorem SimC.mapLit {m : Meta} {ps : List Node} {cx : List LInstr} {kk : Nat}
    (hps : SimC c P ctx [] List.reverse (evalListLoc (specOf c) ctx ps) cx) (hg : GoodP loops ps)
    (hk : P.consts[kk]? = some (.int .int ps.length)) :
    SimC c P ctx [] one (evalLoc (specOf c) ctx (.map m ps)) (cx ++ [li m.loc .push kk, li m.loc .map]) := by
  rw [evalLoc_map]
  refine hps.bindYielded fun flat ⟨σ, σ1, hvs⟩ => ?_
  have hlen := evalListLoc_length_pairs _ ps hg _ _ _ hvs
  refine SimC.raised _ (map_tail _ ps.length flat) fun k st scs σ hc hb => Runs.push hc hk ?_
  have hm := Runs.map (c := c) (st := st) (scs := scs) (σ := σ) (lim := c.budget) hc.tail3 hlen
  revert hb hm
  cases buildMap flat with
  | error e =>
    dsimp only
    exact fun hb hm => hm (fun _ he => hb _ (by cases he; rfl)) (fun _ h => by cases h)
  | ok mp =>
    dsimp only
    exact fun hb hm => hm (fun _ h => by cases h) (fun _ _ hge => hb _ (if_pos hge))

end ExprModel.Refine
