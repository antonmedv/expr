import ExprModel.Proofs.SoundFrag
/-
Node lemmas of the extended fragment over collections: `#`, indexing, `len`, `in`, `..`, and the collection builtins
`all any none one count filter map` with their closures and loops.
Tolerated failures: division by zero, index out of range, memory budget.
-/
namespace ExprModel
open Spec

variable {E : ErrClass → Prop}

theorem spec_pointer (hi : E .index) (cfg : CheckCfg) (c : SCfg) (cs : List OTy) (m : Meta) :
    SpecS E (CtxFor cs) cfg c cs (.pointer m) := by
  intro τ V hs hV ctx hctx
  have hrule : pointerRule cs = .ok τ := toOption'_some (by simpa only [synth] using hs)
  simp only [annot]
  show SMOK E _ (eval c ctx (.pointer _))
  rw [Spec.eval_pointer]
  cases cs with
  | nil => simp [pointerRule] at hrule
  | cons ct rest =>
    cases ctx with
    | nil => exact absurd hctx (by simp [CtxFor])
    | cons cv ctx' =>
      obtain ⟨coll, i⟩ := cv
      obtain ⟨Vc, hVc, hcoll, harr⟩ := hctx
      have hnum : NumOf (Val.int .int i) Kind.int := ⟨i, rfl⟩
      rcases VTy.isColl_cases hcoll with ⟨k, rfl⟩ | ⟨et, rfl⟩
      · obtain ⟨_, et, hidx, hek, hes⟩ := slice_type_facts (vtyOf_inv hVc)
        simp only [pointerRule, hidx] at hrule
        cases hrule
        rw [vtyOf_scalar hes, hek] at hV
        cases hV
        exact smok_lift (fetchV_arr hi harr hnum)
      · obtain ⟨_, hidx, hobj⟩ := slo_facts hVc
        simp only [pointerRule, hidx] at hrule
        cases hrule
        rw [hobj] at hV
        cases hV
        exact smok_lift (fetch_slo hi harr hnum)

theorem spec_index_gen {P : Ctx → Prop} (cfg : CheckCfg) (c : SCfg) (cs : List OTy) (m : Meta) (x i : Node)
    (ihx : SpecS E P cfg c cs x) (ihi : SpecS E P cfg c cs i)
    (hxi : ∀ t it, synth cfg cs x = some t → synth cfg cs i = some it →
      ∃ Vx Vi, vtyOf t = some Vx ∧ vtyOf it = some Vi ∧
        ∀ τ V a b, synth cfg cs (.index m x i) = some τ → vtyOf τ = some V → ValOfV a Vx → ValOfV b Vi →
          ROK E (fun v => ValOfV v V) (fetchV a b false)) :
    SpecS E P cfg c cs (.index m x i) := by
  intro τ V hs hV
  obtain ⟨t, it, hsx, hsi, _⟩ := synth_index_some hs
  obtain ⟨Vx, Vi, hVx, hVi, hf⟩ := hxi t it hsx hsi
  intro ctx hctx
  rw [annot]
  show SMOK E _ (eval c ctx (.index _ _ _))
  rw [Spec.eval_index]
  exact smok_bind (ihx t Vx hsx hVx ctx hctx) fun a ha =>
    smok_bind (ihi it Vi hsi hVi ctx hctx) fun b hb => smok_lift (hf τ V a b hs hV ha hb)

theorem spec_index {P : Ctx → Prop} (hi : E .index) (cfg : CheckCfg) (c : SCfg) (cs : List OTy) (m : Meta) (x i : Node)
    (ihx : SpecS E P cfg c cs x) (ihi : SpecS E P cfg c cs i)
    (hx : sliceOK (synth cfg cs x) = true) (hidx : intOK (synth cfg cs i) = true) :
    SpecS E P cfg c cs (.index m x i) := by
  refine spec_index_gen cfg c cs m x i ihx ihi fun t it hsx hsi => ?_
  obtain ⟨k, hk⟩ := sliceOK_elim hx hsx
  obtain ⟨his, hii⟩ := intOK_elim hidx hsi
  obtain ⟨ki, hki, _⟩ := (isIntegerT_scalar his).1 hii
  refine ⟨.sl k, .sc (.num ki), vtyOf_slice_of hk, by rw [vtyOf_scalar his, hki], fun τ V a b hs hV ha hb => ?_⟩
  obtain ⟨t', it', hsx', _, hrule⟩ := synth_index_some hs
  cases hsx.symm.trans hsx'
  obtain ⟨_, et, hidxT, hek, hes⟩ := slice_type_facts hk
  obtain rfl : τ = et := by
    unfold indexRule at hrule
    rw [hidxT] at hrule
    dsimp only at hrule
    split at hrule
    · cases hrule
    · cases hrule
      rfl
  rw [vtyOf_scalar hes, hek] at hV
  cases hV
  exact fetchV_arr hi ha hb

theorem spec_index_any {P : Ctx → Prop} (hi : E .index) (cfg : CheckCfg) (c : SCfg) (cs : List OTy) (m : Meta) (x i : Node)
    (ihx : SpecS E P cfg c cs x) (ihi : SpecS E P cfg c cs i)
    (h : idxAnyOK (synth cfg cs x) (synth cfg cs i) (synth cfg cs (.index m x i)) = true) :
    SpecS E P cfg c cs (.index m x i) := by
  refine spec_index_gen cfg c cs m x i ihx ihi fun t it hsx hsi => ?_
  obtain ⟨τ0, Vx, Vi, Vr, hr, hVx, hVi, hVr, hcase⟩ := idxAnyOK_elim h hsx hsi
  refine ⟨Vx, Vi, hVx, hVi, fun τ V a b hτ hV ha hb => ?_⟩
  cases hr.symm.trans hτ
  cases hVr.symm.trans hV
  rcases idxAnyV_cases hcase with ⟨rfl, ⟨k, rfl⟩, rfl⟩ | ⟨rfl, rfl, rfl⟩ | ⟨et, rfl, ⟨k, rfl⟩, rfl⟩
  · exact fetch_anys hi ha hb
  · exact fetch_mapAny false ha hb
  · exact fetch_slo hi ha hb

theorem lengthV_ok {v : Val} {V : VTy} (hV : (V == .sc .string || V.isSlice || V == .mapAny) = true) (hv : ValOfV v V) :
    ∃ n, lengthV v = .ok n := by
  simp only [Bool.or_eq_true, beq_iff_eq] at hV
  rcases hV with (rfl | hsl) | rfl
  · obtain ⟨x, rfl⟩ := hv; exact ⟨_, rfl⟩
  · obtain ⟨et, xs, rfl⟩ := arr_of_sliceV hsl hv; exact ⟨_, rfl⟩
  · obtain ⟨kvs, rfl⟩ := hv; exact ⟨_, rfl⟩

theorem spec_len {P : Ctx → Prop} (cfg : CheckCfg) (c : SCfg) (cs : List OTy) (m : Meta) (a : Node)
    (iha : SpecS E P cfg c cs a) (ha : lenOK (synth cfg cs a) = true) :
    SpecS E P cfg c cs (.builtin m "len" [a]) := by
  intro τ V hs hV
  obtain ⟨_, pt, hsa, hrule⟩ := synth_builtin1_some hs
  obtain ⟨Va, hVa, hshape⟩ := vtyB_elim ha hsa
  obtain rfl : τ = intTy := by
    unfold lenRule at hrule
    split at hrule
    · cases hrule
      rfl
    · cases hrule
  cases hV.symm.trans (by decide : vtyOf intTy = some (.sc (.num .int)))
  intro ctx hctx
  rw [annot]
  show SMOK E _ (eval c ctx (.builtin _ "len" [_]))
  rw [Spec.eval_len]
  refine smok_bind (iha pt Va hsa hVa ctx hctx) fun v hv => ?_
  obtain ⟨n, hn⟩ := lengthV_ok hshape hv
  rw [hn]
  exact smok_pure ⟨n, rfl⟩

/-- the condition `h` is `inOK`'s, at the operands' value types -/
theorem inV_ok {a b : Val} {Vl Vr : VTy} {rt : OTy} (hVr : vtyOf rt = some Vr)
    (h : (Vr.isSlice || (Vl == .sc .string && (Vr == .mapAny || Vr == .obj rt))) = true)
    (ha : ValOfV a Vl) (hb : ValOfV b Vr) : ∃ res, inV a b = .ok res := by
  simp only [Bool.or_eq_true, Bool.and_eq_true, beq_iff_eq] at h
  rcases h with hs | ⟨rfl, rfl | rfl⟩
  · obtain ⟨et, xs, rfl⟩ := arr_of_sliceV hs hb
    exact ⟨_, rfl⟩
  · obtain ⟨kvs, rfl⟩ := hb
    obtain ⟨k, rfl⟩ := ha
    exact ⟨_, rfl⟩
  · obtain ⟨k, rfl⟩ := ha
    obtain ⟨nm, p, fs, rfl, _, _⟩ := (valOfV_obj_iff hVr b).1 hb
    exact ⟨_, rfl⟩

theorem spec_in {P : Ctx → Prop} (cfg : CheckCfg) (c : SCfg) (cs : List OTy) (m : Meta) (op : String) (l r : Node)
    (hop : op = "in" ∨ op = "not in")
    (ihl : SpecS E P cfg c cs l) (ihr : SpecS E P cfg c cs r)
    (hlr : inOK (synth cfg cs l) (synth cfg cs r) = true) :
    SpecS E P cfg c cs (.binary m op l r) := by
  refine spec_binaryV cfg cs c m op l r ihl ihr fun lt rt τ V hsl hsr hrule hV => ?_
  rw [hsl, hsr] at hlr
  simp only [inOK] at hlr
  split at hlr
  case h_2 => cases hlr
  next Vl Vr hVl hVr =>
  have hτ : τ = boolTy := by
    rcases hop with rfl | rfl <;> simp [binaryRule] at hrule <;> split at hrule <;>
      first | (cases hrule; rfl) | cases hrule
  subst hτ
  have : vtyOf boolTy = some (.sc .bool) := by decide
  rw [this] at hV; cases hV
  refine ⟨Vl, Vr, hVl, hVr, fun ctx m' l' r' _ _ ev1 ev2 => ?_⟩
  have tail : ∀ (f : Bool → Bool) a b, ValOfV a Vl → ValOfV b Vr →
      SMOK E (fun v => ValOfV v (.sc .bool)) (SM.lift (inV a b) >>= fun x => pure (Val.bool (f x))) := by
    intro f a b ha hb
    obtain ⟨res, hres⟩ := inV_ok hVr hlr ha hb
    rw [hres]
    exact smok_pure ⟨_, rfl⟩
  rcases hop with rfl | rfl
  · exact smok_strict ev1 ev2 (Spec.eval_in c ctx m' l' r') (tail id)
  · exact smok_strict ev1 ev2 (by simp only [eval_strict c ctx m' (op := "not in") rfl, Refine.binTail_notin]) (tail not)

theorem rangeElems_ints (lo hi : Int) : ∀ x ∈ rangeElems lo hi, ValOfK x (.num .int) := by
  intro x hx
  unfold rangeElems at hx
  split at hx
  · cases hx
  · obtain ⟨i, _, rfl⟩ := List.mem_map.1 hx
    exact ⟨_, rfl⟩

theorem spec_range {P : Ctx → Prop} (hb : E .budget) (cfg : CheckCfg) (c : SCfg) (cs : List OTy) (m : Meta) (l r : Node)
    (ihl : SpecS E P cfg c cs l) (ihr : SpecS E P cfg c cs r)
    (hl : scalarOK (synth cfg cs l) = true) (hr : scalarOK (synth cfg cs r) = true) :
    SpecS E P cfg c cs (.binary m ".." l r) := by
  refine spec_binaryV cfg cs c m ".." l r ihl ihr fun lt rt τ V hsl hsr hrule hV => ?_
  have hls := scalarOK_elim hl hsl
  have hrs := scalarOK_elim hr hsr
  simp [binaryRule] at hrule
  split at hrule
  · rename_i hc
    cases hrule
    obtain ⟨ka, k1, _⟩ := (isIntegerT_scalar hls).1 hc.1
    obtain ⟨kb, k2, _⟩ := (isIntegerT_scalar hrs).1 hc.2
    have : vtyOf (some (Ty.slice (Ty.num Kind.int))) = some (.sl (.num .int)) := by decide
    rw [this] at hV; cases hV
    refine ⟨_, _, vtyOf_scalar hls, vtyOf_scalar hrs, fun ctx m' l' r' _ _ ev1 ev2 => ?_⟩
    refine smok_strict ev1 ev2 (Spec.eval_range c ctx m' l' r') fun a b ha hb' => ?_
    rw [k1] at ha; rw [k2] at hb'
    obtain ⟨lo, hlo⟩ := toIntR_num ha
    obtain ⟨hi', hhi⟩ := toIntR_num hb'
    rw [hlo, hhi]
    show SMOK E (fun v => ValOfV v (.sl (.num .int)))
      (SM.allocBefore c.budget _ (rangeElems lo hi').length >>= fun _ => pure (Val.arr (.num .int) (rangeElems lo hi')))
    exact smok_bind (smok_allocBefore hb _ _ _) fun _ _ =>
      smok_pure (Q := fun v => ValOfV v (.sl (.num .int))) ⟨_, _, rfl, rfl, rangeElems_ints lo hi'⟩
  · cases hrule

def StepOK {α : Type} (E : ErrClass → Prop) (Inv : α → Prop) (Res : Val → Prop) (r : R (α ⊕ Val)) : Prop :=
  match r with
  | .ok (.inl a') => Inv a'
  | .ok (.inr v) => Res v
  | .error e => E e

def ResOK (E : ErrClass → Prop) (Res : Val → Prop) (r : R Val) : Prop :=
  match r with
  | .ok v => Res v
  | .error e => E e

theorem stepOK_iff {α : Type} {Inv : α → Prop} {Res : Val → Prop} {r : R (α ⊕ Val)} :
    StepOK E Inv Res r ↔ ROK E (StepQ Inv Res) r := by
  cases r with
  | error e => exact Iff.rfl
  | ok x => cases x <;> exact Iff.rfl

def loopThen {α : Type} (body : Nat → α → SM (α ⊕ Val)) (fuel : Nat) (acc0 : α) (fin : α → SM Val) : SM Val :=
  fun s =>
    match loopIdx body fuel 0 acc0 s with
    | (.ok r, s') =>
      (match r with
        | .inl a => fin a
        | .inr v => pure v) s'
    | (.error e, s') => (.error e, s')

theorem loopThen_spec {α : Type} (Inv : α → Prop) (Res : Val → Prop) (body : Nat → α → SM (α ⊕ Val))
    (hbody : ∀ i acc s, Inv acc → StepOK E Inv Res (body i acc s).1)
    (fuel : Nat) (acc0 : α) (h0 : Inv acc0) (fin : α → SM Val)
    (hfin : ∀ a s, Inv a → ResOK E Res (fin a s).1) (s : SState) :
    ResOK E Res (loopThen body fuel acc0 fin s).1 := by
  have hl := smok_loopIdx (E := E) Inv Res body (fun i acc h s => stepOK_iff.1 (hbody i acc s h)) fuel 0 acc0 h0 s
  unfold loopThen
  rcases hL : loopIdx body fuel 0 acc0 s with ⟨r, s'⟩
  rw [hL] at hl
  cases r with
  | error e => exact hl
  | ok x =>
    cases x with
    | inl a => exact hfin a s' hl
    | inr v => exact hl

theorem smok_collLoop {α : Type} {Va : VTy} (hVa : Va.isColl = true) {ma : SM Val}
    (ha : SMOK E (fun v => ValOfV v Va) ma) (Inv : α → Prop) (Res : Val → Prop) {Q : Val → Prop}
    {body : Val → Nat → α → SM (α ⊕ Val)} {acc0 : α} (h0 : Inv acc0) {k : Int → α ⊕ Val → SM Val}
    (hbody : ∀ coll, ValOfV coll Va → ∀ i acc, Inv acc → SMOK E (StepQ Inv Res) (body coll i acc))
    (hk : ∀ n r, StepQ Inv Res r → SMOK E Q (k n r)) :
    SMOK E Q (ma >>= fun coll => SM.lift (lengthV coll) >>= fun n => loopIdx (body coll) n.toNat 0 acc0 >>= k n) := by
  refine smok_loop ha (fun coll hc => ?_) Inv Res h0 hbody hk
  obtain ⟨et, xs, rfl⟩ := arr_of_sliceV (VTy.isSlice_of_isColl hVa) hc
  trivial

def isPredBuiltin (name : String) : Bool :=
  name == "all" || name == "none" || name == "any" || name == "one" || name == "count"

theorem isPredBuiltin_cases {name : String} (h : isPredBuiltin name = true) :
    name = "all" ∨ name = "none" ∨ name = "any" ∨ name = "one" ∨ name = "count" := by
  simpa [isPredBuiltin, or_assoc] using h

theorem spec_collBuiltin_gen (cfg : CheckCfg) (c : SCfg) (cs : List OTy) (m mc : Meta) (name : String) (a b : Node)
    (iha : SpecS E (CtxFor cs) cfg c cs a)
    (ihb : ∀ coll, synth cfg cs a = some coll → SpecS E (CtxFor (coll :: cs)) cfg c (coll :: cs) b)
    (ha : collOK (synth cfg cs a) = true)
    (hb : ∀ coll bt, synth cfg cs a = some coll → synth cfg (coll :: cs) b = some bt → ∃ Vb, vtyOf bt = some Vb)
    (hev : ∀ (coll : OTy) (bt : Ty) (τ : OTy) (V Va Vb : VTy) (a' b' : Node) (m' mc' : Meta),
      synth cfg cs a = some coll → synth cfg (coll :: cs) b = some (some bt) →
      Va.isColl = true → vtyOf (some bt) = some Vb →
      collBuiltinRule cfg.dt name coll (closureType bt) = .ok τ → vtyOf τ = some V → ∀ ctx,
      SMOK E (fun v => ValOfV v Va) (eval c ctx a') →
      (∀ collv, ValOfV collv Va → ∀ i, SMOK E (fun v => ValOfV v Vb) (eval c ((collv, i) :: ctx) b')) →
      SMOK E (fun v => ValOfV v V) (eval c ctx (.builtin m' name [a', .closure mc' b']))) :
    SpecS E (CtxFor cs) cfg c cs (.builtin m name [a, .closure mc b]) := by
  intro τ V hs hV
  obtain ⟨_, coll, cl, hsa, _, hsc, hrule⟩ := synth_builtin2_some hs
  obtain ⟨bto, hsb, hcl⟩ := synth_closure_some hsc
  obtain ⟨Va, hk, hVa⟩ := vtyB_elim ha hsa
  obtain ⟨Vb, hVb⟩ := hb coll bto hsa hsb
  rcases hcl with ⟨bt, rfl, rfl⟩ | ⟨rfl, _, _⟩
  · intro ctx hctx
    simp only [annot, tyOf_some hsa]
    show SMOK E _ (eval c ctx (.builtin _ name [_, .closure _ _]))
    exact hev coll bt τ V Va Vb _ _ _ _ hsa hsb hVa hVb hrule hV ctx (iha coll Va hsa hk ctx hctx)
      fun collv hcv i => ihb coll hsa _ Vb hsb hVb _ ⟨Va, hk, hVa, hcv⟩
  · -- a closure body of the nil type has no value type
    cases hVb

theorem smok_predBuiltin {c : SCfg} {dt : TDefects} {name : String} (hname : isPredBuiltin name = true) {coll : OTy}
    {bt : Ty} {τ : OTy} {V Va : VTy} {a' b' : Node} (m' mc' : Meta) (hbs : ScalarT (some bt))
    (hVa : Va.isColl = true) (hrule : collBuiltinRule dt name coll (closureType bt) = .ok τ) (hV : vtyOf τ = some V)
    (ctx : Ctx) (hA : SMOK E (fun v => ValOfV v Va) (eval c ctx a'))
    (hB : ∀ collv, ValOfV collv Va → ∀ i, SMOK E (fun v => ValOfV v (.sc (OTy.kind (some bt)))) (eval c ((collv, i) :: ctx) b')) :
    SMOK E (fun v => ValOfV v V) (eval c ctx (.builtin m' name [a', .closure mc' b'])) := by
  have hshape : collBuiltinRule dt name coll (closureType bt) =
      (if !isBoolT (some bt) then Except.error CheckErrClass.closureNotBool
       else if name == "count" then Except.ok intTy else Except.ok boolTy) := by
    rcases isPredBuiltin_cases hname with rfl | rfl | rfl | rfl | rfl <;>
      simp (config := {decide := true}) [collBuiltinRule, closureType, interfaceType]
  rw [hshape] at hrule
  cases hbool : isBoolT (some bt) with
  | false => rw [hbool] at hrule; cases hrule
  | true =>
    rw [hbool] at hrule
    rw [(isBoolT_scalar hbs).1 hbool] at hB
    have hbool' : vtyOf boolTy = some (.sc .bool) := by decide
    have hint : vtyOf intTy = some (.sc (.num .int)) := by decide
    have step : ∀ {β : Type} (Q : β → Prop) (x y : β), Q x → Q y → ∀ collv, ValOfV collv Va → ∀ i : Nat,
        SMOK E Q (do if ← asBool (← eval c ((collv, (i : Int)) :: ctx) (.closure mc' b')) then pure x else pure y) :=
      fun Q x y hx hy collv hc i => smok_ifBool (hB collv hc _) (smok_pure hx) (smok_pure hy)
    rcases isPredBuiltin_cases hname with rfl | rfl | rfl | rfl | rfl
    · cases hrule
      rw [hbool'] at hV; cases hV
      rw [Spec.eval_builtin_all]
      exact smok_collLoop hVa hA (fun _ : Unit => True) (fun v => ValOfK v .bool) trivial
        (fun collv hc i _ _ => step _ _ _ trivial ⟨_, rfl⟩ collv hc i)
        fun n r hr => by cases r <;> first | exact smok_pure ⟨_, rfl⟩ | exact smok_pure hr
    · cases hrule
      rw [hbool'] at hV; cases hV
      rw [Spec.eval_builtin_none]
      exact smok_collLoop hVa hA (fun _ : Unit => True) (fun v => ValOfK v .bool) trivial
        (fun collv hc i _ _ => step _ _ _ ⟨_, rfl⟩ trivial collv hc i)
        fun n r hr => by cases r <;> first | exact smok_pure ⟨_, rfl⟩ | exact smok_pure hr
    · cases hrule
      rw [hbool'] at hV; cases hV
      rw [Spec.eval_builtin_any]
      exact smok_collLoop hVa hA (fun _ : Unit => True) (fun v => ValOfK v .bool) trivial
        (fun collv hc i _ _ => step _ _ _ ⟨_, rfl⟩ trivial collv hc i)
        fun n r hr => by cases r <;> first | exact smok_pure ⟨_, rfl⟩ | exact smok_pure hr
    · cases hrule
      rw [hbool'] at hV; cases hV
      rw [Spec.eval_builtin_one]
      exact smok_collLoop hVa hA (fun _ : Int => True) (fun _ => False) trivial
        (fun collv hc i k _ => step (StepQ (fun _ : Int => True) (fun _ => False)) (.inl (k + 1)) (.inl k) trivial trivial collv hc i)
        fun n r hr => by cases r <;> first | exact smok_pure ⟨_, rfl⟩ | exact absurd hr id
    · cases hrule
      rw [hint] at hV; cases hV
      rw [Spec.eval_builtin_count]
      exact smok_collLoop hVa hA (fun _ : Int => True) (fun _ => False) trivial
        (fun collv hc i k _ => step (StepQ (fun _ : Int => True) (fun _ => False)) (.inl (k + 1)) (.inl k) trivial trivial collv hc i)
        fun n r hr => by cases r <;> first | exact smok_pure ⟨_, rfl⟩ | exact absurd hr id

/-- `filter(xs, {p})` and `map(xs, {e})` when the checker reports `[]interface{}` for them (the documented
rule, `staticSliceOf = false`): the value is a `[]interface{}`.  With the rule of the code as it is
(`[]T`, known finding) the static type claims an element tag the value does not have. -/
theorem smok_filterMap (hi : E .index) (hbud : E .budget) {c : SCfg} {dt : TDefects} {name : String}
    (hname : name = "filter" ∨ name = "map") (hdt : dt.staticSliceOf = false) {coll : OTy} {bt : Ty} {τ : OTy}
    {V Va Vb : VTy} {a' b' : Node} (m' mc' : Meta) (hfs : name = "filter" → ScalarT (some bt))
    (hVa : Va.isColl = true) (hVb : vtyOf (some bt) = some Vb)
    (hrule : collBuiltinRule dt name coll (closureType bt) = .ok τ) (hV : vtyOf τ = some V)
    (ctx : Ctx) (hA : SMOK E (fun v => ValOfV v Va) (eval c ctx a'))
    (hB : ∀ collv, ValOfV collv Va → ∀ i, SMOK E (fun v => ValOfV v Vb) (eval c ((collv, i) :: ctx) b')) :
    SMOK E (fun v => ValOfV v V) (eval c ctx (.builtin m' name [a', .closure mc' b'])) := by
  have hshape : collBuiltinRule dt name coll (closureType bt) =
      (if name == "map" then Except.ok arrayTy
       else if !isBoolT (some bt) then Except.error CheckErrClass.closureNotBool else Except.ok arrayTy) := by
    rcases hname with rfl | rfl <;>
      simp (config := {decide := true}) [collBuiltinRule, closureType, interfaceType, hdt]
  rw [hshape] at hrule
  have hanys : vtyOf arrayTy = some .anys := by decide
  have fin : ∀ (cnt : List Val → Int) (r : List Val ⊕ Val), StepQ (fun _ : List Val => True) (fun _ => False) r →
      SMOK E (fun v => ValOfV v .anys) (match r with
        | .inl acc => do SM.allocAfter c.budget (cnt acc) acc.length; pure (.arr .iface acc.reverse)
        | .inr v => pure v) := by
    intro cnt r hr
    cases r with
    | inr v => exact absurd hr id
    | inl acc => exact smok_bind (smok_allocAfter hbud _ _ _) fun _ _ => smok_pure ⟨_, rfl⟩
  rcases hname with rfl | rfl
  · simp (config := {decide := true}) only [if_false] at hrule
    cases hbool : isBoolT (some bt) with
    | false => rw [hbool] at hrule; cases hrule
    | true =>
      rw [hbool] at hrule
      cases hrule
      rw [hanys] at hV; cases hV
      rw [vtyOf_scalar (hfs rfl), (isBoolT_scalar (hfs rfl)).1 hbool] at hVb
      cases hVb
      rw [Spec.eval_builtin_filter]
      refine smok_collLoop hVa hA (fun _ : List Val => True) (fun _ => False) trivial (fun collv hc i acc _ => ?_)
        fun n r hr => fin (fun acc => acc.length) r hr
      obtain ⟨et, xs, rfl⟩ := arr_of_sliceV (VTy.isSlice_of_isColl hVa) hc
      refine smok_ifBool (hB _ hc _) ?_ (smok_pure (Q := StepQ _ _) trivial)
      have hnum : NumOf (Val.int Kind.int (i : Int)) Kind.int := ⟨(i : Int), rfl⟩
      -- the index is made a variable first: at the literal `Val.int .int ↑i` unification evaluates `fetchV` and runs out of
      -- recursion depth
      revert hnum
      generalize Val.int Kind.int (i : Int) = bidx
      intro hnum
      exact smok_bind (smok_lift (fetchV_arr_gen (fun _ => True) hi (fun _ _ => trivial) hnum)) fun el _ => smok_pure (Q := StepQ _ _) trivial
  · simp (config := {decide := true}) only [if_true] at hrule
    cases hrule
    rw [hanys] at hV; cases hV
    rw [Spec.eval_builtin_map]
    exact smok_collLoop hVa hA (fun _ : List Val => True) (fun _ => False) trivial
      (fun collv hc i acc _ => smok_bind (hB collv hc _) fun v _ => smok_pure (Q := StepQ _ _) trivial)
      fun n r hr => fin (fun _ => n) r hr

/-- `hname`, `hdt`, `hbody` are the conditions of `inFrag2` and `typed2` as they stand there -/
theorem spec_collBuiltin (hi : E .index) (hbud : E .budget) (cfg : CheckCfg) (c : SCfg) (cs : List OTy) (m mc : Meta)
    (name : String) (a b : Node) (hname : (isPredBuiltin name || name == "filter" || name == "map") = true)
    (hdt : (isPredBuiltin name || !cfg.dt.staticSliceOf) = true) (iha : SpecS E (CtxFor cs) cfg c cs a)
    (ihb : ∀ coll, synth cfg cs a = some coll → SpecS E (CtxFor (coll :: cs)) cfg c (coll :: cs) b)
    (ha : collOK (synth cfg cs a) = true)
    (hbody : ∀ coll, synth cfg cs a = some coll →
      (if name == "map" then vtyOK (synth cfg (coll :: cs) b) else scalarOK (synth cfg (coll :: cs) b)) = true) :
    SpecS E (CtxFor cs) cfg c cs (.builtin m name [a, .closure mc b]) := by
  by_cases hp : isPredBuiltin name = true
  · have hnm : (name == "map") = false := by
      rcases isPredBuiltin_cases hp with rfl | rfl | rfl | rfl | rfl <;> decide
    have hsc : ∀ coll bt, synth cfg cs a = some coll → synth cfg (coll :: cs) b = some bt → ScalarT bt := by
      intro coll bt hc hb'
      have := hbody coll hc
      rw [hnm, hb'] at this
      exact this
    refine spec_collBuiltin_gen cfg c cs m mc name a b iha ihb ha
      (fun coll bt hc hb' => ⟨_, vtyOf_scalar (hsc coll bt hc hb')⟩) ?_
    intro coll bt τ V Va Vb a' b' m' mc' hc hb' hVa hVb hrule hV ctx hA hB
    have hbs := hsc coll _ hc hb'
    rw [vtyOf_scalar hbs] at hVb
    cases hVb
    exact smok_predBuiltin hp m' mc' hbs hVa hrule hV ctx hA hB
  · have hfm : name = "filter" ∨ name = "map" := by
      simp only [hp, Bool.false_or, Bool.or_eq_true, beq_iff_eq] at hname
      exact hname
    have hdt' : cfg.dt.staticSliceOf = false := by
      simp only [hp, Bool.false_or] at hdt
      simpa using hdt
    have hbt : ∀ coll bt, synth cfg cs a = some coll → synth cfg (coll :: cs) b = some bt →
        (∃ Vb, vtyOf bt = some Vb) ∧ (name = "filter" → ScalarT bt) := by
      intro coll bt hc hb'
      have h1 := hbody coll hc
      rw [hb'] at h1
      rcases hfm with rfl | rfl
      · simp (config := {decide := true}) only [if_false] at h1
        exact ⟨⟨_, vtyOf_scalar h1⟩, fun _ => h1⟩
      · simp (config := {decide := true}) only [if_true] at h1
        exact ⟨Option.isSome_iff_exists.1 h1, fun h => absurd h (by decide)⟩
    refine spec_collBuiltin_gen cfg c cs m mc name a b iha ihb ha (fun coll bt hc hb' => (hbt coll bt hc hb').1) ?_
    intro coll bt τ V Va Vb a' b' m' mc' hc hb' hVa hVb hrule hV ctx hA hB
    exact smok_filterMap hi hbud hfm hdt' m' mc' (hbt coll _ hc hb').2 hVa hVb hrule hV ctx hA hB

end ExprModel
