import ExprModel.Proofs.OptRel
/-
C02: simulation between syntax trees and its congruence.

`Sim c n' n`: the tree `n'` may stand for `n` in every context — same annotation, same literal-ness
where the evaluator looks at the syntax (regexp patterns, map pairs), and `eval c ctx n'` simulates
`eval c ctx n` (`RelM`) in every closure context.

The evaluation part of each congruence lemma is the `Spec.cong_…` lemma of its node kind at `relMRel`
(`Proofs/SpecCong.lean`), and reflexivity (`sim_refl`) is `Spec.eval_cong` there; what is proved here are the side
conditions of `Sim`.
-/
namespace ExprModel
namespace OptProofs
open Spec
open Refine (patOf)

def strLit : Node → Option String
  | .str _ s => some s
  | _ => none

mutual
/-- a `matches` node carrying a pre-compiled regexp has a string literal as its right operand (parser.go compiles
    the regexp only for a literal pattern): a hypothesis of the transparency theorems -/
def reOK : Node → Bool
  | .nil _ | .ident .. | .int .. | .float .. | .bool .. | .str .. | .const .. | .pointer _ => true
  | .unary _ _ x => reOK x
  | .binary _ _ l r => reOK l && reOK r
  | .matches _ h l r => (!h || (strLit r).isSome) && reOK l && reOK r
  | .prop _ x _ _ => reOK x
  | .index _ x i => reOK x && reOK i
  | .slice _ x f t => reOK x && reOKOpt f && reOKOpt t
  | .method _ x _ args _ => reOK x && reOKList args
  | .func _ _ args _ => reOKList args
  | .builtin _ _ args => reOKList args
  | .closure _ x => reOK x
  | .cond _ c a b => reOK c && reOK a && reOK b
  | .array _ xs => reOKList xs
  | .map _ ps => reOKList ps
  | .pair _ k v => reOK k && reOK v
def reOKList : List Node → Bool
  | [] => true
  | n :: ns => reOK n && reOKList ns
def reOKOpt : Option Node → Bool
  | none => true
  | some n => reOK n
end

/-- `lit` and `re` are there for `matches` with a pre-compiled regexp, which reads the pattern off the syntax of
    its right operand; `head` for map pairs, which are not evaluated on their own but at the head of `evalList`. -/
structure Sim (c : SCfg) (n' n : Node) : Prop where
  kd : n'.kd = n.kd
  lit : ∀ s, strLit n = some s → strLit n' = some s
  re : reOK n = true → reOK n' = true
  ev : ∀ ctx, RelM (eval c ctx n') (eval c ctx n)
  head : ∀ ctx (rest' rest : List Node), RelM (evalList c ctx rest') (evalList c ctx rest) →
    RelM (evalList c ctx (n' :: rest')) (evalList c ctx (n :: rest))

inductive SimL (c : SCfg) : List Node → List Node → Prop
  | nil : SimL c [] []
  | cons {n' n : Node} {ns' ns : List Node} : Sim c n' n → SimL c ns' ns → SimL c (n' :: ns') (n :: ns)

inductive SimO (c : SCfg) : Option Node → Option Node → Prop
  | none : SimO c none none
  | some {n' n : Node} : Sim c n' n → SimO c (some n') (some n)

variable {c : SCfg}

theorem SimL.ev {ns' ns : List Node} (h : SimL c ns' ns) : ∀ ctx, RelM (evalList c ctx ns') (evalList c ctx ns) := by
  induction h with
  | nil => exact fun _ => RelM.pure _
  | cons h _ ih => exact fun ctx => h.head ctx _ _ (ih ctx)

theorem SimL.re {ns' ns : List Node} (h : SimL c ns' ns) : reOKList ns = true → reOKList ns' = true := by
  induction h with
  | nil => exact id
  | cons h _ ih =>
    simp only [reOKList, Bool.and_eq_true]
    exact fun ⟨a, b⟩ => ⟨h.re a, ih b⟩

theorem SimO.re {o' o : Option Node} (h : SimO c o' o) : reOKOpt o = true → reOKOpt o' = true := by
  cases h with
  | none => exact id
  | some h => exact h.re

theorem SimL.length {c : SCfg} {ns' ns : List Node} (h : SimL c ns' ns) : ns'.length = ns.length := by
  induction h with
  | nil => rfl
  | cons _ _ ih => simp [ih]

theorem sim_of_ev {n' n : Node} (hp' : n'.isPair = false) (hp : n.isPair = false) (kd : n'.kd = n.kd)
    (lit : strLit n = none) (re : reOK n = true → reOK n' = true)
    (ev : ∀ ctx, RelM (eval c ctx n') (eval c ctx n)) : Sim c n' n where
  kd := kd
  lit := fun s hs => by rw [lit] at hs; cases hs
  re := re
  ev := ev
  head := fun ctx rest' rest hr => by
    rw [Spec.evalList_cons c ctx n' rest' hp', Spec.evalList_cons c ctx n rest hp]
    exact (ev ctx).bind fun _ => hr.bind fun _ => RelM.pure _

theorem sim_unary {x' x : Node} (m : Meta) (op : String) (h : Sim c x' x) : Sim c (.unary m op x') (.unary m op x) :=
  sim_of_ev rfl rfl rfl rfl (by simpa only [reOK] using h.re) fun ctx =>
    cong_unary relMRel (B' := c.budget) (h.ev ctx)

theorem sim_binary {l' l r' r : Node} (m : Meta) (op : String) (hl : Sim c l' l) (hr : Sim c r' r) :
    Sim c (.binary m op l' r') (.binary m op l r) :=
  sim_of_ev rfl rfl rfl rfl
    (by simp only [reOK, Bool.and_eq_true]; exact fun ⟨a, b⟩ => ⟨hl.re a, hr.re b⟩) fun ctx =>
    cong_binary relMRel (B' := c.budget) (hl.ev ctx) (hr.ev ctx)
      (fun a b => by rw [hl.kd, hr.kd]; exact relMRel.noAlloc (eqTail_noAlloc _ _ a b)) (relMRel_allocs c)

theorem patOf_of_lit {r' r : Node} (h : Sim c r' r) (hs : (strLit r).isSome = true) : patOf r' = patOf r := by
  cases hr : strLit r with
  | none => rw [hr] at hs; cases hs
  | some s =>
    have hr' := h.lit s hr
    cases r <;> cases hr
    cases r' <;> cases hr'
    rfl

theorem sim_matches {l' l r' r : Node} (m : Meta) (h : Bool) (hl : Sim c l' l) (hr : Sim c r' r)
    (hp : h = true → patOf r' = patOf r) : Sim c (.matches m h l' r') (.matches m h l r) :=
  sim_of_ev rfl rfl rfl rfl
    (by
      simp only [reOK, Bool.and_eq_true, Bool.or_eq_true, Bool.not_eq_true', Option.isSome_iff_exists]
      exact fun ⟨⟨a, b⟩, d⟩ => ⟨⟨a.imp id fun ⟨s, hs⟩ => ⟨s, hr.lit s hs⟩, hl.re b⟩, hr.re d⟩) fun ctx =>
    cong_matches relMRel (B' := c.budget) (hl.ev ctx) (hr.ev ctx) hp

theorem sim_prop {x' x : Node} (m : Meta) (name : String) (ns : Bool) (h : Sim c x' x) :
    Sim c (.prop m x' name ns) (.prop m x name ns) :=
  sim_of_ev rfl rfl rfl rfl (by simpa only [reOK] using h.re) fun ctx =>
    cong_prop relMRel (B' := c.budget) (h.ev ctx)

theorem sim_index {x' x i' i : Node} (m : Meta) (hx : Sim c x' x) (hi : Sim c i' i) :
    Sim c (.index m x' i') (.index m x i) :=
  sim_of_ev rfl rfl rfl rfl
    (by simp only [reOK, Bool.and_eq_true]; exact fun ⟨a, b⟩ => ⟨hx.re a, hi.re b⟩) fun ctx =>
    cong_index relMRel (B' := c.budget) (hx.ev ctx) (hi.ev ctx)

theorem SimO.bound {o' o : Option Node} (h : SimO c o' o) (ctx : Ctx) : relMRel.Bound c c.budget ctx ctx o' o := by
  cases h with
  | none => trivial
  | some h => exact h.ev ctx

theorem sim_slice {x' x : Node} {f' f t' t : Option Node} (m : Meta) (h : Sim c x' x)
    (hf : SimO c f' f) (ht : SimO c t' t) : Sim c (.slice m x' f' t') (.slice m x f t) :=
  sim_of_ev rfl rfl rfl rfl
    (by simp only [reOK, Bool.and_eq_true]; exact fun ⟨⟨a, b⟩, d⟩ => ⟨⟨h.re a, hf.re b⟩, ht.re d⟩) fun ctx =>
    cong_slice relMRel (B' := c.budget) (h.ev ctx) (hf.bound ctx) (ht.bound ctx)

theorem sim_method {x' x : Node} {as' as : List Node} (m : Meta) (name : String) (ns : Bool)
    (h : Sim c x' x) (ha : SimL c as' as) : Sim c (.method m x' name as' ns) (.method m x name as ns) :=
  sim_of_ev rfl rfl rfl rfl
    (by simp only [reOK, Bool.and_eq_true]; exact fun ⟨a, b⟩ => ⟨h.re a, ha.re b⟩) fun ctx =>
    cong_method relMRel (B' := c.budget) (h.ev ctx) (ha.ev ctx)

theorem sim_func {as' as : List Node} (m : Meta) (name : String) (fast : Bool)
    (ha : SimL c as' as) : Sim c (.func m name as' fast) (.func m name as fast) :=
  sim_of_ev rfl rfl rfl rfl (by simpa only [reOK] using ha.re) fun ctx =>
    cong_func relMRel (B' := c.budget) (ha.ev ctx)

theorem sim_closure {x' x : Node} (m : Meta) (h : Sim c x' x) : Sim c (.closure m x') (.closure m x) :=
  sim_of_ev rfl rfl rfl rfl (by simpa only [reOK] using h.re) fun ctx => h.ev ctx

theorem sim_cond {a' a b' b d' d : Node} (m : Meta) (ha : Sim c a' a) (hb : Sim c b' b) (hd : Sim c d' d) :
    Sim c (.cond m a' b' d') (.cond m a b d) :=
  sim_of_ev rfl rfl rfl rfl
    (by simp only [reOK, Bool.and_eq_true]; exact fun ⟨⟨x, y⟩, z⟩ => ⟨⟨ha.re x, hb.re y⟩, hd.re z⟩) fun ctx =>
    cong_cond relMRel (B' := c.budget) (ha.ev ctx) (hb.ev ctx) (hd.ev ctx)

theorem sim_array {xs' xs : List Node} (m : Meta) (h : SimL c xs' xs) : Sim c (.array m xs') (.array m xs) :=
  sim_of_ev rfl rfl rfl rfl (by simpa only [reOK] using h.re) fun ctx =>
    cong_array relMRel (relMRel_allocs c) (h.ev ctx)

theorem sim_map {xs' xs : List Node} (m : Meta) (h : SimL c xs' xs) : Sim c (.map m xs') (.map m xs) :=
  sim_of_ev rfl rfl rfl rfl (by simpa only [reOK] using h.re) fun ctx =>
    cong_mapLit relMRel (relMRel_allocs c) h.length (h.ev ctx)

/-- a pair fails on its own; at the head of a list (inside a map literal) key and value are evaluated in turn -/
theorem sim_pair {k' k v' v : Node} (m : Meta) (hk : Sim c k' k) (hv : Sim c v' v) :
    Sim c (.pair m k' v') (.pair m k v) where
  kd := rfl
  lit := fun _ hs => by cases hs
  re := by simp only [reOK, Bool.and_eq_true]; exact fun ⟨a, b⟩ => ⟨hk.re a, hv.re b⟩
  ev := fun _ => RelM.fail _
  head := fun ctx rest' rest hr => cong_list_pair relMRel (B' := c.budget) (hk.ev ctx) (hv.ev ctx) hr

theorem SimL.args {as' as : List Node} (h : SimL c as' as) (ctx : Ctx) : relMRel.Args c c.budget ctx ctx as' as := by
  induction h with
  | nil => exact .nil
  | cons h _ ih => exact .cons (h.ev ctx) (fun _ _ => h.ev _) ih

theorem sim_builtin {as' as : List Node} (m : Meta) (name : String) (h : SimL c as' as) :
    Sim c (.builtin m name as') (.builtin m name as) :=
  sim_of_ev rfl rfl rfl rfl (by simpa only [reOK] using h.re) fun ctx =>
    cong_builtin relMRel (B' := c.budget) (relMRel_allocs c) (h.args ctx)

/-- evaluation is monotone in the budget counter -/
theorem eval_mono (c : SCfg) (n : Node) (ctx : Ctx) : RelM (eval c ctx n) (eval c ctx n) :=
  eval_cong relMRel c c.budget (relMRel_allocs c) n ctx ctx rfl

theorem sim_refl (c : SCfg) (n : Node) : Sim c n n where
  kd := rfl
  lit := fun _ h => h
  re := id
  ev := eval_mono c n
  head := fun ctx _ _ hr => by
    cases n
    case pair m k v => exact cong_list_pair relMRel (B' := c.budget) (eval_mono c k ctx) (eval_mono c v ctx) hr
    all_goals exact cong_list_cons relMRel (B' := c.budget) rfl rfl (eval_mono c _ ctx) hr

theorem simL_refl (c : SCfg) : (ns : List Node) → SimL c ns ns
  | [] => .nil
  | n :: ns => .cons (sim_refl c n) (simL_refl c ns)

theorem simO_refl (c : SCfg) : (o : Option Node) → SimO c o o
  | none => .none
  | some n => .some (sim_refl c n)

theorem Sim.trans {a b d : Node} (h1 : Sim c a b) (h2 : Sim c b d) : Sim c a d where
  kd := h1.kd.trans h2.kd
  lit := fun s hs => h1.lit s (h2.lit s hs)
  re := fun h => h1.re (h2.re h)
  ev := fun ctx => (h1.ev ctx).trans (h2.ev ctx)
  -- `a :: r'` against `b :: r'` (the tail against itself), then `b :: r'` against `d :: r`
  head := fun ctx r' r hr => (h1.head ctx r' r' ((simL_refl c r').ev ctx)).trans (h2.head ctx r' r hr)

theorem SimL.trans {c : SCfg} {a b d : List Node} (h1 : SimL c a b) (h2 : SimL c b d) : SimL c a d := by
  induction h1 generalizing d with
  | nil => cases h2; exact .nil
  | cons x _ ih => cases h2 with | cons y t => exact .cons (x.trans y) (ih t)

end OptProofs
end ExprModel
