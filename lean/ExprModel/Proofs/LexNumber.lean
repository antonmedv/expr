import ExprModel.Proofs.LexChars
/-
Round trip of integer spellings through `parseNumber` (C12): separators, digit lists, the classification chains.

Spellings are described by their digit values (most significant first, leading zeros allowed), a choice of
letter case per hexadecimal digit, and the number of `_` written after each digit.
-/
namespace ExprModel.Lex

def ofDigitsAcc (b : Nat) : Nat → List Nat → Nat
  | acc, [] => acc
  | acc, d :: ds => ofDigitsAcc b (acc * b + d) ds

def ofDigits (b : Nat) (ds : List Nat) : Nat := ofDigitsAcc b 0 ds

def withSeps : List Char → List Nat → List Char
  | [], _ => []
  | c :: cs, [] => c :: withSeps cs []
  | c :: cs, k :: ks => c :: (List.replicate k '_' ++ withSeps cs ks)

theorem le_ofDigitsAcc (b : Nat) (hb : 0 < b) (acc : Nat) (ds : List Nat) : acc ≤ ofDigitsAcc b acc ds := by
  induction ds generalizing acc with
  | nil => exact Nat.le_refl _
  | cons d ds ih =>
    refine Nat.le_trans ?_ (ih (acc * b + d))
    calc acc = acc * 1 := (Nat.mul_one _).symm
      _ ≤ acc * b := Nat.mul_le_mul_left _ hb
      _ ≤ acc * b + d := Nat.le_add_right _ _

theorem parseUintLoop_digits (b : Nat) (hb : 0 < b) (cs : List Char) (ds : List Nat)
    (hcs : cs.map digitOf = ds.map some) (hd : ∀ d ∈ ds, d < b) (acc : Nat)
    (hv : ofDigitsAcc b acc ds ≤ maxU64) :
    parseUintLoop b acc cs = .ok (ofDigitsAcc b acc ds) := by
  induction cs generalizing ds acc with
  | nil =>
    cases ds with
    | nil => rfl
    | cons d ds => simp at hcs
  | cons c cs ih =>
    cases ds with
    | nil => simp at hcs
    | cons d ds =>
      simp only [List.map_cons, List.cons.injEq] at hcs
      have hdb : d < b := hd d (by simp)
      have hle : acc * b + d ≤ maxU64 := Nat.le_trans (le_ofDigitsAcc b hb _ ds) hv
      have h1 : ¬ (b ≤ d) := Nat.not_le.mpr hdb
      have h2 : ¬ (maxU64 / b + 1 ≤ acc) := by
        have : acc ≤ maxU64 / b := (Nat.le_div_iff_mul_le hb).mpr (Nat.le_trans (Nat.le_add_right _ _) hle)
        omega
      have h3 : ¬ (maxU64 < acc * b + d) := Nat.not_lt.mpr hle
      simp only [parseUintLoop, hcs.1, h1, h2, h3, if_false]
      exact ih ds hcs.2 (fun x hx => hd x (by simp [hx])) _ hv

theorem stripUnderscores_withSeps (cs : List Char) (h : ∀ c ∈ cs, c ≠ '_') (seps : List Nat) :
    stripUnderscores (withSeps cs seps) = cs := by
  induction cs generalizing seps with
  | nil => cases seps <;> rfl
  | cons c cs ih =>
    have hc : c ≠ '_' := h c (by simp)
    have hcs : ∀ x ∈ cs, x ≠ '_' := fun x hx => h x (by simp [hx])
    cases seps with
    | nil =>
      have := ih hcs []
      simp only [stripUnderscores] at this ⊢
      simp [withSeps, hc, this]
    | cons k ks =>
      have := ih hcs ks
      simp only [stripUnderscores] at this ⊢
      simp [withSeps, hc, this, List.filter_append]

theorem map_digitOf_dec (ds : List Nat) (hd : ∀ d ∈ ds, d < 10) :
    (ds.map decChar).map digitOf = ds.map some := by
  rw [List.map_map]
  exact List.map_congr_left fun d hdm => digitOf_decChar d (hd d hdm)

def hexChars : List (Nat × Bool) → List Char
  | [] => []
  | (d, up) :: r => hexChar d up :: hexChars r

theorem hexChars_eq_map (ds : List (Nat × Bool)) : hexChars ds = ds.map fun p => hexChar p.1 p.2 := by
  induction ds with
  | nil => rfl
  | cons p ds ih => exact congrArg (hexChar p.1 p.2 :: ·) ih

theorem map_digitOf_hex (ds : List (Nat × Bool)) (hd : ∀ p ∈ ds, p.1 < 16) :
    (hexChars ds).map digitOf = (ds.map (·.1)).map some := by
  rw [hexChars_eq_map, List.map_map, List.map_map]
  exact List.map_congr_left fun p hp => digitOf_hexChar p.1 (hd p hp) p.2

theorem mem_hexChars {c : Char} {ds : List (Nat × Bool)} (h : c ∈ hexChars ds) :
    ∃ p ∈ ds, c = hexChar p.1 p.2 := by
  rw [hexChars_eq_map] at h
  obtain ⟨p, hp, e⟩ := List.mem_map.mp h
  exact ⟨p, hp, e.symm⟩

theorem containsAny_false (value cs : List Char) (h : ∀ c ∈ value, ∀ x ∈ cs, c ≠ x) :
    NumTest.holds value (.containsAny cs) = false := by
  simp only [NumTest.holds, List.any_eq_false, List.contains_eq_mem, decide_eq_true_eq]
  intro c hc hx
  exact h c hc c hx rfl

theorem containsAny_true (value cs : List Char) (c : Char) (h1 : c ∈ value) (h2 : c ∈ cs) :
    NumTest.holds value (.containsAny cs) = true := by
  simp only [NumTest.holds, List.any_eq_true, List.contains_eq_mem, decide_eq_true_eq]
  exact ⟨c, h1, h2⟩

/-- holds of both chains, `NumCfg.asIs` and `NumCfg.repaired` -/
def NumCfg.DecimalOK (cfg : NumCfg) : Prop :=
  ∀ value : List Char, (∀ c ∈ value, c ≠ '.' ∧ c ≠ 'e' ∧ c ≠ 'E' ∧ c ≠ 'x' ∧ c ≠ 'X') →
    cfg.classify value = .int 10

/-- text starting `0x` / `0X` whose remaining characters are not `.`, `x`, `X` goes to ParseInt base 0 -/
def NumCfg.HexOK (cfg : NumCfg) (mark : Char) : Prop :=
  ∀ value : List Char, (∀ c ∈ value, c ≠ '.' ∧ c ≠ 'x' ∧ c ≠ 'X') →
    cfg.classify ('0' :: mark :: value) = .int 0

/-- … provided it has no `e`, `E` either -/
def NumCfg.HexNoEOK (cfg : NumCfg) (mark : Char) : Prop :=
  ∀ value : List Char, (∀ c ∈ value, c ≠ '.' ∧ c ≠ 'x' ∧ c ≠ 'X' ∧ c ≠ 'e' ∧ c ≠ 'E') →
    cfg.classify ('0' :: mark :: value) = .int 0

theorem containsAny_marks_false {value : List Char}
    (h : ∀ c ∈ value, c ≠ '.' ∧ c ≠ 'e' ∧ c ≠ 'E' ∧ c ≠ 'x' ∧ c ≠ 'X') (cs : List Char)
    (hcs : ∀ x ∈ cs, x ∈ ['.', 'e', 'E', 'x', 'X']) : NumTest.holds value (.containsAny cs) = false :=
  containsAny_false _ _ (by
    intro c hc x hx e
    subst e
    obtain ⟨h1, h2, h3, h4, h5⟩ := h c hc
    have hx' := hcs c hx
    simp only [List.mem_cons, List.not_mem_nil, or_false] at hx'
    rcases hx' with e | e | e | e | e
    · exact h1 e
    · exact h2 e
    · exact h3 e
    · exact h4 e
    · exact h5 e)

theorem asIs_decimalOK : NumCfg.asIs.DecimalOK := by
  intro value h
  have h1 := containsAny_marks_false h ['.', 'e', 'E'] (by decide)
  have h2 := containsAny_marks_false h ['x'] (by decide)
  simp [NumCfg.classify, NumCfg.asIs, classifyIn, h1, h2]

theorem repaired_decimalOK : NumCfg.repaired.DecimalOK := by
  intro value h
  have h1 := containsAny_marks_false h ['.', 'e', 'E'] (by decide)
  have h2 := containsAny_marks_false h ['x', 'X'] (by decide)
  simp [NumCfg.classify, NumCfg.repaired, classifyIn, h1, h2]

theorem repaired_hexOK (mark : Char) (hm : mark = 'x' ∨ mark = 'X') : NumCfg.repaired.HexOK mark := by
  intro value _
  have h1 : NumTest.holds ('0' :: mark :: value) (.containsAny ['x', 'X']) = true :=
    containsAny_true _ _ mark (by simp) (by rcases hm with rfl | rfl <;> simp)
  simp [NumCfg.classify, NumCfg.repaired, classifyIn, h1]

theorem asIs_hexNoEOK : NumCfg.asIs.HexNoEOK 'x' := by
  intro value h
  have h1 : NumTest.holds ('0' :: 'x' :: value) (.containsAny ['.', 'e', 'E']) = false :=
    containsAny_false _ _ (by
      intro c hc x hx
      simp at hx
      simp only [List.mem_cons] at hc
      rcases hc with rfl | rfl | hc
      · rcases hx with rfl | rfl | rfl <;> decide
      · rcases hx with rfl | rfl | rfl <;> decide
      · have := h c hc
        rcases hx with rfl | rfl | rfl <;> simp [this])
  have h2 : NumTest.holds ('0' :: 'x' :: value) (.containsAny ['x']) = true :=
    containsAny_true _ _ 'x' (by simp) (by simp)
  simp [NumCfg.classify, NumCfg.asIs, classifyIn, h1, h2]

theorem hexOK_noE {cfg : NumCfg} {mark : Char} (h : cfg.HexOK mark) : cfg.HexNoEOK mark :=
  fun value hv => h value fun c hc => ⟨(hv c hc).1, (hv c hc).2.1, (hv c hc).2.2.1⟩

theorem parseUint_base {b : Nat} (hb : b ≠ 0) (c : Char) (cs : List Char) :
    parseUint b (c :: cs) = parseUintLoop b 0 (c :: cs) := by
  simp only [parseUint, hb, if_false]

theorem parseUint_hex {mark : Char} (hm : mark = 'x' ∨ mark = 'X') (c : Char) (cs : List Char) :
    parseUint 0 ('0' :: mark :: c :: cs) = parseUintLoop 16 0 (c :: cs) := by
  have hb : lowerIs mark 'b' = false ∧ lowerIs mark 'o' = false ∧ lowerIs mark 'x' = true := by
    rcases hm with rfl | rfl <;> decide
  simp only [parseUint, if_true, hb.1, hb.2.1, hb.2.2, Bool.false_eq_true, if_false]

theorem parseInt_unsigned {b : Nat} {c : Char} {cs : List Char} (hm : c ≠ '-') :
    parseInt b (c :: cs) =
      match parseUint b (if c = '+' then cs else c :: cs) with
      | .error e => .error e
      | .ok un => if 9223372036854775808 ≤ un then .error .range else .ok (un : Int) := by
  simp only [parseInt, hm, or_false, if_false, false_and, not_false_eq_true, true_and]
  cases parseUint b (if c = '+' then cs else c :: cs) with
  | error e => rfl
  | ok un => simp only

/-- A text whose underscore-free form `c0 :: v` the chain sends to `ParseInt(·, base)`, where `ParseUint` then runs
its loop in base `b` on the digits `cs` of value `ds` (`hpu`: all of the text for base 10, what follows `0x` for base
0), parses to that value when it fits. -/
theorem parseNumberChars_digits {cfg : NumCfg} {base b : Nat} (hb : 0 < b) {text : List Char} {c0 : Char}
    {v cs : List Char} {ds : List Nat} (hstrip : stripUnderscores text = c0 :: v)
    (hclass : cfg.classify (c0 :: v) = .int base) (hp : c0 ≠ '+') (hm : c0 ≠ '-')
    (hpu : parseUint base (c0 :: v) = parseUintLoop b 0 cs) (hcs : cs.map digitOf = ds.map some)
    (hd : ∀ d ∈ ds, d < b) (hv : ofDigits b ds < 2 ^ 63) :
    parseNumberChars cfg text = .ok (.int (ofDigits b ds)) := by
  have hloop := parseUintLoop_digits b hb cs ds hcs hd 0 (by unfold ofDigits at hv; unfold maxU64; omega)
  have hlt : ¬ (9223372036854775808 ≤ ofDigitsAcc b 0 ds) := by unfold ofDigits at hv; omega
  simp only [parseNumberChars, hstrip, hclass, parseInt_unsigned hm, if_neg hp, hpu, hloop, if_neg hlt]
  rfl

theorem parseNumberChars_decimal (cfg : NumCfg) (hcfg : cfg.DecimalOK) (ds : List Nat) (hne : ds ≠ [])
    (hd : ∀ d ∈ ds, d < 10) (hv : ofDigits 10 ds < 2 ^ 63) (seps : List Nat) :
    parseNumberChars cfg (withSeps (ds.map decChar) seps) = .ok (.int (ofDigits 10 ds)) := by
  have hprops : ∀ c ∈ ds.map decChar, c ≠ '_' ∧ c ≠ '+' ∧ c ≠ '-' ∧ c ≠ '.' ∧ c ≠ 'e' ∧ c ≠ 'E' ∧ c ≠ 'x' ∧ c ≠ 'X' := by
    intro c hc
    obtain ⟨d, hdm, rfl⟩ := List.mem_map.mp hc
    exact decChar_props d (hd d hdm)
  have hstrip := stripUnderscores_withSeps (ds.map decChar) (fun c hc => (hprops c hc).1) seps
  have hclass : cfg.classify (ds.map decChar) = .int 10 := hcfg _ fun c hc => (hprops c hc).2.2.2
  cases ds with
  | nil => exact absurd rfl hne
  | cons d0 dr =>
    have hp0 := hprops (decChar d0) (by simp)
    exact parseNumberChars_digits (by decide) hstrip hclass hp0.2.1 hp0.2.2.1 (parseUint_base (by decide) _ _)
      (map_digitOf_dec _ hd) hd hv

theorem parseNumberChars_hex (cfg : NumCfg) (mark : Char) (hm : mark = 'x' ∨ mark = 'X')
    (ds : List (Nat × Bool)) (hne : ds ≠ []) (hd : ∀ p ∈ ds, p.1 < 16)
    (hclass : cfg.classify ('0' :: mark :: hexChars ds) = .int 0)
    (hv : ofDigits 16 (ds.map (·.1)) < 2 ^ 63) (k : Nat) (seps : List Nat) :
    parseNumberChars cfg ('0' :: mark :: (List.replicate k '_' ++ withSeps (hexChars ds) seps)) =
      .ok (.int (ofDigits 16 (ds.map (·.1)))) := by
  have hprops : ∀ c ∈ hexChars ds, c ≠ '_' := by
    intro c hc
    obtain ⟨p, hp, rfl⟩ := mem_hexChars hc
    exact (hexChar_props p.1 (hd p hp) p.2).1
  have hstrip := stripUnderscores_withSeps (hexChars ds) hprops seps
  have hm_ : mark ≠ '_' := by rcases hm with rfl | rfl <;> decide
  have hstrip2 : stripUnderscores ('0' :: mark :: (List.replicate k '_' ++ withSeps (hexChars ds) seps)) =
      '0' :: mark :: hexChars ds := by
    simp only [stripUnderscores] at hstrip ⊢
    simp [hm_, List.filter_append, hstrip]
  have hpu : parseUint 0 ('0' :: mark :: hexChars ds) = parseUintLoop 16 0 (hexChars ds) := by
    cases ds with
    | nil => exact absurd rfl hne
    | cons p0 dr => exact parseUint_hex hm _ _
  exact parseNumberChars_digits (by decide) hstrip2 hclass (by decide) (by decide) hpu (map_digitOf_hex ds hd)
    (by intro d hdm; obtain ⟨p, hp, rfl⟩ := List.mem_map.mp hdm; exact hd p hp) hv

theorem NumCfg.HexOK.classify {cfg : NumCfg} {mark : Char} (hcfg : cfg.HexOK mark) (ds : List (Nat × Bool))
    (hd : ∀ p ∈ ds, p.1 < 16) : cfg.classify ('0' :: mark :: hexChars ds) = .int 0 := by
  refine hcfg _ fun c hc => ?_
  obtain ⟨p, hp, rfl⟩ := mem_hexChars hc
  exact (hexChar_props p.1 (hd p hp) p.2).2

theorem NumCfg.HexNoEOK.classify {cfg : NumCfg} {mark : Char} (hcfg : cfg.HexNoEOK mark) (ds : List (Nat × Bool))
    (hd : ∀ p ∈ ds, p.1 < 16) (hnoE : ∀ p ∈ ds, p.1 ≠ 14) : cfg.classify ('0' :: mark :: hexChars ds) = .int 0 := by
  refine hcfg _ fun c hc => ?_
  obtain ⟨p, hp, rfl⟩ := mem_hexChars hc
  have h1 := (hexChar_props p.1 (hd p hp) p.2).2
  have h3 : ¬ (hexChar p.1 p.2 = 'e' ∨ hexChar p.1 p.2 = 'E') :=
    fun h => hnoE p hp ((hexChar_e p.1 (hd p hp) p.2).mp h)
  exact ⟨h1.1, h1.2.1, h1.2.2, fun h => h3 (Or.inl h), fun h => h3 (Or.inr h)⟩

/-- digits of `n` in base `b`, least significant first; a step divides `n` by `b`, which for `1 < b` makes it smaller, so
fuel above `n` (`digitsOf` gives `n + 1`) is never used up (`ofDigitsRev_digitsRev`) -/
def digitsRev (b : Nat) : Nat → Nat → List Nat
  | 0, _ => []
  | fuel + 1, n => if n < b then [n] else n % b :: digitsRev b fuel (n / b)

def digitsOf (b : Nat) (n : Nat) : List Nat := (digitsRev b (n + 1) n).reverse

theorem digitsRev_lt (b : Nat) (hb : 1 < b) (fuel n : Nat) : ∀ d ∈ digitsRev b fuel n, d < b := by
  induction fuel generalizing n with
  | zero => simp [digitsRev]
  | succ f ih =>
    unfold digitsRev
    split
    · intro d hd; simp at hd; omega
    · intro d hd
      simp only [List.mem_cons] at hd
      rcases hd with rfl | hd
      · exact Nat.mod_lt _ (by omega)
      · exact ih _ d hd

theorem digitsRev_ne_nil (b fuel n : Nat) (hf : 0 < fuel) : digitsRev b fuel n ≠ [] := by
  cases fuel with
  | zero => omega
  | succ f => unfold digitsRev; split <;> simp

def ofDigitsRev (b : Nat) : List Nat → Nat
  | [] => 0
  | d :: ds => d + b * ofDigitsRev b ds

theorem ofDigitsRev_digitsRev (b : Nat) (hb : 1 < b) (fuel n : Nat) (hf : n < fuel) :
    ofDigitsRev b (digitsRev b fuel n) = n := by
  induction fuel generalizing n with
  | zero => omega
  | succ f ih =>
    unfold digitsRev
    split
    · simp [ofDigitsRev]
    · rename_i hnb
      have hdiv : n / b < n := Nat.div_lt_self (by omega) hb
      have := ih (n / b) (by omega)
      simp only [ofDigitsRev, this]
      have := Nat.mod_add_div n b
      omega

theorem ofDigitsAcc_append (b acc : Nat) (xs ys : List Nat) :
    ofDigitsAcc b acc (xs ++ ys) = ofDigitsAcc b (ofDigitsAcc b acc xs) ys := by
  induction xs generalizing acc with
  | nil => rfl
  | cons x xs ih => simp [ofDigitsAcc, ih]

theorem ofDigitsAcc_reverse (b : Nat) (ds : List Nat) :
    ofDigitsAcc b 0 ds.reverse = ofDigitsRev b ds := by
  induction ds with
  | nil => rfl
  | cons d ds ih =>
    simp only [List.reverse_cons, ofDigitsAcc_append, ih, ofDigitsAcc, ofDigitsRev]
    rw [Nat.mul_comm, Nat.add_comm]

theorem ofDigits_digitsOf (b : Nat) (hb : 1 < b) (n : Nat) : ofDigits b (digitsOf b n) = n := by
  unfold ofDigits digitsOf
  rw [ofDigitsAcc_reverse, ofDigitsRev_digitsRev b hb _ _ (Nat.lt_succ_self n)]

theorem digitsOf_lt (b : Nat) (hb : 1 < b) (n : Nat) : ∀ d ∈ digitsOf b n, d < b := by
  intro d hd
  unfold digitsOf at hd
  exact digitsRev_lt b hb _ _ d (List.mem_reverse.mp hd)

theorem digitsOf_ne_nil (b n : Nat) : digitsOf b n ≠ [] := by
  unfold digitsOf
  intro h
  exact digitsRev_ne_nil b (n + 1) n (Nat.succ_pos _) (List.reverse_eq_nil_iff.mp h)

end ExprModel.Lex
