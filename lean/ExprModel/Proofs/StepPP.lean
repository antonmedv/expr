import ExprModel.Proofs.VMStep
/-
C13: the state a `step` leaves or reports carries `pp` = the `ip` the step started from (`vm.pp = vm.ip` at the loop
head; nothing else writes `pp`): `step_pp`, and `step_error_pp` for the failing step, both readings of `step_done`.
`Tri q Q` is `Sat · Q (fun _ s' => s'.pp = q)`.
-/
namespace ExprModel

def Tri (q : Nat) {α : Type} (Q : α → Prop) : RV α → Prop
  | .ok a => Q a
  | .error (_, s') => s'.pp = q

variable {q : Nat}

theorem tri_pure {α : Type} {Q : α → Prop} {a : α} (h : Q a) : Tri q Q (pure a : RV α) := h

abbrev StQ (q : Nat) : VM → Prop := fun s => s.pp = q

theorem tri_weaken {α : Type} {Q : α → Prop} {r : RV α} (h : Tri q Q r) : Tri q (fun _ => True) r := by
  cases r with
  | ok a => exact True.intro
  | error e => exact h

theorem step_pp (c : Cfg) (p : Prog) (s : VM) :
    Sat (step c p s) (fun s' => s'.pp = s.ip) (fun _ s' => s'.pp = s.ip) :=
  (step_done ⟨fun h _ => h.pp, fun h _ => h.pp, fun hpp _ _ => hpp⟩).mono (fun _ ⟨_, _, h⟩ => h.pp) (fun _ _ he => he)

theorem step_error_pp {c : Cfg} {p : Prog} {s s' : VM} {e : ErrClass} (h : step c p s = .error (e, s')) :
    s'.pp = s.ip :=
  (step_pp c p s).err h

end ExprModel
