import ExprModel.Lex.Unescape
/-
What `unescape` and its parts (Lex/Unescape.lean) compute: table lookup, `runeOut` on a scalar value, text
without carriage returns, and that every step consumes a character and fails only with `unescape` or `rawbyte`.
-/
namespace ExprModel.Lex

theorem lookup_cons {β} (c k : Char) (v : β) (t : List (Char × β)) :
    lookup c ((k, v) :: t) = if c = k then some v else lookup c t := by
  by_cases h : c = k
  · rw [lookup, if_pos h.symm, if_pos h]
  · rw [lookup, if_neg (Ne.symm h), if_neg h]

theorem lookup_mem {β} {c : Char} {v : β} : ∀ {t : List (Char × β)}, lookup c t = some v → (c, v) ∈ t
  | [], h => by cases h
  | (k, w) :: t, h => by
    rw [lookup_cons] at h
    by_cases hc : c = k
    · rw [if_pos hc] at h; cases h; subst hc; exact List.mem_cons_self
    · rw [if_neg hc] at h; exact List.mem_cons_of_mem _ (lookup_mem h)

theorem scalar_lt (c : Char) : c.toNat < 0x110000 := by
  have := c.valid
  unfold UInt32.isValidChar Nat.isValidChar at this
  show c.val.toNat < _
  omega

theorem normalizeFrom_id (l : List Char) (h : ∀ x ∈ l, x ≠ '\r') : normalizeFrom false l = l := by
  induction l with
  | nil => rfl
  | cons c l ih =>
    have hc : c ≠ '\r' := h c (by simp)
    simp [normalizeFrom, hc, ih (fun x hx => h x (by simp [hx]))]

theorem runeOut_char (c : Char) : runeOut c.toNat = .ok c := by
  have h1 := scalar_lt c
  have h2 : c.toNat.isValidChar := c.valid
  unfold runeOut
  rw [if_pos (by omega), if_neg (by omega), if_pos h2, Char.ofNat_toNat]

def UnescStep (n : Nat) : Except String (Char × List Char) → Prop
  | .ok (_, rest) => rest.length < n
  | .error m => m = "unescape" ∨ m = "rawbyte"

theorem runeOut_err {v : Nat} {m : String} (h : runeOut v = .error m) : m = "unescape" ∨ m = "rawbyte" := by
  unfold runeOut at h
  by_cases h1 : v < 0x80000000
  · rw [if_pos h1] at h
    by_cases h2 : 0x10FFFF < v
    · rw [if_pos h2] at h; cases h; exact Or.inl rfl
    · rw [if_neg h2] at h
      by_cases h3 : v.isValidChar
      · rw [if_pos h3] at h; cases h
      · rw [if_neg h3] at h; cases h
  · rw [if_neg h1] at h
    by_cases h2 : v % 256 < 128
    · rw [if_pos h2] at h; cases h
    · rw [if_neg h2] at h; cases h; exact Or.inr rfl

theorem unescStep_runeOut (v : Nat) {n : Nat} {l : List Char} (hl : l.length < n) :
    UnescStep n ((runeOut v).map fun ch => (ch, l)) := by
  cases h : runeOut v with
  | error m => exact runeOut_err h
  | ok ch => exact hl

theorem unescapeChar_step (T : LexTables) (s : List Char) : UnescStep s.length (unescapeChar T s) := by
  cases s with
  | nil => exact Or.inl rfl
  | cons c s =>
    simp only [unescapeChar]
    by_cases hc : c ≠ '\\'
    · rw [if_pos hc]; exact Nat.lt_succ_self _
    rw [if_neg hc]
    cases s with
    | nil => exact Or.inl rfl
    | cons e s =>
      simp only
      cases lookup e T.unescSimple with
      | some v => exact Nat.lt_succ_of_lt (Nat.lt_succ_self _)
      | none =>
        simp only
        cases lookup e T.unescHex with
        | some n =>
          simp only
          by_cases hl : s.length < n
          · rw [if_pos hl]; exact Or.inl rfl
          rw [if_neg hl]
          cases hexValue 0 (s.take n) with
          | none => exact Or.inl rfl
          | some v => exact unescStep_runeOut _ (by simp only [List.length_drop, List.length_cons]; omega)
        | none =>
          simp only
          by_cases ho : T.unescOct.contains e = true
          · rw [if_pos ho]
            by_cases hl : s.length < 2
            · rw [if_pos hl]; exact Or.inl rfl
            rw [if_neg hl]
            cases octValue (e.toNat - 48) (s.take 2) with
            | none => exact Or.inl rfl
            | some v => exact unescStep_runeOut _ (by simp only [List.length_drop, List.length_cons]; omega)
          · rw [if_neg ho]; exact Or.inl rfl

theorem unescapeLoop_err (T : LexTables) : ∀ (fuel : Nat) (s : List Char) (m : String), s.length ≤ fuel →
    unescapeLoop T fuel s = .error m → m ≠ "fuel" := by
  intro fuel
  induction fuel with
  | zero =>
    intro s m hl h
    cases s with
    | nil => simp [unescapeLoop] at h
    | cons c s => simp at hl
  | succ f ih =>
    intro s m hl h
    cases s with
    | nil => simp [unescapeLoop] at h
    | cons c s =>
      simp only [unescapeLoop] at h
      have hstep := unescapeChar_step T (c :: s)
      cases hu : unescapeChar T (c :: s) with
      | error e =>
        rw [hu] at h hstep
        cases h
        rcases hstep with rfl | rfl <;> decide
      | ok p =>
        obtain ⟨ch, rest⟩ := p
        rw [hu] at h hstep
        simp only at h
        have hlt : rest.length < (c :: s).length := hstep
        cases hrec : unescapeLoop T f rest with
        | error e' =>
          rw [hrec] at h
          cases h
          exact ih rest _ (by simp only [List.length_cons] at hl hlt; omega) hrec
        | ok v => rw [hrec] at h; cases h

theorem unescape_err (T : LexTables) (word : List Char) (m : String) (h : unescape T word = .error m) :
    m ≠ "fuel" := by
  unfold unescape at h
  simp only at h
  split at h
  · cases h; decide
  · split at h
    · split at h
      · cases h; decide
      · exact unescapeLoop_err T _ _ _ (by simp; omega) h
    · cases h; decide

end ExprModel.Lex
