import ExprModel.Code.Compile
import ExprModel.VM.Step
import ExprModel.Proofs.BcDecode
/-
C01: where an instruction sits.  `BytesAt P k i`: the bytes of `i` are at offset `k` of the program bytes.
`CodeAt L k seg`: `seg` is a segment of the located instruction list `L.full` at byte offset `k`, operands within
16 bits.
-/
namespace ExprModel.Refine
open ExprModel

@[simp] theorem lsize_nil : lsize [] = 0 := rfl
@[simp] theorem lsize_cons (i : LInstr) (r : List LInstr) : lsize (i :: r) = i.instr.size + lsize r := rfl
@[simp] theorem lsize_append (a b : List LInstr) : lsize (a ++ b) = lsize a + lsize b := by
  simp [lsize]

@[simp] theorem li_instr (l : Loc) (op : Op) (a : Nat) : (li l op a).instr = { op := op, arg := a } := rfl

-- on plain instructions this is `Bc.FitsU16`; `Proofs/FitsGuard.lean` takes one to the other
def FitsU16 (code : List LInstr) : Prop := ∀ i ∈ code, i.instr.arg < 65536

theorem FitsU16.append {a b : List LInstr} : FitsU16 (a ++ b) ↔ FitsU16 a ∧ FitsU16 b := by
  simp only [FitsU16, List.mem_append]
  constructor
  · intro h; exact ⟨fun i hi => h i (.inl hi), fun i hi => h i (.inr hi)⟩
  · rintro ⟨h1, h2⟩ i (hi | hi)
    · exact h1 i hi
    · exact h2 i hi

structure BytesAt (P : Prog) (k : Nat) (i : Instr) : Prop where
  op : P.code[k]? = some i.op.code
  lo : i.op.hasArg = true → P.code[k + 1]? = some (i.arg % 256)
  hi : i.op.hasArg = true → P.code[k + 2]? = some (i.arg / 256 % 256)
  fits : i.arg < 65536

theorem BytesAt.of_encoding {P : Prog} {pre post : List Instr} {i : Instr}
    (hc : P.code = (encodeAll (pre ++ i :: post)).toArray) (hfit : i.arg < 65536) : BytesAt P (codeSize pre) i := by
  have get : ∀ j, P.code[codeSize pre + j]? = (i.encode ++ encodeAll post)[j]? := by
    intro j
    rw [hc, List.getElem?_toArray, ← List.getElem?_drop, Bc.drop_encodeAll]
    rfl
  refine ⟨?_, fun ha => ?_, fun ha => ?_, hfit⟩
  · rw [← Nat.add_zero (codeSize pre), get 0]
    unfold Instr.encode
    split <;> rfl
  · rw [get 1]
    simp only [Instr.encode, ha, if_true]
    rfl
  · rw [get 2]
    simp only [Instr.encode, ha, if_true]
    rfl

/-- `blame e l` is claimed of the class `e` and the location `l` of every failing step (C13).  It is no datum of
    the program but a parameter of the simulation, kept in the record so that `ReachErr` and `ExecPost` need no further
    argument.  C01 takes `fun _ _ => True`; C13 a relation that `evalLoc` satisfies (Proofs/RefineBlame.lean). -/
structure LProg where
  prog : Prog
  full : List LInstr
  enc : prog.code = (encodeAll (full.map (·.instr))).toArray
  blame : ErrClass → Loc → Prop

abbrev LProg.consts (L : LProg) : Array Val := L.prog.consts

def CodeAt (L : LProg) (k : Nat) (seg : List LInstr) : Prop :=
  ∃ pre post, L.full = pre ++ seg ++ post ∧ lsize pre = k ∧ FitsU16 seg

theorem CodeAt.left {P k a b} (h : CodeAt P k (a ++ b)) : CodeAt P k a := by
  obtain ⟨pre, post, hc, hk, hf⟩ := h
  exact ⟨pre, b ++ post, by simpa [List.append_assoc] using hc, hk, (FitsU16.append.1 hf).1⟩

theorem CodeAt.right {P k a b} (h : CodeAt P k (a ++ b)) : CodeAt P (k + lsize a) b := by
  obtain ⟨pre, post, hc, hk, hf⟩ := h
  exact ⟨pre ++ a, post, by simpa [List.append_assoc] using hc, by simp [hk], (FitsU16.append.1 hf).2⟩

theorem CodeAt.tail {P k i r} (h : CodeAt P k (i :: r)) : CodeAt P (k + i.instr.size) r := by
  have := CodeAt.right (a := [i]) (b := r) (by simpa using h)
  simpa using this

theorem CodeAt.head {P k i r} (h : CodeAt P k (i :: r)) : CodeAt P k [i] :=
  CodeAt.left (a := [i]) (b := r) (by simpa using h)

theorem CodeAt.bytes {P : LProg} {k i r} (h : CodeAt P k (i :: r)) : BytesAt P.prog k i.instr := by
  obtain ⟨pre, post, hc, hk, hf⟩ := h
  rw [← hk]
  exact .of_encoding (pre := pre.map (·.instr)) (post := (r ++ post).map (·.instr))
    (by rw [P.enc, hc]; simp [List.append_assoc]) (hf i (by simp))

theorem BytesAt.lt {P k i} (h : BytesAt P k i) : k < P.code.size := by
  have := h.op
  rcases Nat.lt_or_ge k P.code.size with hlt | hge
  · exact hlt
  · rw [Array.getElem?_eq_none hge] at this; cases this

theorem arg_recompose (a : Nat) (h : a < 65536) : a % 256 + 256 * (a / 256 % 256) = a := by omega

end ExprModel.Refine
