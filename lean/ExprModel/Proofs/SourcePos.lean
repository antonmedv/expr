import ExprModel.Proofs.Source
import ExprModel.Proofs.AdvLoc
/-
For C13: the position rule against the lines of the source, and the indicator line of `Bind`.
`Src.posOf src k` is the lexer model's `Lex.posOf` of the first `k` runes (`lexPosOf_eq`), so its closed form is read off
`Lex.advLoc`'s.  Lines and columns are reasoned about on a text cut at its last line feed (`cut_at_last_nl`:
`a ++ '\n' :: b` with `b` free of line feeds).
-/
namespace ExprModel.Src

theorem nthLine_cons_succ (ch : Char) (cs : List Char) (m : Nat) :
    nthLine (ch :: cs) (m + 1) = if ch = '\n' then nthLine cs m else nthLine cs (m + 1) := by
  by_cases h : ch = '\n'
  · simp [nthLine, afterFirstLine, h]
  · simp only [nthLine, afterFirstLine, h, if_false]

/-- the number of runes after the last line feed of `t`: the lexer's column after reading `t` (`lexPosOf_col`) -/
def colSince (t : List Char) : Nat := (t.reverse.takeWhile (· ≠ '\n')).length

theorem cut_at_last_nl : ∀ (t : List Char), '\n' ∈ t → ∃ a b, t = a ++ '\n' :: b ∧ '\n' ∉ b
  | c :: t, h => by
    by_cases ht : '\n' ∈ t
    · obtain ⟨a, b, rfl, hb⟩ := cut_at_last_nl t ht
      exact ⟨c :: a, b, rfl, hb⟩
    · rcases List.mem_cons.1 h with e | e
      · exact ⟨[], t, by rw [← e]; rfl, ht⟩
      · exact absurd e ht

theorem noNL_reverse {b : List Char} (hb : '\n' ∉ b) : ∀ x ∈ b.reverse, decide (x ≠ '\n') = true :=
  fun _ hx => decide_eq_true fun e => hb (e ▸ List.mem_reverse.1 hx)

theorem colSince_cut (a b : List Char) (hb : '\n' ∉ b) : colSince (a ++ '\n' :: b) = b.length := by
  unfold colSince
  rw [List.reverse_append, List.reverse_cons, List.append_assoc, List.takeWhile_append_of_pos (noNL_reverse hb)]
  simp

theorem colSince_noNL (t : List Char) (h : '\n' ∉ t) : colSince t = t.length := by
  unfold colSince
  rw [← List.append_nil t.reverse, List.takeWhile_append_of_pos (noNL_reverse h)]
  simp

theorem firstLine_append {b : List Char} (hb : '\n' ∉ b) (rest : List Char) :
    firstLine (b ++ rest) = b ++ firstLine rest := by
  induction b with
  | nil => rfl
  | cons x b ih =>
    rw [List.mem_cons, not_or] at hb
    rw [List.cons_append, firstLine, if_neg (fun e => hb.1 e.symm), ih hb.2, List.cons_append]

theorem nthLine_skip (a r : List Char) (m : Nat) : nthLine (a ++ '\n' :: r) (m + a.count '\n' + 1) = nthLine r m := by
  induction a with
  | nil => rw [List.nil_append, nthLine_cons_succ, if_pos rfl]; rfl
  | cons x a ih =>
    rw [List.cons_append]
    by_cases h : x = '\n'
    · rw [h, List.count_cons_self, ← Nat.add_assoc, nthLine_cons_succ, if_pos rfl, ih]
    · rw [List.count_cons_of_ne h, nthLine_cons_succ, if_neg h, ih]

/-- A position splits the text into `pre ++ rest`; its line has the index `pre.count '\n'` and consists of what `pre` has
    after its last line feed, `colSince pre` runes, and what `rest` has before its first. -/
theorem nthLine_append (pre rest : List Char) :
    ∃ b, nthLine (pre ++ rest) (pre.count '\n') = some (b ++ firstLine rest) ∧ colSince pre = b.length := by
  by_cases h : '\n' ∈ pre
  · obtain ⟨a, b, rfl, hb⟩ := cut_at_last_nl pre h
    refine ⟨b, ?_, colSince_cut a b hb⟩
    have hc : (a ++ '\n' :: b).count '\n' = 0 + a.count '\n' + 1 := by
      rw [List.count_append, List.count_cons_self, List.count_eq_zero.2 hb, Nat.zero_add, Nat.zero_add]
    rw [hc, List.append_assoc, List.cons_append, nthLine_skip, nthLine, firstLine_append hb]
  · refine ⟨pre, ?_, colSince_noNL pre h⟩
    rw [List.count_eq_zero.2 h, nthLine, firstLine_append h]

theorem posOfAux_eq_advLoc (pre rest : List Char) (l c : Nat) :
    posOfAux (pre ++ rest) pre.length l c = ((Lex.advLoc ⟨l, c⟩ pre).line, (Lex.advLoc ⟨l, c⟩ pre).col) := by
  induction pre generalizing l c with
  | nil => simp [posOfAux, Lex.advLoc]
  | cons a as ih =>
    simp only [List.cons_append, List.length_cons, posOfAux, Lex.advLoc, List.foldl_cons, Lex.Loc.adv]
    by_cases h : a = '\n'
    · simp only [h, if_true]; exact ih (l + 1) 0
    · simp only [h, if_false]; exact ih l (c + 1)

theorem lexPosOf_eq (pre rest : List Char) : Lex.posOf pre = posOf (pre ++ rest) pre.length := by
  unfold posOf Lex.posOf
  rw [posOfAux_eq_advLoc]

theorem lexPosOf_col (t : List Char) : (Lex.posOf t).col = colSince t := by
  unfold Lex.posOf
  by_cases h : '\n' ∈ t
  · obtain ⟨a, b, rfl, hb⟩ := cut_at_last_nl t h
    rw [Lex.advLoc_col_afterNL _ a b (fun c hc e => hb (e ▸ hc)), colSince_cut a b hb]
  · rw [Lex.advLoc_noNL _ t (fun c hc e => h (e ▸ hc)), colSince_noNL t h, Nat.zero_add]

theorem posOf_eq (src : List Char) (k : Nat) (hk : k ≤ src.length) :
    posOf src k = { line := 1 + (src.take k).count '\n', col := colSince (src.take k) } := by
  have h := lexPosOf_eq (src.take k) (src.drop k)
  rw [List.take_append_drop, List.length_take_of_le hk] at h
  rw [← h, ← lexPosOf_col, ← Lex.advLoc_line ⟨1, 0⟩]
  rfl

theorem posOf_in_line (src : List Char) (k : Nat) (hk : k ≤ src.length) :
    ∃ b, nthLine src ((posOf src k).line - 1) = some (b ++ firstLine (src.drop k)) ∧ (posOf src k).col = b.length := by
  obtain ⟨b, hb, hc⟩ := nthLine_append (src.take k) (src.drop k)
  rw [List.take_append_drop] at hb
  rw [posOf_eq src k hk]
  exact ⟨b, by rwa [Nat.add_sub_cancel_left], hc⟩

theorem indicator_eq (l : List Char) (n : Nat) :
    indicator l n =
      if (l.take (n + 1)).any isMulti then none else some (List.replicate (min n l.length) '.' ++ ['^']) := by
  induction l generalizing n with
  | nil => simp [indicator]
  | cons a as ih =>
    cases n with
    | zero => cases ha : isMulti a <;> simp [indicator, ha]
    | succ n =>
      rw [indicator, ih, List.take_succ_cons, List.any_cons, List.length_cons, Nat.add_min_add_right, List.replicate_succ]
      cases ha : isMulti a
      · cases ((as.take (n + 1)).any isMulti) <;> rfl
      · rfl

theorem indicator_none (l : List Char) (n i : Nat) (c : Char) (hi : i ≤ n) (hc : l[i]? = some c) (hm : isMulti c = true) :
    indicator l n = none := by
  rw [indicator_eq, if_pos]
  exact List.any_eq_true.2 ⟨c, List.mem_of_getElem? (by rw [List.getElem?_take_of_lt (show i < n + 1 by omega)]; exact hc), hm⟩

theorem indicator_some (l : List Char) (n : Nat) (ind : List Char) (h : indicator l n = some ind) :
    ind = List.replicate (min n l.length) '.' ++ ['^'] := by
  rw [indicator_eq] at h
  split at h
  · cases h
  · exact (Option.some.inj h).symm

theorem indicator_ascii (l : List Char) (n : Nat) (h : ∀ c ∈ l, isMulti c = false) :
    indicator l n = some (List.replicate (min n l.length) '.' ++ ['^']) := by
  rw [indicator_eq, if_neg]
  rw [Bool.not_eq_true, List.any_eq_false]
  intro c hc
  rw [h c (List.mem_of_mem_take hc)]
  exact Bool.false_ne_true

theorem tabsToSpaces_length (l : List Char) : (tabsToSpaces l).length = l.length := by
  simp [tabsToSpaces]

theorem tabsToSpaces_id (l : List Char) (h : '\t' ∉ l) : tabsToSpaces l = l := by
  unfold tabsToSpaces
  induction l with
  | nil => rfl
  | cons a as ih =>
    have ha : a ≠ '\t' := fun e => h (by simp [e])
    have has : '\t' ∉ as := fun e => h (by simp [e])
    simp [ha, ih has]

/-- a tab and the space that replaces it are both single-byte -/
theorem indicator_tabs (l : List Char) (n : Nat) : indicator (tabsToSpaces l) n = indicator l n := by
  have hg : ∀ c : Char, isMulti (if c = '\t' then ' ' else c) = isMulti c := by
    intro c
    split
    · next h => rw [h]; rfl
    · rfl
  rw [indicator_eq, indicator_eq, tabsToSpaces_length, tabsToSpaces, ← List.map_take, List.any_map]
  simp only [Function.comp_def, hg]

theorem bind_eq (src : List Char) (e : FileError) :
    bind src e =
      if src = [] ∨ e.line < 1 then .ok e
      else match nthLine src (e.line - 1).toNat with
        | none => .ok e
        | some l => .ok (match indicator l e.col.toNat with
          | some ind => { e with snippet := gutter ++ tabsToSpaces l ++ gutter ++ ind }
          | none => { e with snippet := gutter ++ tabsToSpaces l }) := by
  unfold bind
  rw [snippet_eq]
  by_cases h : src = [] ∨ e.line < 1
  · rw [if_pos h, if_pos h]
  · rw [if_neg h, if_neg h]
    cases nthLine src (e.line - 1).toNat with
    | none => rfl
    | some l =>
      dsimp only
      rw [indicator_tabs]
      cases indicator l e.col.toNat <;> rfl

theorem bind_of_line (src : List Char) (e : FileError) (l : List Char) (hs : src ≠ []) (h1 : 1 ≤ e.line)
    (hl : nthLine src (e.line - 1).toNat = some l) :
    bind src e = .ok (match indicator l e.col.toNat with
      | some ind => { e with snippet := gutter ++ tabsToSpaces l ++ gutter ++ ind }
      | none => { e with snippet := gutter ++ tabsToSpaces l }) := by
  rw [bind_eq, if_neg (not_or.2 ⟨hs, Int.not_lt.2 h1⟩), hl]

end ExprModel.Src
