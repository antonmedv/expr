import ExprModel.Proofs.LexLayout
/-
Round trip of string literals (C12).  `ReadsAs`: what the spelling of one character must satisfy; `ReadsBody`: the same of
the text between the quotes, built one spelling at a time (`ReadsBody.cons`); a body that reads as `v`, between quotes,
lexes to one String token holding `v` (`lexChars_lit`, `spells_lit`).  The six spellings of `Spell` are one way to write
such a body (`Spell.readsAs`, `renderBody_reads`).
-/
namespace ExprModel.Lex

def hexDigitsW : Nat → Nat → List Bool → List Char
  | 0, _, _ => []
  | w + 1, n, ups => hexChar (n / 16 ^ w % 16) (ups.headD false) :: hexDigitsW w n ups.tail

def namedLetter (q c : Char) : Option Char :=
  if c = q then some q
  else if c = '\x07' then some 'a'
  else if c = '\x08' then some 'b'
  else if c = '\x0c' then some 'f'
  else if c = '\n' then some 'n'
  else if c = '\r' then some 'r'
  else if c = '\t' then some 't'
  else if c = '\x0b' then some 'v'
  else if c = '\\' then some '\\'
  else none

inductive Spell where
  | raw
  | named
  | x (ups : List Bool)
  | u (ups : List Bool)
  | U (ups : List Bool)
  | oct
  deriving Repr

/-- which spellings denote `c` in a literal quoted by `q`.  Raw: not the runes `scanString` acts on, nor `\r`, which
`normalizeNewlines` turns into `\n` (`string_quirks`).  `\xHH`, `\uXXXX`: the value fits the two / four digits.
`\NNN`: below 256, since `unescapeChar` takes a lead digit `0`–`3` only (`unescOct`). -/
def Spell.Ok (q c : Char) : Spell → Prop
  | .raw => c ≠ q ∧ c ≠ '\\' ∧ c ≠ '\n' ∧ c ≠ '\r'
  | .named => (namedLetter q c).isSome = true
  | .x _ => c.toNat < 256
  | .u _ => c.toNat < 65536
  | .U _ => True
  | .oct => c.toNat < 256

/-- `.named` of a character without a named escape is written raw, to keep `render` total; `Spell.Ok` excludes it -/
def Spell.render (q c : Char) : Spell → List Char
  | .raw => [c]
  | .named => match namedLetter q c with
    | some l => ['\\', l]
    | none => [c]
  | .x ups => '\\' :: 'x' :: hexDigitsW 2 c.toNat ups
  | .u ups => '\\' :: 'u' :: hexDigitsW 4 c.toNat ups
  | .U ups => '\\' :: 'U' :: hexDigitsW 8 c.toNat ups
  | .oct => ['\\', decChar (c.toNat / 64 % 8), decChar (c.toNat / 8 % 8), decChar (c.toNat % 8)]

def renderBody (q : Char) : List (Char × Spell) → List Char
  | [] => []
  | (c, sp) :: r => sp.render q c ++ renderBody q r

def renderLit (q : Char) (cs : List (Char × Spell)) : List Char := q :: (renderBody q cs ++ [q])

theorem hexDigitsW_length (w n : Nat) (ups : List Bool) : (hexDigitsW w n ups).length = w := by
  induction w generalizing ups with
  | zero => rfl
  | succ w ih => simp [hexDigitsW, ih]

theorem hexDigitsW_mem {w n : Nat} {ups : List Bool} {c : Char} (h : c ∈ hexDigitsW w n ups) :
    ∃ d, d < 16 ∧ ∃ up, c = hexChar d up := by
  induction w generalizing ups with
  | zero => simp [hexDigitsW] at h
  | succ w ih =>
    simp only [hexDigitsW, List.mem_cons] at h
    rcases h with h | h
    · exact ⟨_, Nat.mod_lt _ (by decide), _, h⟩
    · exact ih h

theorem hexValue_hexDigitsW (w n : Nat) (ups : List Bool) (acc : Nat) :
    hexValue acc (hexDigitsW w n ups) = some (acc * 16 ^ w + n % 16 ^ w) := by
  induction w generalizing ups acc with
  | zero => simp [hexDigitsW, hexValue, Nat.mod_one]
  | succ w ih =>
    have hd : n / 16 ^ w % 16 < 16 := Nat.mod_lt _ (by decide)
    simp only [hexDigitsW, hexValue, (hexChar_facts _ hd _).1, ih]
    congr 1
    rw [Nat.mod_pow_succ, Nat.pow_succ]
    rw [Nat.add_mul, Nat.mul_assoc, Nat.mul_comm 16 (16 ^ w), Nat.add_assoc, Nat.mul_comm (n / 16 ^ w % 16)]
    congr 1
    exact Nat.add_comm _ _

theorem scanString_digits (T : LexTables) (q : Char) (b : Nat) (ds : List Char) (n : Nat) (s : LState)
    (rest : List Char) (hlen : ds.length = n + 1) (hd : ∀ d ∈ ds, digitVal d < b) :
    scanString T q (.digits b n) s (ds ++ rest) = scanString T q .normal (s.advs ds) rest := by
  induction ds generalizing n s with
  | nil => simp at hlen
  | cons d ds ih =>
    have hdv : digitVal d < b := hd d (by simp)
    simp only [List.cons_append, scanString, hdv, if_true, LState.advs_cons]
    cases n with
    | zero =>
      have : ds = [] := by simpa using hlen
      subst this
      simp [SMode.ofDigits]
    | succ n =>
      simp only [SMode.ofDigits]
      exact ih n _ (by simpa using hlen) (fun x hx => hd x (by simp [hx]))

theorem hexDigitsW_digitVal {w n : Nat} {ups : List Bool} : ∀ d ∈ hexDigitsW w n ups, digitVal d < 16 := by
  intro d hd
  obtain ⟨k, hk, up, rfl⟩ := hexDigitsW_mem hd
  exact (hexChar_facts k hk up).2.1

/-- `namedLetter` without the quote as a table (`namedLetter_eq`), so that what the lexer's tables say of the letters
is one evaluation over its eight rows (`namedPairs_facts`) -/
def namedPairs : List (Char × Char) :=
  [('\x07', 'a'), ('\x08', 'b'), ('\x0c', 'f'), ('\n', 'n'), ('\r', 'r'), ('\t', 't'), ('\x0b', 'v'), ('\\', '\\')]

theorem namedLetter_eq (q c : Char) : namedLetter q c = if c = q then some q else lookup c namedPairs := by
  simp only [namedLetter, namedPairs, lookup_cons]
  rfl

theorem namedPairs_facts : ∀ p ∈ namedPairs, LexTables.std.escSimple.contains p.2 = true ∧ p.2 ≠ '\r' ∧ p.2 ≠ '\n' ∧
    lookup p.2 LexTables.std.unescSimple = some p.1.toNat := by decide

theorem namedLetter_facts (q : Char) (hq : q = '"' ∨ q = '\'') (c l : Char) (h : namedLetter q c = some l) :
    (LexTables.std.escSimple.contains l || l == q) = true ∧ l ≠ '\r' ∧ l ≠ '\n' ∧
    ∃ v, lookup l LexTables.std.unescSimple = some v ∧ Char.ofNat v = c := by
  rw [namedLetter_eq] at h
  by_cases hc : c = q
  · rw [if_pos hc] at h
    cases h
    subst hc
    rcases hq with rfl | rfl
    · exact ⟨by decide, by decide, by decide, 34, by decide, by decide⟩
    · exact ⟨by decide, by decide, by decide, 39, by decide, by decide⟩
  · rw [if_neg hc] at h
    obtain ⟨h1, h2, h3, h4⟩ := namedPairs_facts _ (lookup_mem h)
    exact ⟨by rw [h1]; rfl, h2, h3, _, h4, Char.ofNat_toNat c⟩

/-- The letters of the hexadecimal escapes with their digit counts, for each of the three readers (as `octChar_scan`) -/
theorem hexEscape_scan : ∀ p ∈ [('x', 2), ('u', 4), ('U', 8)],
    LexTables.std.escSimple.contains p.1 = false ∧ p.1 ≠ '"' ∧ p.1 ≠ '\'' ∧
    LexTables.std.escOct.contains p.1 = false ∧ lookup p.1 LexTables.std.escHex = some p.2 ∧ 0 < p.2 := by
  decide

theorem hexEscape_unesc : ∀ p ∈ [('x', 2), ('u', 4), ('U', 8)],
    lookup p.1 LexTables.std.unescSimple = none ∧ lookup p.1 LexTables.std.unescHex = some p.2 := by
  decide

theorem hexEscape_plain : ∀ p ∈ [('x', 2), ('u', 4), ('U', 8)], p.1 ≠ '\r' ∧ p.1 ≠ '\n' := by decide

theorem scanString_hexEscape (q : Char) (hq : q = '"' ∨ q = '\'') (e : Char) (w : Nat)
    (hm : (e, w) ∈ [('x', 2), ('u', 4), ('U', 8)]) (n : Nat) (ups : List Bool) (s : LState) (rest : List Char) :
    scanString LexTables.std q .normal s ('\\' :: e :: hexDigitsW w n ups ++ rest) =
      scanString LexTables.std q .normal (s.advs ('\\' :: e :: hexDigitsW w n ups)) rest := by
  obtain ⟨h1, hq1, hq2, h2, h3, hw⟩ := hexEscape_scan _ hm
  obtain ⟨w, rfl⟩ : ∃ w', w = w' + 1 := ⟨w - 1, by omega⟩
  have hbs : ('\\' : Char) ≠ q := by rcases hq with rfl | rfl <;> decide
  have heq : (e == q) = false := by rcases hq with rfl | rfl <;> simpa using ‹_›
  simp only [List.cons_append, scanString, hbs, if_false, show ('\\' : Char) ≠ '\n' by decide, if_true,
    LState.advs_cons, h1, heq, Bool.or_self, h2, h3, Bool.false_eq_true, SMode.ofDigits]
  exact scanString_digits _ _ 16 _ w _ _ (hexDigitsW_length _ _ _) hexDigitsW_digitVal

theorem hexEscape_chars (e : Char) (w : Nat) (hm : (e, w) ∈ [('x', 2), ('u', 4), ('U', 8)]) (n : Nat)
    (ups : List Bool) : ∀ x ∈ '\\' :: e :: hexDigitsW w n ups, x ≠ '\r' ∧ x ≠ '\n' := by
  intro x hx
  rcases List.mem_cons.mp hx with rfl | hx
  · decide
  rcases List.mem_cons.mp hx with rfl | hx
  · exact hexEscape_plain _ hm
  · obtain ⟨k, hk, up, rfl⟩ := hexDigitsW_mem hx
    exact (hexChar_facts k hk up).2.2

theorem unescapeChar_hex (e : Char) (w : Nat) (c : Char) (ups : List Bool) (rest : List Char)
    (h1 : lookup e LexTables.std.unescSimple = none) (h2 : lookup e LexTables.std.unescHex = some w)
    (hc : c.toNat < 16 ^ w) :
    unescapeChar LexTables.std ('\\' :: e :: (hexDigitsW w c.toNat ups ++ rest)) = .ok (c, rest) := by
  have hlen := hexDigitsW_length w c.toNat ups
  have hlt : ¬ ((hexDigitsW w c.toNat ups ++ rest).length < w) := by simp [hlen]
  simp only [unescapeChar, ne_eq, not_true_eq_false, if_false, h1, h2, hlt,
    List.take_left' hlen, List.drop_left' hlen, hexValue_hexDigitsW, Nat.zero_mul, Nat.zero_add]
  have : c.toNat % 16 ^ w % 4294967296 = c.toNat := by
    rw [Nat.mod_eq_of_lt hc, Nat.mod_eq_of_lt (by have := scalar_lt c; omega)]
  simp [this, runeOut_char, Except.map]

/-- `plain`: `normalizeNewlines` leaves `r` alone -/
structure ReadsAs (q c : Char) (r : List Char) : Prop where
  scan : ∀ s rest, scanString LexTables.std q .normal s (r ++ rest) = scanString LexTables.std q .normal (s.advs r) rest
  unesc : ∀ rest, unescapeChar LexTables.std (r ++ rest) = .ok (c, rest)
  plain : ∀ x ∈ r, x ≠ '\r' ∧ x ≠ '\n'

theorem readsAs_hex (q : Char) (hq : q = '"' ∨ q = '\'') (e : Char) (w : Nat)
    (hm : (e, w) ∈ [('x', 2), ('u', 4), ('U', 8)]) (c : Char) (hc : c.toNat < 16 ^ w) (ups : List Bool) :
    ReadsAs q c ('\\' :: e :: hexDigitsW w c.toNat ups) :=
  ⟨fun s rest => scanString_hexEscape q hq e w hm c.toNat ups s rest,
   fun rest => unescapeChar_hex e w c ups rest (hexEscape_unesc _ hm).1 (hexEscape_unesc _ hm).2 hc,
   hexEscape_chars e w hm c.toNat ups⟩

theorem Spell.readsAs (q : Char) (hq : q = '"' ∨ q = '\'') (c : Char) (sp : Spell) (hok : sp.Ok q c) :
    ReadsAs q c (sp.render q c) := by
  have hbs : ('\\' : Char) ≠ q := by rcases hq with rfl | rfl <;> decide
  cases sp with
  | raw =>
    obtain ⟨h1, h2, h3, h4⟩ := hok
    refine ⟨fun s rest => ?_, fun rest => ?_, fun x hx => ?_⟩
    · simp [Spell.render, scanString, h1, h2, h3]
    · simp [Spell.render, unescapeChar, h2]
    · simp only [Spell.render, List.mem_singleton] at hx
      subst hx
      exact ⟨h4, h3⟩
  | named =>
    simp only [Spell.Ok] at hok
    cases hl : namedLetter q c with
    | none => simp [hl] at hok
    | some l =>
      obtain ⟨hf, h2, h3, v, hv, hvc⟩ := namedLetter_facts q hq c l hl
      refine ⟨fun s rest => ?_, fun rest => ?_, fun x hx => ?_⟩
      · simp only [Spell.render, hl, List.cons_append, List.nil_append, scanString, hbs, if_false,
          show ('\\' : Char) ≠ '\n' by decide, if_true, hf, LState.advs_cons, LState.advs_nil]
      · simp [Spell.render, hl, unescapeChar, hv, hvc]
      · simp only [Spell.render, hl, List.mem_cons, List.not_mem_nil, or_false] at hx
        rcases hx with rfl | rfl
        · decide
        · exact ⟨h2, h3⟩
  | x ups => exact readsAs_hex q hq 'x' 2 (by simp) c hok ups
  | u ups => exact readsAs_hex q hq 'u' 4 (by simp) c hok ups
  | U ups => exact readsAs_hex q hq 'U' 8 (by simp) c (by have := scalar_lt c; omega) ups
  | oct =>
    simp only [Spell.Ok] at hok
    have hd1 : c.toNat / 64 % 8 < 8 := Nat.mod_lt _ (by decide)
    have hd1' : c.toNat / 64 % 8 < 4 := by omega
    have hd2 : c.toNat / 8 % 8 < 8 := Nat.mod_lt _ (by decide)
    have hd3 : c.toNat % 8 < 8 := Nat.mod_lt _ (by decide)
    -- the lead digit is looked up in the escape tables, the other two are only digits
    obtain ⟨-, hdq, hsq, hes, heo⟩ := octChar_scan _ hd1
    obtain ⟨-, hv1, hus, huh⟩ := octChar_unesc _ hd1
    obtain ⟨hr2, hv2, -, -⟩ := octChar_unesc _ hd2
    obtain ⟨hr3, hv3, -, -⟩ := octChar_unesc _ hd3
    refine ⟨fun s rest => ?_, fun rest => ?_, fun x hx => ?_⟩
    · have hnq : (decChar (c.toNat / 64 % 8) == q) = false := by
        rcases hq with rfl | rfl
        · simpa using hdq
        · simpa using hsq
      simp only [Spell.render, List.cons_append, List.nil_append, scanString, hbs, if_false,
        show ('\\' : Char) ≠ '\n' by decide, if_true, LState.advs_cons, LState.advs_nil,
        hes, heo, hnq, Bool.or_self, Bool.false_eq_true,
        (octChar_scan _ hd2).1, (octChar_scan _ hd3).1, SMode.ofDigits]
    · have hv : ((c.toNat / 64 % 8) * 8 + c.toNat / 8 % 8) * 8 + c.toNat % 8 = c.toNat := by omega
      simp only [Spell.render, List.cons_append, List.nil_append, unescapeChar, ne_eq, not_true_eq_false,
        if_false, hus, huh, octChar_lead _ hd1', if_true,
        List.length_cons, List.take_succ_cons, List.take_zero, List.drop_succ_cons, List.drop_zero,
        octValue, hr2, hr3, and_self, hv1, hv2, hv3, hv]
      have : ¬ (rest.length + 1 + 1 < 2) := by omega
      simp [this, runeOut_char, Except.map]
    · simp only [Spell.render, List.mem_cons, List.not_mem_nil, or_false] at hx
      rcases hx with rfl | rfl | rfl | rfl
      · decide
      · exact octChar_plain _ hd1
      · exact octChar_plain _ hd2
      · exact octChar_plain _ hd3

structure ReadsBody (q : Char) (v r : List Char) : Prop where
  scan : ∀ s rest, scanString LexTables.std q .normal s (r ++ q :: rest) = .ok ((s.advs r).adv q, rest)
  unesc : ∀ fuel, r.length ≤ fuel → unescapeLoop LexTables.std fuel r = .ok v
  plain : ∀ x ∈ r, x ≠ '\r' ∧ x ≠ '\n'

theorem ReadsBody.nil (q : Char) : ReadsBody q [] [] :=
  ⟨fun s rest => by simp [scanString], fun fuel _ => by cases fuel <;> rfl, fun _ h => nomatch h⟩

theorem ReadsBody.cons {q c : Char} {r v t : List Char} (h : ReadsAs q c r) (ht : ReadsBody q v t) :
    ReadsBody q (c :: v) (r ++ t) := by
  refine ⟨fun s rest => ?_, fun fuel hf => ?_, fun x hx => ?_⟩
  · rw [List.append_assoc, h.scan, ht.scan, LState.advs_append]
  · have hstep := h.unesc t
    -- a spelling is not empty: `unescapeChar` yields nothing on the empty text
    cases r with
    | nil => cases h.unesc []
    | cons a r =>
      cases fuel with
      | zero => simp at hf
      | succ f =>
        have hf' : t.length ≤ f := by
          simp only [List.cons_append, List.length_cons, List.length_append] at hf; omega
        simp only [List.cons_append] at hstep ⊢
        simp only [unescapeLoop, hstep, ht.unesc f hf']
        rfl
  · rcases List.mem_append.mp hx with hx | hx
    · exact h.plain x hx
    · exact ht.plain x hx

theorem renderBody_reads (q : Char) (hq : q = '"' ∨ q = '\'') :
    ∀ cs : List (Char × Spell), (∀ p ∈ cs, p.2.Ok q p.1) → ReadsBody q (cs.map (·.1)) (renderBody q cs)
  | [], _ => ReadsBody.nil q
  | (c, sp) :: cs, hok =>
    ReadsBody.cons (Spell.readsAs q hq c sp (hok (c, sp) List.mem_cons_self))
      (renderBody_reads q hq cs fun p hp => hok p (List.mem_cons_of_mem _ hp))

theorem unescape_lit {q : Char} (hq : q = '"' ∨ q = '\'') {v r : List Char} (h : ReadsBody q v r) :
    unescape LexTables.std (q :: (r ++ [q])) = .ok v := by
  have hqq : q ≠ '\r' ∧ q ≠ '\n' := by rcases hq with rfl | rfl <;> decide
  have hnorm : normalizeNewlines (q :: (r ++ [q])) = q :: (r ++ [q]) :=
    normalizeFrom_id _ fun x hx => by
      simp only [List.mem_cons, List.mem_append, List.not_mem_nil, or_false] at hx
      rcases hx with rfl | hx | rfl
      · exact hqq.1
      · exact (h.plain x hx).1
      · exact hqq.1
  unfold unescape
  simp only [hnorm]
  have hlen : ¬ ((q :: (r ++ [q])).length < 2) := by simp
  have hhead : (q :: (r ++ [q])).head? = some q := rfl
  have hlast : (q :: (r ++ [q])).getLast? = some q := by
    rw [← List.cons_append, List.getLast?_concat]
  have hbody : ((q :: (r ++ [q])).drop 1).dropLast = r := by
    simp
  have hqq' : ¬ (q ≠ q ∨ (q ≠ '"' ∧ q ≠ '\'')) := by rcases hq with rfl | rfl <;> decide
  simp only [hlen, if_false, hhead, hlast, hqq', hbody]
  exact h.unesc _ (by simp; omega)

theorem root_lit (cc : CharClass) {q : Char} (hq : q = '"' ∨ q = '\'') (hsp : cc.isSpace q = false)
    {v r : List Char} (h : ReadsBody q v r) (s : LState) (hw : s.word = []) (rest : List Char) :
    root cc LexTables.std s (q :: (r ++ [q]) ++ rest) = emitValue .string v (((s.adv q).advs r).adv q) rest := by
  have htext : (((s.adv q).advs r).adv q).text = q :: (r ++ [q]) := by
    simp [LState.text, LState.adv, LState.advs_word, hw]
  rw [List.cons_append, root_of_class (rootClass_quote hsp hq.symm _), List.append_assoc, List.singleton_append]
  simp only [rootBranch, h.scan]
  rw [htext, unescape_lit hq h]

/-- the EOF token sits at `prev`, the position of the closing quote -/
theorem lexChars_lit (cc : CharClass) {q : Char} (hq : q = '"' ∨ q = '\'') (hsp : cc.isSpace q = false)
    {v r : List Char} (h : ReadsBody q v r) :
    lexChars cc LexTables.std (q :: (r ++ [q])) =
      .ok [{ kind := .string, value := String.ofList v, loc := ⟨1, 0⟩ },
           { kind := .eof, value := "", loc := ⟨1, (q :: (r ++ [q])).length - 1⟩ }] := by
  have hroot := root_lit cc hq hsp h {} rfl []
  rw [List.append_nil] at hroot
  have hprev : ((((({} : LState).adv q).advs r).adv q)).prev = ⟨1, (q :: (r ++ [q])).length - 1⟩ := by
    have hqn : q ≠ '\n' := by rcases hq with rfl | rfl <;> decide
    have := LState.advs_loc (({} : LState).adv q) r (fun x hx => (h.plain x hx).2)
    simp only [LState.adv] at this ⊢
    rw [this]
    simp [Loc.adv, hqn]
    omega
  rw [lexChars_single (by simp) hroot]
  simp only [LState.ignore, mkTok, hprev]
  simp [LState.adv, LState.advs_startLoc]

theorem spells_lit {cc : CharClass} {q : Char} (hq : q = '"' ∨ q = '\'') (hsp : cc.isSpace q = false)
    {v r : List Char} (h : ReadsBody q v r) : Spells cc .string (String.ofList v) (q :: (r ++ [q])) (fun _ => True) := by
  refine spells_of_root (by simp) fun s L rest hf _ => ?_
  rw [root_lit cc hq hsp h s hf.word rest]
  exact ⟨_, _, rfl, rfl, rfl⟩

theorem spells_string {cc : CharClass} (q : Char) (hq : q = '"' ∨ q = '\'') (hsp : cc.isSpace q = false)
    (cs : List (Char × Spell)) (hok : ∀ p ∈ cs, p.2.Ok q p.1) :
    Spells cc .string (String.ofList (cs.map (·.1))) (renderLit q cs) (fun _ => True) :=
  spells_lit hq hsp (renderBody_reads q hq cs hok)

end ExprModel.Lex
