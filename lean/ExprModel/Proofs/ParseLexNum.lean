import ExprModel.Syntax.ParserNum
import ExprModel.Proofs.LexNumber
/-
The number conversion of the parser model restricted to the texts a Number token can have (first rune a
digit or `.`, as the lexer guarantees): it never yields a negative or out-of-range integer.
-/
namespace ExprModel.Parser
open ExprModel.Lex

def guardedNum (ncfg : NumCfg) (pf : String → Option UInt64) (s : String) : Option NumVal :=
  match s.toList with
  | c :: _ => if ('0' ≤ c ∧ c ≤ '9') ∨ c = '.' then numVia ncfg pf s else none
  | [] => none

variable {ncfg : NumCfg} {pf : String → Option UInt64} {s : String}

theorem numVia_int {n : Int} (h : parseNumber ncfg s = .ok (.int n)) : numVia ncfg pf s = some (.int n) := by
  unfold numVia
  rw [h]

theorem parseNumber_of_numVia_int {v : Int} (h : numVia ncfg pf s = some (.int v)) :
    parseNumber ncfg s = .ok (.int v) := by
  unfold numVia at h
  split at h
  · next n hp => cases h; exact hp
  · next text _ => cases hpf : pf text <;> rw [hpf] at h <;> cases h
  · cases h

theorem pf_of_numVia_float {b : UInt64} (h : numVia ncfg pf s = some (.float b)) : ∃ text, pf text = some b := by
  unfold numVia at h
  split at h
  · cases h
  · next text _ =>
    cases hp : pf text with
    | none => rw [hp] at h; cases h
    | some b' =>
      rw [hp] at h
      simp only [Option.map_some, Option.some.injEq, NumVal.float.injEq] at h
      exact ⟨text, h ▸ hp⟩
  · cases h

theorem guardedNum_of_head {c : Char} {cs : List Char} (hs : s.toList = c :: cs)
    (hc : ('0' ≤ c ∧ c ≤ '9') ∨ c = '.') : guardedNum ncfg pf s = numVia ncfg pf s := by
  unfold guardedNum
  rw [hs]
  exact if_pos hc

theorem numVia_of_guardedNum {v : NumVal} (h : guardedNum ncfg pf s = some v) :
    ∃ c cs, s.toList = c :: cs ∧ (('0' ≤ c ∧ c ≤ '9') ∨ c = '.') ∧ numVia ncfg pf s = some v := by
  unfold guardedNum at h
  split at h
  · next c cs hs =>
    split at h
    · next hc => exact ⟨c, cs, hs, hc, h⟩
    · cases h
  · cases h

theorem parseInt_unsigned_range (b : Nat) (c : Char) (cs : List Char) (hc : c ≠ '-') (v : Int)
    (h : parseInt b (c :: cs) = .ok v) : 0 ≤ v ∧ v < 9223372036854775808 := by
  rw [parseInt_unsigned hc] at h
  cases hu : parseUint b (if c = '+' then cs else c :: cs) with
  | error e => rw [hu] at h; cases h
  | ok un =>
    rw [hu] at h
    simp only at h
    by_cases hlt : 9223372036854775808 ≤ un
    · rw [if_pos hlt] at h; cases h
    · rw [if_neg hlt] at h
      cases h
      exact ⟨Int.natCast_nonneg _, by omega⟩

theorem parseNumberChars_int_range {c : Char} {cs : List Char} (h_ : c ≠ '_') (hm : c ≠ '-') {v : Int}
    (h : parseNumberChars ncfg (c :: cs) = .ok (.int v)) : 0 ≤ v ∧ v < 9223372036854775808 := by
  unfold parseNumberChars at h
  have hstrip : stripUnderscores (c :: cs) = c :: stripUnderscores cs := by
    simp [stripUnderscores, h_]
  rw [hstrip] at h
  simp only at h
  split at h
  · cases h
  · next bb _ =>
    cases hp : parseInt bb (c :: stripUnderscores cs) with
    | error e => rw [hp] at h; cases e <;> cases h
    | ok n =>
      rw [hp] at h
      cases h
      exact parseInt_unsigned_range bb c _ hm _ hp

theorem numberHead_ne {c : Char} (hc : ('0' ≤ c ∧ c ≤ '9') ∨ c = '.') : c ≠ '_' ∧ c ≠ '-' := by
  rcases hc with ⟨h1, h2⟩ | rfl
  · have h1' : 48 ≤ c.toNat := Char.le_def.mp h1
    have h2' : c.toNat ≤ 57 := Char.le_def.mp h2
    constructor <;> (intro he; subst he; simp at h1' h2')
  · decide

theorem guardedNum_int_range (ncfg : NumCfg) (pf : String → Option UInt64) (s : String) (v : Int)
    (h : guardedNum ncfg pf s = some (.int v)) : 0 ≤ v ∧ v < 9223372036854775808 := by
  obtain ⟨c, cs, hs, hc, hv⟩ := numVia_of_guardedNum h
  have hp := parseNumber_of_numVia_int hv
  unfold parseNumber at hp
  rw [hs] at hp
  exact parseNumberChars_int_range (numberHead_ne hc).1 (numberHead_ne hc).2 hp

theorem guardedNum_float (ncfg : NumCfg) (pf : String → Option UInt64) (s : String) (b : UInt64)
    (h : guardedNum ncfg pf s = some (.float b)) : ∃ text, pf text = some b := by
  obtain ⟨_, _, _, _, hv⟩ := numVia_of_guardedNum h
  exact pf_of_numVia_float hv

end ExprModel.Parser
