import ExprModel.Proofs.BcDecode
/-
The ingredients of `Frag` (BcFrag.lean): instruction boundaries, jumps that land on boundaries of the fragment itself
(`JumpsClosed`) or of the fragment and the code following it (`JumpsTo`), and balanced Begin/End.
-/
namespace ExprModel.Bc

@[simp] theorem boundary_zero (is : List Instr) : instrBoundary is 0 = true := by
  cases is <;> simp [instrBoundary]

/-- the other facts about `instrBoundary` are read off this one -/
theorem boundary_iff_prefix (is : List Instr) (t : Nat) :
    instrBoundary is t = true ↔ ∃ p q, is = p ++ q ∧ codeSize p = t := by
  constructor
  · induction is generalizing t with
    | nil => intro h; exact ⟨[], [], rfl, (beq_iff_eq.1 h).symm⟩
    | cons i is ih =>
      intro h
      simp only [instrBoundary, Bool.or_eq_true, beq_iff_eq, Bool.and_eq_true, decide_eq_true_eq] at h
      rcases h with h | ⟨h1, h2⟩
      · exact ⟨[], i :: is, rfl, h.symm⟩
      · obtain ⟨p, q, hpq, hs⟩ := ih _ h2
        exact ⟨i :: p, q, by rw [hpq]; rfl, by rw [codeSize_cons, hs]; omega⟩
  · rintro ⟨p, q, rfl, rfl⟩
    induction p with
    | nil => exact boundary_zero _
    | cons i p ih =>
      simp only [List.cons_append, instrBoundary, codeSize_cons, Bool.or_eq_true, Bool.and_eq_true, decide_eq_true_eq]
      exact Or.inr ⟨Nat.le_add_right _ _, by rw [Nat.add_sub_cancel_left]; exact ih⟩

theorem boundary_le : ∀ (is : List Instr) (t : Nat), instrBoundary is t = true → t ≤ codeSize is := by
  intro is t h
  obtain ⟨p, q, rfl, rfl⟩ := (boundary_iff_prefix _ _).1 h
  rw [codeSize_append]
  exact Nat.le_add_right _ _

theorem boundary_append_left (a b : List Instr) (t : Nat) (h : instrBoundary a t = true) :
    instrBoundary (a ++ b) t = true := by
  obtain ⟨p, q, rfl, rfl⟩ := (boundary_iff_prefix _ _).1 h
  exact (boundary_iff_prefix _ _).2 ⟨p, q ++ b, List.append_assoc .., rfl⟩

theorem boundary_skip (a b : List Instr) (t : Nat) (h1 : codeSize a ≤ t)
    (h2 : instrBoundary b (t - codeSize a) = true) : instrBoundary (a ++ b) t = true := by
  obtain ⟨p, q, rfl, hp⟩ := (boundary_iff_prefix _ _).1 h2
  exact (boundary_iff_prefix _ _).2 ⟨a ++ p, q, (List.append_assoc ..).symm, by rw [codeSize_append, hp]; omega⟩

theorem boundary_cons_of (i : Instr) (is : List Instr) (t : Nat)
    (h1 : i.size ≤ t) (h2 : instrBoundary is (t - i.size) = true) : instrBoundary (i :: is) t = true :=
  boundary_skip [i] is t (by rw [codeSize_cons, codeSize_nil]; exact h1) (by rw [codeSize_cons, codeSize_nil]; exact h2)

theorem boundary_end (a : List Instr) (t : Nat) (h : t = codeSize a) : instrBoundary a t = true :=
  (boundary_iff_prefix _ _).2 ⟨a, [], (List.append_nil a).symm, h.symm⟩

theorem boundary_zero' (a : List Instr) (t : Nat) (h : t = 0) : instrBoundary a t = true := by subst h; simp

@[simp] theorem jumpsOk_nil (bnd : Nat → Bool) (off : Nat) : jumpsOk bnd off [] = true := rfl
@[simp] theorem jumpsOk_cons (bnd : Nat → Bool) (off : Nat) (i : Instr) (is : List Instr) :
    jumpsOk bnd off (i :: is) = (jumpOk bnd off i && jumpsOk bnd (off + i.size) is) := rfl

theorem jumpsOk_append (bnd : Nat → Bool) : ∀ (off : Nat) (a b : List Instr),
    jumpsOk bnd off (a ++ b) = (jumpsOk bnd off a && jumpsOk bnd (off + codeSize a) b)
  | off, [], b => by simp
  | off, i :: a, b => by
    simp only [List.cons_append, jumpsOk_cons, jumpsOk_append bnd (off + i.size) a b, codeSize_cons, Bool.and_assoc,
      Nat.add_assoc]

theorem jumpsOk_at {bnd : Nat → Bool} {off : Nat} {pre post : List Instr} {i : Instr}
    (h : jumpsOk bnd off (pre ++ i :: post) = true) : jumpOk bnd (off + codeSize pre) i = true := by
  rw [jumpsOk_append, Bool.and_eq_true, jumpsOk_cons, Bool.and_eq_true] at h
  exact h.2.1

theorem jumpOk_mono {bnd1 bnd2 : Nat → Bool} {d : Nat} (h : ∀ t, bnd1 t = true → bnd2 (t + d) = true)
    (off : Nat) (i : Instr) (hi : jumpOk bnd1 off i = true) : jumpOk bnd2 (off + d) i = true := by
  unfold jumpOk at *
  split
  · rename_i hc; simp only [hc] at hi
    have := h _ hi
    have e : off + d + i.size + i.arg = off + i.size + i.arg + d := by omega
    rw [e]; exact this
  · rename_i hc; simp only [hc, Bool.and_eq_true, decide_eq_true_eq] at hi
    simp only [Bool.and_eq_true, decide_eq_true_eq]
    refine ⟨by omega, ?_⟩
    have := h _ hi.2
    have e : off + d + i.size - i.arg = off + i.size - i.arg + d := by omega
    rw [e]; exact this
  · rfl

theorem jumpsOk_mono {bnd1 bnd2 : Nat → Bool} {d : Nat} (h : ∀ t, bnd1 t = true → bnd2 (t + d) = true) :
    ∀ (off : Nat) (is : List Instr), jumpsOk bnd1 off is = true → jumpsOk bnd2 (off + d) is = true
  | _, [], _ => rfl
  | off, i :: is, hi => by
    simp only [jumpsOk_cons, Bool.and_eq_true] at hi ⊢
    refine ⟨jumpOk_mono h off i hi.1, ?_⟩
    have := jumpsOk_mono h (off + i.size) is hi.2
    have e : off + d + i.size = off + i.size + d := by omega
    rw [e]; exact this

/-- every jump of `is` lands on an instruction boundary of `is`, its end included: `wfInstrs`' jump test, with offsets from 0 -/
def JumpsClosed (is : List Instr) : Prop := jumpsOk (instrBoundary is) 0 is = true

/-- a fragment that may be left by a forward jump into the code that follows it (the `break` of a loop body) -/
def JumpsTo (is post : List Instr) : Prop := jumpsOk (instrBoundary (is ++ post)) 0 is = true

theorem JumpsTo.place {a post : List Instr} (h : JumpsTo a post) (pre : List Instr) :
    jumpsOk (instrBoundary (pre ++ (a ++ post))) (codeSize pre) a = true := by
  have := jumpsOk_mono (d := codeSize pre)
    (fun t ht => boundary_skip pre _ _ (Nat.le_add_left _ _) (by rw [Nat.add_sub_cancel]; exact ht)) 0 a h
  rwa [Nat.zero_add] at this

theorem JumpsClosed.to {is : List Instr} (h : JumpsClosed is) (post : List Instr) : JumpsTo is post :=
  jumpsOk_mono (d := 0) (fun t ht => boundary_append_left is post t ht) 0 is h

theorem JumpsTo.closed {is : List Instr} (h : JumpsTo is []) : JumpsClosed is := by
  rwa [JumpsTo, List.append_nil] at h

theorem JumpsTo.append {a b post : List Instr} (ha : JumpsTo a (b ++ post)) (hb : JumpsTo b post) :
    JumpsTo (a ++ b) post := by
  rw [JumpsTo, jumpsOk_append, List.append_assoc, Bool.and_eq_true, Nat.zero_add]
  exact ⟨ha, hb.place a⟩

theorem JumpsTo.plain {op : Op} {arg : Nat} (h1 : op.argClass ≠ .jumpFwd) (h2 : op.argClass ≠ .jumpBack)
    (post : List Instr) : JumpsTo [⟨op, arg⟩] post := by
  rw [JumpsTo, jumpsOk_cons, jumpsOk_nil, Bool.and_true]
  unfold jumpOk
  split
  · rename_i hc; exact absurd hc h1
  · rename_i hc; exact absurd hc h2
  · rfl

theorem JumpsTo.jump {op : Op} {k : Nat} {post : List Instr} (hop : op.argClass = .jumpFwd)
    (hk : instrBoundary post k = true) : JumpsTo [⟨op, k⟩] post := by
  rw [JumpsTo, jumpsOk_cons, jumpsOk_nil, Bool.and_true]
  simp only [jumpOk, hop]
  exact boundary_cons_of _ _ _ (by omega) (by rw [show ∀ s : Nat, 0 + s + k - s = k by omega]; exact hk)

/-- `cond; JumpIfFalse end; inner; JumpBackward cond; end:` — the shape of `emitLoop`'s loop.  `inner` may
    itself jump behind the loop (into `post`). -/
theorem JumpsTo.loop {cond inner post : List Instr} {back : Nat} (hc : JumpsClosed cond)
    (hi : JumpsTo inner (⟨.jumpBackward, back⟩ :: post)) (hback : back = codeSize cond + 3 + codeSize inner + 3) :
    JumpsTo (cond ++ ⟨.jumpIfFalse, codeSize inner + 3⟩ :: (inner ++ [⟨.jumpBackward, back⟩])) post := by
  have hin := hi.place (cond ++ [⟨.jumpIfFalse, codeSize inner + 3⟩])
  simp only [List.append_assoc, List.cons_append, List.nil_append, codeSize_append, codeSize_cons, codeSize_nil,
    Nat.add_zero] at hin
  rw [JumpsTo, jumpsOk_append, jumpsOk_cons, jumpsOk_append, jumpsOk_cons, jumpsOk_nil]
  simp only [List.append_assoc, List.cons_append, List.nil_append, Bool.and_eq_true, Bool.and_true, Nat.zero_add]
  have hsz : Instr.size ⟨.jumpIfFalse, codeSize inner + 3⟩ = 3 ∧ Instr.size ⟨.jumpBackward, back⟩ = 3 := ⟨rfl, rfl⟩
  refine ⟨hc.to _, ?_, hin, ?_⟩
  · -- the exit jump lands behind the backward jump, where `post` begins
    refine (boundary_iff_prefix _ _).2 ⟨cond ++ ⟨.jumpIfFalse, codeSize inner + 3⟩ :: (inner ++ [⟨.jumpBackward, back⟩]), post,
      by simp only [List.append_assoc, List.cons_append, List.nil_append], ?_⟩
    simp only [codeSize_append, codeSize_cons, codeSize_nil]
    omega
  · -- the backward jump returns to offset 0, the first instruction of `cond`
    simp only [jumpOk, Op.argClass, Bool.and_eq_true, decide_eq_true_eq]
    exact ⟨by omega, boundary_zero' _ _ (by omega)⟩

@[simp] theorem nestOk_nil (d : Nat) : nestOk d [] = some d := rfl

theorem nestOk_append : ∀ (d : Nat) (a b : List Instr), nestOk d (a ++ b) = (nestOk d a).bind (fun d' => nestOk d' b)
  | d, [], b => by simp
  | d, i :: a, b => by
    simp only [List.cons_append, nestOk]
    split
    · exact nestOk_append _ a b
    · split
      · split
        · rfl
        · exact nestOk_append _ a b
      · exact nestOk_append _ a b

/-- Begin/End balanced: from any depth the fragment returns to that depth, never closing a scope it did not open -/
def NestBal (is : List Instr) : Prop := ∀ d, nestOk d is = some d

theorem NestBal.nil : NestBal [] := fun _ => rfl

theorem NestBal.append {a b : List Instr} (ha : NestBal a) (hb : NestBal b) : NestBal (a ++ b) := by
  intro d; simp [nestOk_append, ha d, hb d]

theorem NestBal.plain {op : Op} {arg : Nat} (h1 : op ≠ .begin_) (h2 : op ≠ .end_) : NestBal [⟨op, arg⟩] := by
  intro d; simp [nestOk, h1, h2]

theorem NestBal.scope {body : List Instr} (hb : NestBal body) :
    NestBal ([⟨.begin_, 0⟩] ++ body ++ [⟨.end_, 0⟩]) := by
  intro d
  simp [nestOk_append, nestOk, hb (d + 1)]

end ExprModel.Bc
