import ExprModel.Proofs.RefineOps
import ExprModel.Proofs.RefineFails
import ExprModel.Proofs.EvalLocErase
/-
C01: the simulation statement.  `Sim c P ctx n code`: wherever `code` sits in the program, running it from
a canonical VM state agrees with `Spec.eval` of `n` — the value is pushed and the observable state is the
Spec's, or the run fails with the Spec's class and observable state; stack and scopes below are returned
unchanged.  The proofs work with `SimC`, the same about a located computation `m : SML α` (for `evalLoc`, whose
erasure is `eval`): `m`'s result says where the run ends and, by `BAt P.blame m σ`, where a failure is blamed.
-/
namespace ExprModel.Refine
open ExprModel
open ExprModel.Spec
open ExprModel.Spec.SML

/-- the Spec's closure context against the VM's scopes: collection and index are the innermost scope's `array` and `i` -/
def ScopesOK (ctx : Ctx) (scs : List Scope) : Prop :=
  match ctx with
  | [] => scs = []
  | (coll, i) :: _ => ∃ sc rest, scs = sc :: rest ∧ lookupKv "array" sc = some coll ∧ lookupKv "i" sc = some (.int .int i)

/-- the blame obligation `BAt` (C13) is per evaluation: the caller hands it down -/
def Sim (c : Cfg) (P : LProg) (ctx : Ctx) (n : Node) (code : List LInstr) : Prop :=
  ∀ (k : Nat) (st : List Val) (scs : List Scope) (σ : SState) (r : R Val) (σ' : SState),
    CodeAt P k code → ScopesOK ctx scs → eval (specOf c) ctx n σ = (r, σ') →
    BAt P.blame (evalLoc (specOf c) ctx n) σ →
    Runs c P (vm k st scs σ c.budget) (outcome r (k + lsize code) st scs σ' c.budget)

def outcomeL (r : R (List Val)) (ip : Nat) (st : List Val) (scs : List Scope) (σ : SState) (lim : Int) : Res :=
  match r with
  | .ok vs => .ok (vm ip (vs.reverse ++ st) scs σ lim)
  | .error e => .err e σ

@[simp] theorem outcomeL_ok (vs ip st scs σ lim) : outcomeL (.ok vs) ip st scs σ lim = .ok (vm ip (vs.reverse ++ st) scs σ lim) := rfl
@[simp] theorem outcomeL_error (e ip st scs σ lim) : outcomeL (.error e) ip st scs σ lim = .err e σ := rfl

def SimL (c : Cfg) (P : LProg) (ctx : Ctx) (ns : List Node) (code : List LInstr) : Prop :=
  ∀ (k : Nat) (st : List Val) (scs : List Scope) (σ : SState) (r : R (List Val)) (σ' : SState),
    CodeAt P k code → ScopesOK ctx scs → evalList (specOf c) ctx ns σ = (r, σ') →
    BAt P.blame (evalListLoc (specOf c) ctx ns) σ →
    Runs c P (vm k st scs σ c.budget) (outcomeL r (k + lsize code) st scs σ' c.budget)

theorem CodeAt.cast {P k k' seg} (h : CodeAt P k seg) (e : k = k') : CodeAt P k' seg := e ▸ h

theorem Runs.to_ip {c P s r ip ip' st scs σ lim} (h : Runs c P s (outcome r ip st scs σ lim)) (e : ip = ip') :
    Runs c P s (outcome r ip' st scs σ lim) := e ▸ h

theorem Runs.to_ipL {c P s r ip ip' st scs σ lim} (h : Runs c P s (outcomeL r ip st scs σ lim)) (e : ip = ip') :
    Runs c P s (outcomeL r ip' st scs σ lim) := e ▸ h

theorem Reach.to_ip {c P s ip ip' st scs σ lim} (h : Reach c P s (vm ip st scs σ lim)) (e : ip = ip') :
    Reach c P s (vm ip' st scs σ lim) := e ▸ h

@[simp] theorem size_li (l : Loc) (op : Op) (a : Nat) : (li l op a).instr.size = if op.hasArg then 3 else 1 := rfl

theorem CodeAt.tail1 {P k l op a r} (h : CodeAt P k (li l op a :: r)) (ha : op.hasArg = false := by rfl) :
    CodeAt P (k + 1) r := by
  have := h.tail; rw [size_li, ha] at this; exact this

theorem CodeAt.tail3 {P k l op a r} (h : CodeAt P k (li l op a :: r)) (ha : op.hasArg = true := by rfl) :
    CodeAt P (k + 3) r := by
  have := h.tail; rw [size_li, ha] at this; exact this

/-- closes goals `ip₁ = ip₂` between byte offsets built from segment sizes -/
syntax "ip_arith" : tactic
macro_rules
  | `(tactic| ip_arith) =>
    `(tactic| ((try simp only [lsize_append, lsize_cons, lsize_nil, size_li, Op.hasArg, emitCond, emitLoop, List.map_cons,
                List.map_nil, List.cons_append, List.nil_append, List.append_assoc,
                Bool.false_eq_true, if_true, if_false]) <;> omega))

/-- `outcome` is `endOf one` and `outcomeL` is `endOf List.reverse`, both after `dropLoc` -/
def endOf {α : Type} (push : α → List Val) (x : Except LErr α × SState) (ip : Nat) (st : List Val) (scs : List Scope)
    (lim : Int) : Res :=
  match x with
  | (.ok a, σ) => .ok (vm ip (push a ++ st) scs σ lim)
  | (.error e, σ) => .err e.1 σ

theorem Runs.to_ipC {α : Type} {c P s} {push : α → List Val} {x ip ip' st scs lim}
    (h : Runs c P s (endOf push x ip st scs lim)) (e : ip = ip') : Runs c P s (endOf push x ip' st scs lim) := e ▸ h

/-- from a stack with `pre` on top the run follows `m`: `push a` replaces `pre`, or it fails as `m` does -/
def SimC (c : Cfg) (P : LProg) (ctx : Ctx) {α : Type} (pre : List Val) (push : α → List Val) (m : SML α)
    (code : List LInstr) : Prop :=
  ∀ (k : Nat) (st : List Val) (scs : List Scope) (σ : SState), CodeAt P k code → ScopesOK ctx scs → BAt P.blame m σ →
    Runs c P (vm k (pre ++ st) scs σ c.budget) (endOf push (m σ) (k + lsize code) st scs c.budget)

abbrev one : Val → List Val := fun v => [v]

theorem outcome_dropLoc (x : Except LErr Val × SState) (ip st scs lim) :
    outcome (dropLoc x).1 ip st scs (dropLoc x).2 lim = endOf one x ip st scs lim := by
  obtain ⟨r, s⟩ := x
  cases r <;> rfl

theorem outcomeL_dropLoc (x : Except LErr (List Val) × SState) (ip st scs lim) :
    outcomeL (dropLoc x).1 ip st scs (dropLoc x).2 lim = endOf List.reverse x ip st scs lim := by
  obtain ⟨r, s⟩ := x
  cases r <;> rfl

theorem sim_iff {c : Cfg} {P : LProg} {ctx : Ctx} {n : Node} {code : List LInstr} :
    Sim c P ctx n code ↔ SimC c P ctx [] one (evalLoc (specOf c) ctx n) code := by
  constructor
  · intro h k st scs σ hc hsc hB
    have := h k st scs σ _ _ hc hsc rfl hB
    rwa [← evalLoc_dropLoc, outcome_dropLoc] at this
  · intro h k st scs σ r σ' hc hsc hev hB
    have := h k st scs σ hc hsc hB
    rwa [← outcome_dropLoc, evalLoc_dropLoc, hev] at this

theorem simL_iff {c : Cfg} {P : LProg} {ctx : Ctx} {ns : List Node} {code : List LInstr} :
    SimL c P ctx ns code ↔ SimC c P ctx [] List.reverse (evalListLoc (specOf c) ctx ns) code := by
  have hd : ∀ σ, dropLoc (evalListLoc (specOf c) ctx ns σ) = evalList (specOf c) ctx ns σ := fun σ => by
    rw [← erase_dropLoc, evalListLoc_erase]
  constructor
  · intro h k st scs σ hc hsc hB
    have := h k st scs σ _ _ hc hsc rfl hB
    rwa [← hd, outcomeL_dropLoc] at this
  · intro h k st scs σ r σ' hc hsc hev hB
    have := h k st scs σ hc hsc hB
    rwa [← outcomeL_dropLoc, hd, hev] at this

section
variable {c : Cfg} {P : LProg} {ctx : Ctx} {α β : Type}

/-- `f a` runs on the stack `m` leaves; `a` is a value `m` does yield -/
theorem SimC.bindYielded {pre : List Val} {pa : α → List Val} {pb : β → List Val} {m : SML α} {f : α → SML β}
    {ca cb : List LInstr} (hm : SimC c P ctx pre pa m ca)
    (hf : ∀ a, (∃ σ σ1, m σ = (.ok a, σ1)) → SimC c P ctx (pa a) pb (f a) cb) :
    SimC c P ctx pre pb (m >>= f) (ca ++ cb) := by
  intro k st scs σ hc hsc hB
  have h1 := hm k st scs σ hc.left hsc hB.left
  rw [SML.bind_apply]
  cases hmσ : m σ with
  | mk r σ1 =>
    rw [hmσ] at h1
    cases r with
    | error e => exact h1
    | ok a =>
      exact Reach.runs h1 ((hf a ⟨σ, σ1, hmσ⟩ _ st scs σ1 hc.right hsc (hB.right hmσ)).to_ipC
        (by rw [lsize_append, Nat.add_assoc]))

theorem SimC.bind {pre : List Val} {pa : α → List Val} {pb : β → List Val} {m : SML α} {f : α → SML β}
    {ca cb : List LInstr} (hm : SimC c P ctx pre pa m ca) (hf : ∀ a, SimC c P ctx (pa a) pb (f a) cb) :
    SimC c P ctx pre pb (m >>= f) (ca ++ cb) := hm.bindYielded fun a _ => hf a

theorem SimC.under {push : α → List Val} {m : SML α} {code : List LInstr} (h : SimC c P ctx [] push m code)
    (ex : List Val) : SimC c P ctx ex (fun a => push a ++ ex) m code := by
  intro k st scs σ hc hsc hB
  have := h k (ex ++ st) scs σ hc hsc hB
  cases hm : m σ with
  | mk r σ1 =>
    rw [hm] at this
    cases r with
    | error e => exact this
    | ok a => simpa only [endOf, List.append_assoc, List.nil_append] using this

theorem SimC.map {pre : List Val} {pa : α → List Val} {pb : β → List Val} {m : SML α} {code : List LInstr}
    (h : SimC c P ctx pre pa m code) (g : α → β) (hp : ∀ a, pb (g a) = pa a) :
    SimC c P ctx pre pb (m >>= fun a => pure (g a)) code := by
  intro k st scs σ hc hsc hB
  have := h k st scs σ hc hsc hB.left
  rw [SML.bind_apply]
  cases hm : m σ with
  | mk r σ1 =>
    rw [hm] at this
    cases r with
    | error e => exact this
    | ok a => simpa only [endOf, SML.pure_apply, hp] using this

theorem SimC.const {pre : List Val} {push : α → List Val} {a : α} {code : List LInstr}
    (h : ∀ k st scs σ, CodeAt P k code →
      Runs c P (vm k (pre ++ st) scs σ c.budget) (.ok (vm (k + lsize code) (push a ++ st) scs σ c.budget))) :
    SimC c P ctx pre push (Pure.pure a) code :=
  fun k st scs σ hc _ _ => h k st scs σ hc

theorem SimC.pushConst {pre : List Val} {l : Loc} {k : Nat} {v : Val} (hk : P.consts[k]? = some v) :
    SimC c P ctx pre (fun x => x :: pre) (Pure.pure v) [li l .push k] :=
  SimC.const fun _ _ _ _ hc => Runs.push hc hk (Reach.refl _)

/-- the node's own rule `t`, which comes to `res` (result and state), computed by `code` above the values `keep` -/
theorem SimC.raised {pre keep : List Val} {l : Loc} {t : SM Val} {code : List LInstr} (res : SState → R Val × SState)
    (ht : ∀ σ, t σ = res σ)
    (h : ∀ k st scs σ, CodeAt P k code → RBlame P l (res σ).1 →
      Runs c P (vm k (pre ++ st) scs σ c.budget)
        (outcome (res σ).1 (k + lsize code) (keep ++ st) scs (res σ).2 c.budget)) :
    SimC c P ctx pre (fun v => v :: keep) (raisedAt l t) code := by
  intro k st scs σ hc hsc hB
  have := h k st scs σ hc (fun e he => hB.raised (r := (res σ).1) (σ' := (res σ).2) (ht σ) e he)
  rw [raisedAt_apply, ht]
  cases hr : res σ with
  | mk r σ1 =>
    rw [hr] at this
    cases r <;> exact this

theorem SimC.lifted {pre keep : List Val} {l : Loc} {res : R Val} {code : List LInstr}
    (h : ∀ k st scs σ, CodeAt P k code → RBlame P l res →
      Runs c P (vm k (pre ++ st) scs σ c.budget) (outcome res (k + lsize code) (keep ++ st) scs σ c.budget)) :
    SimC c P ctx pre (fun v => v :: keep) (raisedAt l (SM.lift res)) code :=
  SimC.raised (fun σ => (res, σ)) (SM.lift_apply res) h

theorem SimC.then_ {pre : List Val} {pa pb : α → List Val} {m : SML α} {ca cb : List LInstr}
    (hm : SimC c P ctx pre pa m ca)
    (h : ∀ a k st scs σ, CodeAt P k cb →
      Runs c P (vm k (pa a ++ st) scs σ c.budget) (.ok (vm (k + lsize cb) (pb a ++ st) scs σ c.budget))) :
    SimC c P ctx pre pb m (ca ++ cb) := by
  intro k st scs σ hc hsc hB
  have h1 := hm k st scs σ hc.left hsc hB
  cases hmσ : m σ with
  | mk r σ1 =>
    rw [hmσ] at h1
    cases r with
    | error e => exact h1
    | ok a => exact Reach.runs h1 (Reach.to_ip (h a _ st scs σ1 hc.right) (by rw [lsize_append, Nat.add_assoc]))

theorem SM.lift_map_apply {α β : Type} (r : R α) (g : α → β) (σ : SState) :
    (SM.lift r >>= fun x => Pure.pure (g x) : SM β) σ = (r.map g, σ) := by cases r <;> rfl

/-- a goal that may be proved after any prefix of the run (`after`) and, for a failing `y`, by failing as `y` says
    (`err`): `Runs c P s (F y)`, the loops' `LoopPost` -/
structure RunGoal (c : Cfg) (P : LProg) {β : Type} (G : VM → Except LErr β × SState → Prop) : Prop where
  after : ∀ {s s' y}, Reach c P s s' → G s' y → G s y
  err : ∀ {s e σ}, ReachErr c P s e.1 σ → G s (.error e, σ)

theorem RunGoal.runs {β : Type} {F : Except LErr β × SState → Res} (hF : ∀ e σ, F (.error e, σ) = .err e.1 σ) :
    RunGoal c P (fun s y => Runs c P s (F y)) :=
  ⟨Reach.runs, fun {s e σ} h => by rw [hF]; exact h⟩

/-- a conditional jump (`OpJumpIfTrue` for `jt = true`, else `OpJumpIfFalse`) on the value `x` on top of the stack,
    which stays: `asBool x`, raised at the jump's location, decides -/
theorem RunGoal.branch {β : Type} {G : VM → Except LErr β × SState → Prop} (hG : RunGoal c P G) {jt : Bool} {o k : Nat}
    {x : Val} {l : Loc} {r : List LInstr} {st : List Val} {scs : List Scope} {σ : SState} {lim : Int} {g : Bool → SML β}
    (h : CodeAt P k (li l (if jt then .jumpIfTrue else .jumpIfFalse) o :: r))
    (hB : BAt P.blame (raisedAt l (asBool x) >>= g) σ)
    (hjump : BAt P.blame (g jt) σ → G (vm (k + 3 + o) (.bool jt :: st) scs σ lim) (g jt σ))
    (hfall : BAt P.blame (g (!jt)) σ → G (vm (k + 3) (.bool (!jt) :: st) scs σ lim) (g (!jt) σ)) :
    G (vm k (x :: st) scs σ lim) ((raisedAt l (asBool x) >>= g) σ) := by
  by_cases hx : ∃ b, x = .bool b
  · obtain ⟨b, rfl⟩ := hx
    have hBg : BAt P.blame (g b) σ := hB.right (a := b) rfl
    show G _ (g b σ)
    cases jt <;> cases b
    · exact hG.after (Runs.jumpIf (Q := .ok _) h (Reach.refl _)) (hjump hBg)
    · exact hG.after (Runs.jumpIf (Q := .ok _) h (Reach.refl _)) (hfall hBg)
    · exact hG.after (Runs.jumpIf (Q := .ok _) h (Reach.refl _)) (hfall hBg)
    · exact hG.after (Runs.jumpIf (Q := .ok _) h (Reach.refl _)) (hjump hBg)
  · have hnb : ∀ b, x ≠ .bool b := fun b hb => hx ⟨b, hb⟩
    have he : (raisedAt l (asBool x) >>= g) σ = (.error (.type_, l), σ) := by rw [asBool_other hnb]; rfl
    rw [he]
    exact hG.err (Runs.jumpIf_err h hnb (hB _ _ _ he))

theorem Runs.andThenC {s : VM} {push : α → List Val} {x : Except LErr α × SState} {ip st scs lim Q}
    (h1 : Runs c P s (endOf push x ip st scs lim))
    (hok : ∀ a σ, x = (.ok a, σ) → Runs c P (vm ip (push a ++ st) scs σ lim) Q)
    (herr : ∀ e σ, x = (.error e, σ) → Q = .err e.1 σ) : Runs c P s Q := by
  obtain ⟨r, σ⟩ := x
  cases r with
  | ok a => exact Reach.runs h1 (hok a σ rfl)
  | error e => rw [herr e σ rfl]; exact h1

end

end ExprModel.Refine
