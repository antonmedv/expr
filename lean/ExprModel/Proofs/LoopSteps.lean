import ExprModel.Proofs.RefineSteps
import ExprModel.Proofs.VMHelpers
/-
The dispatch loop against `Refine.Steps`: induction over `loop`, invariants along `Steps`, and `Runs` read both ways
from the start of a whole run: what `loop` computes for enough fuel (`loop_runs`), and which failure a failing step is
(`Runs.failing_step`).
-/
namespace ExprModel
open ExprModel.Refine

variable {c : Cfg} {p : Prog}

theorem loop_induct (c : Cfg) (p : Prog) (I : VM → Prop) (Post : R Val → VM → Prop)
    (hfuel : ∀ s, I s → Post (.error .fuel) s)
    (hstep : ∀ s s', I s → s.ip < p.code.size → step c p s = .ok s' → I s')
    (herr : ∀ s e s', I s → s.ip < p.code.size → step c p s = .error (e, s') → Post (.error e) s')
    (hexit1 : ∀ s v rest, I s → s.stack = v :: rest → Post (.ok v) { s with stack := rest })
    (hexit2 : ∀ s, I s → Post (.ok .nil) s) :
    ∀ fuel s, I s → Post (loop c p fuel s).1 (loop c p fuel s).2
  | 0, s, hi => hfuel s hi
  | fuel + 1, s, hi => by
    rcases Nat.lt_or_ge s.ip p.code.size with hlt | hge
    · cases hst : step c p s with
      | ok s' =>
        rw [loop_step fuel hlt hst]
        exact loop_induct c p I Post hfuel hstep herr hexit1 hexit2 fuel s' (hstep s s' hi hlt hst)
      | error es =>
        rw [loop_fail fuel hlt hst]
        exact herr s es.1 es.2 hi hlt hst
    · cases hs : s.stack with
      | cons v rest =>
        rw [loop_halt_cons fuel hge hs]
        exact hexit1 s v rest hi hs
      | nil =>
        rw [loop_halt_nil fuel hge hs]
        exact hexit2 s hi

theorem steps_snoc {s t t' : VM} (h : Steps c p s t) (hlt : t.ip < p.code.size) (hst : step c p t = .ok t') :
    Steps c p s t' :=
  h.trans (.step hlt hst (.refl _))

theorem steps_inv {I : VM → Prop} (hstep : ∀ s s', I s → s.ip < p.code.size → step c p s = .ok s' → I s')
    {s t : VM} (h : Steps c p s t) (hi : I s) : I t := by
  induction h with
  | refl => exact hi
  | step hlt hs _ ih => exact ih (hstep _ _ hi hlt hs)

theorem loop_error {P : Prog} (fuel : Nat) (s : VM) (e : ErrClass) (s' : VM)
    (h : loop c P fuel s = (.error e, s')) (he : e ≠ .fuel) :
    ∃ s1, Steps c P s s1 ∧ s1.ip < P.code.size ∧ step c P s1 = .error (e, s') := by
  have := loop_induct c P (Steps c P s)
    (fun r t' => ∀ e, r = .error e → e ≠ .fuel → ∃ s1, Steps c P s s1 ∧ s1.ip < P.code.size ∧ step c P s1 = .error (e, t'))
    (fun _ _ e hr hne => by cases hr; exact absurd rfl hne)
    (fun _ _ hi hlt hst => steps_snoc hi hlt hst)
    (fun s1 _ _ hi hlt hst e hr _ => by cases hr; exact ⟨s1, hi, hlt, hst⟩)
    (fun _ _ _ _ _ e hr => by cases hr) (fun _ _ e hr => by cases hr) fuel s (.refl s)
  rw [h] at this
  exact this e rfl he

theorem run_fresh (c : Cfg) (p : Prog) (fuel : Nat) : run c p fuel = loop c p fuel (vm 0 [] [] {} c.budget) := by
  unfold run runOn prologue vm
  cases c.defects.memoryNotReset <;> rfl

theorem run_error_inv {fuel : Nat} {e : ErrClass} {s' : VM} (h : run c p fuel = (.error e, s')) (he : e ≠ .fuel) :
    ∃ s1, Steps c p (vm 0 [] [] {} c.budget) s1 ∧ s1.ip < p.code.size ∧ step c p s1 = .error (e, s') := by
  rw [run_fresh] at h
  exact loop_error fuel _ e s' h he

theorem steps_not_ok {s t : VM} (h : Steps c p s t) (hin : t.ip < p.code.size)
    (hstuck : ∀ t', step c p t ≠ .ok t') : ∀ fuel v, (loop c p fuel s).1 ≠ .ok v := by
  induction h with
  | refl s =>
    intro fuel v
    cases fuel with
    | zero => exact nofun
    | succ f =>
      cases hst : step c p s with
      | ok s' => exact absurd hst (hstuck s')
      | error es =>
        rw [loop_fail f hin hst]
        exact nofun
  | step hlt hs _ ih =>
    intro fuel v
    cases fuel with
    | zero => exact nofun
    | succ f =>
      rw [loop_step f hlt hs]
      exact ih hin hstuck f v

end ExprModel

namespace ExprModel.Refine
open ExprModel.Spec (SState)

/-- `step` is a function, so the run from `s` into a failing step passes through every state reachable from `s` -/
theorem steps_before_fail {c : Cfg} {P : Prog} {s a b : VM} {x : ErrClass × VM}
    (ha : Steps c P s a) (hax : step c P a = .error x) (hb : Steps c P s b) : Steps c P b a := by
  induction hb with
  | refl => exact ha
  | step _ hst _ ih =>
    cases ha with
    | refl => rw [hax] at hst; cases hst
    | step _ hst' rest =>
      rw [hst] at hst'
      cases hst'
      exact ih rest

/-- whichever step of a run fails is the failure `Runs` names, so its class is blamed on the instruction found there.  By
    `steps_before_fail` the state `Runs` names lies before the failing step: a state behind the code does not, and
    another failing step takes no step towards it. -/
theorem Runs.failing_step {c : Cfg} {P : LProg} {s s1 s2 : VM} {e : ErrClass} {r : R Val} {ip : Nat} {st : List Val}
    {scs : List Scope} {σ : SState} {lim : Int} (h : Runs c P s (outcome r ip st scs σ lim))
    (hend : P.prog.code.size ≤ ip) (hst : Steps c P.prog s s1) (hlt : s1.ip < P.prog.code.size)
    (hstep : step c P.prog s1 = .error (e, s2)) : ∃ i rest, CodeAt P s1.ip (i :: rest) ∧ P.blame e i.loc := by
  cases r with
  | ok v =>
    obtain ⟨t, ht, htt⟩ := h
    have hip : P.prog.code.size ≤ t.ip := by rw [ip_of_noPP htt]; exact hend
    cases steps_before_fail hst hstep ht with
    | refl => omega
    | step hlt' _ _ => omega
  | error e' =>
    obtain ⟨s1', s2', hst', _, hstep', _, hat⟩ := h
    cases steps_before_fail hst hstep hst' with
    | refl =>
      cases hstep.symm.trans hstep'
      exact hat
    | step _ hs _ => rw [hstep'] at hs; cases hs

theorem loop_of_steps {c P s t} (h : Steps c P s t) : ∃ n, ∀ fuel, loop c P (fuel + n) s = loop c P fuel t := by
  induction h with
  | refl => exact ⟨0, fun _ => rfl⟩
  | step hlt hst _ ih =>
    obtain ⟨n, hn⟩ := ih
    refine ⟨n + 1, fun fuel => ?_⟩
    rw [← Nat.add_assoc, loop_step _ hlt hst]
    exact hn fuel

theorem loop_runs {c : Cfg} {P : LProg} {s : VM} {r : R Val} {ip : Nat} {st : List Val} {scs : List Scope} {σ : SState}
    {lim : Int} (h : Runs c P s (outcome r ip st scs σ lim)) (hend : P.prog.code.size ≤ ip) :
    ∃ N, ∀ fuel, N ≤ fuel → ∃ t, loop c P.prog fuel s = (r, t) ∧ obs t = σ ∧
      ∀ v, r = .ok v → t.stack = st ∧ t.scopes = scs := by
  cases r with
  | ok v =>
    obtain ⟨t', hs, ht'⟩ := h
    obtain ⟨n, hn⟩ := loop_of_steps hs
    refine ⟨n + 1, fun fuel hf => ?_⟩
    obtain ⟨k, rfl⟩ : ∃ k, fuel = (k + 1) + n := ⟨fuel - n - 1, by omega⟩
    rw [hn]
    -- the eight fields of `VM` in the order of its declaration; the fourth equation is about `pp`, which `noPP` resets
    obtain ⟨st', scs', ip', pp', mem', lim', cr', lg'⟩ := t'
    simp only [noPP, vm, VM.mk.injEq] at ht'
    obtain ⟨rfl, rfl, rfl, -, rfl, rfl, rfl, rfl⟩ := ht'
    rw [loop_halt_cons k hend rfl]
    exact ⟨_, rfl, rfl, fun _ _ => ⟨rfl, rfl⟩⟩
  | error e =>
    obtain ⟨s1, s2, hs, hlt, hst, ho, _⟩ := h
    obtain ⟨n, hn⟩ := loop_of_steps hs
    refine ⟨n + 1, fun fuel hf => ?_⟩
    obtain ⟨k, rfl⟩ : ∃ k, fuel = (k + 1) + n := ⟨fuel - n - 1, by omega⟩
    rw [hn, loop_fail k hlt hst]
    exact ⟨s2, rfl, ho, fun _ h => by cases h⟩

end ExprModel.Refine
