import ExprModel.Proofs.RefineTails
import ExprModel.Proofs.Outcome
/-
C01/C05: the failure classes of the language itself, `Benign` (type, index, divzero, budget, call), as against the
VM's internal ones (`underflow`: pop of an empty stack / missing scope; `badop`: malformed program; `fuel`).
`Classes Q w`: `Q` holds them and whatever `w`'s functions report; then the tails of the clauses of `Spec.eval` fail in
`Q` (namespace `Fails`).
-/
namespace ExprModel.Refine
open ExprModel
open ExprModel.Spec

def Benign (e : ErrClass) : Prop := e = .type_ ∨ e = .index ∨ e = .divzero ∨ e = .budget ∨ e = .call

/-- `ErrsIn Benign r` written out; the rules of `ErrsIn` (`ok`, `error`, `mono`) apply to it as they stand -/
def RBenign {α : Type} (r : R α) : Prop := ∀ e, r = .error e → Benign e

/-- `Fails Benign m` written out (`Fails.smBenign`) -/
def SMBenign {α : Type} (m : SM α) : Prop := ∀ σ e σ', m σ = (.error e, σ') → Benign e

/-- closes `h : <constructor> = .error e ⊢ Benign e` -/
macro "close_err" h:ident : tactic =>
  `(tactic| first | (cases $h:ident; done)
                  | (cases $h:ident; first | exact .inl rfl | exact .inr (.inl rfl) | exact .inr (.inr (.inl rfl))))

theorem _root_.ExprModel.LibErr.benign {e : ErrClass} (h : LibErr e) : Benign e := by
  rcases h with h | h | h
  · exact .inl h
  · exact .inr (.inl h)
  · exact .inr (.inr (.inl h))

theorem _root_.ExprModel.ErrsIn.benign {α : Type} {r : R α} (h : ErrsIn LibErr r) : RBenign r := h.mono fun _ => LibErr.benign

theorem lib_eqIntR (a b : Val) : ErrsIn LibErr (eqIntR a b) := by
  unfold eqIntR
  split
  · exact ErrsIn.ok _
  · exact ErrsIn.error (.inl rfl)
theorem lib_eqStrR (a b : Val) : ErrsIn LibErr (eqStrR a b) := by
  unfold eqStrR
  split
  · exact ErrsIn.ok _
  · exact ErrsIn.error (.inl rfl)
theorem lib_powR (w : World) (a b : Val) : ErrsIn LibErr (powR w a b) := by
  unfold powR
  split
  · exact ErrsIn.ok _
  · exact ErrsIn.error (.inl rfl)
theorem lib_matchR (w : World) (a b : Val) : ErrsIn LibErr (matchR w a b) := by
  unfold matchR
  split
  · split
    · exact ErrsIn.ok _
    · exact ErrsIn.error (.inl rfl)
  · exact ErrsIn.error (.inl rfl)

/-- a panic inside an environment function is `call` -/
def WorldOK (w : World) : Prop := ∀ id args, RBenign (w.call id args)

theorem lib_buildMap_even (flat : List Val) (h : flat.length % 2 = 0) : ErrsIn LibErr (buildMap flat) :=
  (lib_buildMap flat).mono fun e he => he.elim id fun ⟨_, ho⟩ => by omega

/-- every failure of `m`, from any state, has its class in `Q` -/
abbrev Fails {α : Type} (Q : ErrClass → Prop) (m : SM α) : Prop := SMOK Q (fun _ => True) m

structure Classes (Q : ErrClass → Prop) (w : World) : Prop where
  benign : ∀ e, Benign e → Q e
  world : ∀ id args, ErrsIn Q (w.call id args)

theorem Classes.ofWorldOK {w : World} (hw : WorldOK w) : Classes Benign w := ⟨fun _ h => h, hw⟩

namespace Fails
variable {Q : ErrClass → Prop} {α β : Type}

theorem smBenign {m : SM α} (h : Fails Benign m) : SMBenign m := fun _ _ _ he => h.error he

/-- the shape of the seven clauses `Spec.eval_builtin_<name>` -/
theorem loop {α : Type} {ma : SM Val} (ha : Fails Q ma) (hlen : ∀ coll, ErrsIn Q (lengthV coll))
    {body : Val → Nat → α → SM (α ⊕ Val)} {acc0 : α} {k : Int → α ⊕ Val → SM Val}
    (hbody : ∀ coll i acc, Fails Q (body coll i acc)) (hk : ∀ n r, Fails Q (k n r)) :
    Fails Q (ma >>= fun coll => SM.lift (lengthV coll) >>= fun n => loopIdx (body coll) n.toNat 0 acc0 >>= k n) :=
  smok_loop ha (fun coll _ => (hlen coll).rok) (fun _ => True) (fun _ => True) trivial
    (fun coll _ i acc _ => smok_mono (hbody coll i acc) fun r _ => by cases r <;> trivial) fun n r _ => hk n r

-- every lemma from here to `omit` takes `hQ` as its first explicit argument
variable (hQ : ∀ e, Benign e → Q e)
include hQ

theorem lift {r : R α} (h : ErrsIn LibErr r) : Fails Q (SM.lift r) := smok_lift (ErrsIn.rok fun e he => hQ e (h e he).benign)

theorem type_ : Fails Q (SM.fail .type_ : SM α) := smok_fail (hQ _ (.inl rfl))

theorem asBool (v : Val) : Fails Q (Spec.asBool v) := smok_asBool_of v (fun _ _ => trivial) fun _ => hQ _ (.inl rfl)

theorem allocAfter (lim counted : Int) (built : Nat) : Fails Q (SM.allocAfter lim counted built) :=
  smok_allocAfter (hQ _ (.inr (.inr (.inr (.inl rfl))))) _ _ _

theorem allocBefore (lim counted : Int) (built : Nat) : Fails Q (SM.allocBefore lim counted built) :=
  smok_allocBefore (hQ _ (.inr (.inr (.inr (.inl rfl))))) _ _ _

theorem ofBinTail (sc : SCfg) {op : String} {ops : List Op} (l r : Node) (h : binSimpleOp op = some ops) (a b : Val) :
    Fails Q (binTail sc op l r a b) := by
  obtain ⟨_, row⟩ := binSimple_row sc l r h
  cases row with
  | ne e => rw [e]; exact smok_pure trivial
  | in_ e => rw [e]; exact smok_map (lift hQ (lib_inV a b))
  | notin e => rw [e]; exact smok_map (lift hQ (lib_inV a b))
  | arith _ e => rw [e]; exact lift hQ (lib_binHelper _ a b)
  | pow e => rw [e]; exact lift hQ (lib_powR _ a b)
  | strop _ e => rw [e]; exact lift hQ (lib_strOp _ a b)
  | range e =>
    subst e
    exact smok_bind (lift hQ (lib_toIntR a)) fun lo _ => smok_bind (lift hQ (lib_toIntR b)) fun hi _ =>
      smok_bind (allocBefore hQ _ _ _) fun _ _ => smok_pure trivial

theorem ofBinTailEq (sc : SCfg) (l r : Node) (a b : Val) : Fails Q (binTail sc "==" l r a b) := by
  rw [binTail_eq]
  exact smok_ite (fun _ => lift hQ (lib_eqIntR a b)) fun _ =>
    smok_ite (fun _ => lift hQ (lib_eqStrR a b)) fun _ => smok_pure trivial

omit hQ in
theorem callMember {w : World} (C : Classes Q w) (obj : Val) (name : String) (args : List Val) :
    ErrsIn Q (callMember w obj name args) := fun e h =>
  (lib_callMember w obj name args e h).elim (fun he => he ▸ C.benign _ (.inl rfl)) fun ⟨_, hid⟩ => C.world _ _ _ hid

end Fails

end ExprModel.Refine
