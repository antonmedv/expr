import ExprModel.Proofs.RefineLoopB
import ExprModel.Proofs.RefineSimAll
/-
C01: the seven loop builtins discharge `LoopCase` (for collections of fewer than 2^63 elements).
-/
namespace ExprModel.Refine
open ExprModel
open ExprModel.Spec

theorem loopCase_holds (c : Cfg) (P : LProg) : LoopCase c P (SmallColl c) := by
  intro m name a b ca cb ci cs car c0 code ctx hL ha hb hK hcode
  have ha' := sim_iff.1 (ha ctx)
  have hb' := fun ctx' => sim_iff.1 (hb ctx')
  refine sim_iff.2 ?_
  rcases hcode with ⟨rfl, rfl⟩ | ⟨rfl, rfl⟩ | ⟨rfl, rfl⟩ | ⟨rfl, cc, c1, hcc, hc1, rfl⟩ | ⟨rfl, cc, hcc, rfl⟩ |
    ⟨rfl, rfl⟩ | ⟨rfl, cc, hcc, rfl⟩
  · rw [evalLoc_all]
    exact SimC.quant (jt := false) (bv := true) (neg := false) rfl rfl rfl ha' hb' hL hK
  · rw [evalLoc_none]
    exact SimC.quant (jt := false) (bv := true) (neg := true) rfl rfl rfl ha' hb' hL hK
  · rw [evalLoc_any]
    exact SimC.quant (jt := true) (bv := false) (neg := false) rfl rfl rfl ha' hb' hL hK
  · rw [evalLoc_one]
    refine SimC.counting (fun _ _ => rfl) ha' hb' hL hK hcc fun N k st scs σ sc' accF h hlook => ?_
    refine Runs.load h hcc ?_
    rw [hlook]
    exact Runs.push h.tail3 hc1 (Runs.equal h.tail3.tail3 (Runs.end_ h.tail3.tail3.tail1 (Reach.refl _)))
  · exact SimC.filter ha' hb' hL hK hcc
  · exact SimC.bmap ha' hb' hL hK
  · rw [evalLoc_count]
    refine SimC.counting (fun _ _ => rfl) ha' hb' hL hK hcc fun N k st scs σ sc' accF h hlook => ?_
    refine Runs.load h hcc ?_
    rw [hlook]
    exact Runs.end_ h.tail3 (Reach.refl _)

end ExprModel.Refine
