import ExprModel.Proofs.LexLoop
/-
Completeness of the lexer for laid-out token lists (the lexing half of the print/parse round trip C11): if every token is written in a
spelling that the lexer reads back whatever follows (`Spells`, with a condition on the following text that
excludes fusing), then the text "gap, spelling, gap, spelling, …, trailing white space" lexes to exactly these
tokens, as far as kinds and values go (`lexLoop_items`), followed by EOF.
-/
namespace ExprModel.Lex

/-- `ok rest`: nothing at the head of `rest` fuses with `raw` -/
def Spells (cc : CharClass) (k : TokKind) (v : String) (raw : List Char) (ok : List Char → Prop) : Prop :=
  raw ≠ [] ∧ ∀ (s : LState) (L : Loc) (rest : List Char), Fresh s L (raw ++ rest) → ok rest →
    ∃ s1, root cc LexTables.std s (raw ++ rest) = .tok ⟨k, v, L⟩ s1 rest ∧ Fresh s1 (advLoc L raw) rest

theorem root_tok_inv {cc : CharClass} {s : LState} {L : Loc} {raw rest : List Char} {t : Token} {s1 : LState}
    (hf : Fresh s L (raw ++ rest)) (hr : root cc LexTables.std s (raw ++ rest) = .tok t s1 rest) :
    t.loc = L ∧ TextOf cc LexTables.std t raw ∧ Fresh s1 (advLoc L raw) rest := by
  have hs := root_spec cc s L (raw ++ rest) hf
  rw [hr] at hs
  obtain ⟨c, cs, e, _, w1, rfl, hl, _, htext, hfr⟩ := hs
  obtain rfl : raw = c :: w1 := List.append_cancel_right e
  exact ⟨hl, htext, hfr⟩

theorem spells_of_root {cc : CharClass} {k : TokKind} {v : String} {raw : List Char} {ok : List Char → Prop}
    (hne : raw ≠ [])
    (h : ∀ (s : LState) (L : Loc) (rest : List Char), Fresh s L (raw ++ rest) → ok rest →
      ∃ t s1, root cc LexTables.std s (raw ++ rest) = .tok t s1 rest ∧ t.kind = k ∧ t.value = v) :
    Spells cc k v raw ok := by
  refine ⟨hne, fun s L rest hf hok => ?_⟩
  obtain ⟨t, s1, hr, hk, hv⟩ := h s L rest hf hok
  obtain ⟨hl, _, hfr⟩ := root_tok_inv hf hr
  refine ⟨s1, ?_, hfr⟩
  rw [hr]
  cases t
  simp only at hk hv hl
  subst hk hv hl
  rfl

theorem spells_plain {cc : CharClass} {k : TokKind} {raw : List Char} {ok : List Char → Prop}
    (hne : raw ≠ []) (hk : k ≠ .string)
    (hni : k = .operator →
      ¬ ∃ mid, raw = "not".toList ++ mid ++ "in".toList ∧ ∀ c ∈ mid, cc.wordBlank c = true)
    (h : ∀ (s : LState) (L : Loc) (rest : List Char), Fresh s L (raw ++ rest) → ok rest →
      ∃ t s1, root cc LexTables.std s (raw ++ rest) = .tok t s1 rest ∧ t.kind = k) :
    Spells cc k (String.ofList raw) raw ok := by
  refine spells_of_root hne fun s L rest hf hok => ?_
  obtain ⟨t, s1, hr, hkind⟩ := h s L rest hf hok
  refine ⟨t, s1, hr, hkind, ?_⟩
  rcases (root_tok_inv hf hr).2.1 with h1 | ⟨h2, _⟩ | ⟨h0, _, mid, h3, h4⟩
  · exact h1
  · rw [hkind] at h2; exact absurd h2 hk
  · rw [hkind] at h0; exact absurd ⟨mid, h3, h4⟩ (hni h0)

theorem emit_tok (k : TokKind) (s : LState) (rest : List Char) :
    ∃ t s1, emit k s rest = .tok t s1 rest ∧ t.kind = k := ⟨_, _, rfl, rfl⟩

theorem not_notin_short {cc : CharClass} {raw : List Char} (h : raw.length < 5) :
    ¬ ∃ mid, raw = "not".toList ++ mid ++ "in".toList ∧ ∀ c ∈ mid, cc.wordBlank c = true := by
  rintro ⟨mid, rfl, _⟩
  simp at h
  omega

theorem Spells.mono {cc : CharClass} {k : TokKind} {v : String} {raw : List Char} {ok ok' : List Char → Prop}
    (h : Spells cc k v raw ok) (hok : ∀ rest, ok' rest → ok rest) : Spells cc k v raw ok' :=
  ⟨h.1, fun s L rest hf hr => h.2 s L rest hf (hok rest hr)⟩

theorem lexChars_single {cc : CharClass} {T : LexTables} {raw : List Char} {t : Token} {s1 : LState} (hne : raw ≠ [])
    (h : root cc T {} raw = .tok t s1 []) :
    lexChars cc T raw = .ok [t, { kind := .eof, value := "", loc := s1.prev }] := by
  cases raw with
  | nil => exact absurd rfl hne
  | cons c cs =>
    rw [lexChars, List.length_cons, lexLoop_succ, h]
    simp only
    rw [lexLoop_succ, root_nil]
    rfl

theorem spells_alone {cc : CharClass} {k : TokKind} {v : String} {raw : List Char} {ok : List Char → Prop}
    (h : Spells cc k v raw ok) (hok : ok []) :
    ∃ l, lexChars cc LexTables.std raw = .ok [⟨k, v, ⟨1, 0⟩⟩, ⟨.eof, "", l⟩] := by
  obtain ⟨s1, hr, _⟩ := h.2 {} ⟨1, 0⟩ [] (by rw [List.append_nil]; exact fresh_init raw) hok
  rw [List.append_nil] at hr
  exact ⟨s1.prev, lexChars_single h.1 hr⟩

theorem Spells.head {cc : CharClass} {k : TokKind} {v : String} {raw rest : List Char} {ok : List Char → Prop}
    (h : Spells cc k v raw ok) (hok : ok rest) : ∃ c cs, raw = c :: cs ∧ cc.isSpace c = false := by
  obtain ⟨s1, hr, _⟩ := h.2 {} ⟨1, 0⟩ rest (fresh_init _) hok
  have hs := root_spec cc {} ⟨1, 0⟩ (raw ++ rest) (fresh_init _)
  rw [hr] at hs
  obtain ⟨c, cs, e, hsp, _⟩ := hs
  cases raw with
  | nil => exact absurd rfl h.1
  | cons c' cs' =>
    cases e
    exact ⟨c, cs', rfl, hsp⟩

/-- `root` is a function: two spellings it reads at the head of one text are the same -/
theorem Spells.unique {cc : CharClass} {k k' : TokKind} {v v' : String} {raw raw' rest rest' : List Char}
    {ok ok' : List Char → Prop} (h : Spells cc k v raw ok) (h' : Spells cc k' v' raw' ok') (hok : ok rest)
    (hok' : ok' rest') (e : raw ++ rest = raw' ++ rest') : raw = raw' := by
  obtain ⟨s1, hr, _⟩ := h.2 {} ⟨1, 0⟩ rest (fresh_init _) hok
  obtain ⟨s1', hr', _⟩ := h'.2 {} ⟨1, 0⟩ rest' (fresh_init _) hok'
  rw [e, hr'] at hr
  cases hr
  exact List.append_cancel_right e

structure Item where
  gap : List Char
  raw : List Char
  kind : TokKind
  value : String

def renderItems : List Item → List Char → List Char
  | [], trail => trail
  | it :: rest, trail => it.gap ++ (it.raw ++ renderItems rest trail)

def ItemsOK (cc : CharClass) (ok : Item → List Char → Prop) : List Item → List Char → Prop
  | [], trail => ∀ c ∈ trail, cc.isSpace c = true
  | it :: rest, trail =>
    (∀ c ∈ it.gap, cc.isSpace c = true) ∧ Spells cc it.kind it.value it.raw (ok it) ∧
    ok it (renderItems rest trail) ∧ ItemsOK cc ok rest trail

theorem lexLoop_gap (cc : CharClass) : ∀ (gap : List Char), (∀ c ∈ gap, cc.isSpace c = true) →
    ∀ (s : LState) (L : Loc) (rest : List Char) (fuel : Nat), Fresh s L (gap ++ rest) →
    ∃ s', Fresh s' (advLoc L gap) rest ∧
      lexLoop cc LexTables.std (fuel + gap.length) s (gap ++ rest) = lexLoop cc LexTables.std fuel s' rest
  | [], _, s, L, rest, fuel, hf => ⟨s, by simpa using hf, rfl⟩
  | c :: gap, hg, s, L, rest, fuel, hf => by
    have hc : cc.isSpace c = true := hg c (by simp)
    have hfr : Fresh (s.adv c).ignore (Loc.adv L c) (gap ++ rest) := by
      simpa using fresh_ignore (good_adv hf.good)
    obtain ⟨s', hf', hl⟩ := lexLoop_gap cc gap (fun x hx => hg x (by simp [hx])) _ _ rest fuel hfr
    refine ⟨s', by simpa [advLoc] using hf', ?_⟩
    have : fuel + (c :: gap).length = (fuel + gap.length) + 1 := by simp; omega
    rw [this, List.cons_append, lexLoop_succ, root_of_class (rootClass_space hc _)]
    exact hl

theorem lexLoop_items (cc : CharClass) (ok : Item → List Char → Prop) :
    ∀ (items : List Item) (trail : List Char), ItemsOK cc ok items trail →
    ∀ (s : LState) (L : Loc) (fuel : Nat), Fresh s L (renderItems items trail) →
      (renderItems items trail).length + 1 ≤ fuel →
      ∃ toks, lexLoop cc LexTables.std fuel s (renderItems items trail) = .ok toks ∧
        toks.map (fun t => (t.kind, t.value)) = items.map (fun it => (it.kind, it.value)) ++ [(TokKind.eof, "")]
  | [], trail, hok, s, L, fuel, hf, hfuel => by
    simp only [renderItems] at hf hfuel ⊢
    obtain ⟨f0, rfl⟩ : ∃ f0, fuel = (f0 + 1) + trail.length := ⟨fuel - trail.length - 1, by omega⟩
    obtain ⟨s', _, hl⟩ := lexLoop_gap cc trail hok s L [] (f0 + 1) (by simpa using hf)
    simp only [List.append_nil] at hl
    rw [hl]
    exact ⟨[{ kind := .eof, value := "", loc := s'.prev }], by rw [lexLoop_succ, root_nil], by simp⟩
  | it :: rest, trail, hok, s, L, fuel, hf, hfuel => by
    obtain ⟨hgap, hsp, hokr, hrest⟩ := hok
    simp only [renderItems, List.length_append] at hf hfuel ⊢
    obtain ⟨f0, rfl⟩ : ∃ f0, fuel = (f0 + 1) + it.gap.length := ⟨fuel - it.gap.length - 1, by omega⟩
    obtain ⟨s', hf', hl⟩ := lexLoop_gap cc it.gap hgap s L (it.raw ++ renderItems rest trail) (f0 + 1) hf
    rw [hl]
    obtain ⟨s1, hr, hf1⟩ := hsp.2 s' _ _ hf' hokr
    have hrawlen : 1 ≤ it.raw.length := by
      cases h : it.raw with
      | nil => exact absurd h hsp.1
      | cons _ _ => simp
    obtain ⟨toks, ht, hm⟩ := lexLoop_items cc ok rest trail hrest s1 _ f0 hf1 (by omega)
    refine ⟨{ kind := it.kind, value := it.value, loc := advLoc L it.gap } :: toks, ?_, ?_⟩
    · simp only [lexLoop_succ, hr, ht, Except.map]
    · simp [hm]

end ExprModel.Lex
