import ExprModel.Proofs.BcBoundary
import ExprModel.Proofs.BcPool
/-
C05, static half.  `Frag consts code`: operands in range and of the expected kind, jumps on instruction boundaries
of the fragment (its end included), Begin/End balanced.  `FragTo consts code post` is the same for a fragment that
may also jump forward into the code `post` behind it; a scheme with such a jump is put together in `FragTo` and closed
at the end (`FragTo.closed`).  `Frag` is what composes: each emit scheme of compiler.go keeps it (BcSchemes), hence every
compiled tree has it, and a whole program with `Frag` is accepted by the static checker `wfStatic` when its pool and jump
operands fit 16 bits (BcCompile).  `Holds K k v` (what is known of a constant operand) instantiates `Emits`' parameter.
-/
namespace ExprModel.Bc

def instrs (xs : List LInstr) : List Instr := xs.map (·.instr)

@[simp] theorem instrs_nil : instrs [] = [] := rfl
@[simp] theorem instrs_cons (x : LInstr) (xs : List LInstr) : instrs (x :: xs) = x.instr :: instrs xs := rfl
@[simp] theorem instrs_append (a b : List LInstr) : instrs (a ++ b) = instrs a ++ instrs b := by simp [instrs]
@[simp] theorem li_instr (l : Loc) (op : Op) (arg : Nat) : (li l op arg).instr = ⟨op, arg⟩ := rfl
theorem lsize_eq (xs : List LInstr) : lsize xs = codeSize (instrs xs) := rfl

/-- an instruction without operand carries `arg = 0`: the encoding drops `arg`, so `decode_encode` needs it (`ArgCanon`) -/
def canonOk (i : Instr) : Bool := i.op.hasArg || i.arg == 0

structure Frag (consts : Array Val) (code : List LInstr) : Prop where
  args : (instrs code).all (argOk consts) = true
  canon : (instrs code).all canonOk = true
  jumps : JumpsClosed (instrs code)
  nest : NestBal (instrs code)

theorem Frag.nil (c : Array Val) : Frag c [] := ⟨rfl, rfl, rfl, NestBal.nil⟩

structure FragTo (consts : Array Val) (code post : List LInstr) : Prop where
  args : (instrs code).all (argOk consts) = true
  canon : (instrs code).all canonOk = true
  jumps : JumpsTo (instrs code) (instrs post)
  nest : NestBal (instrs code)

theorem Frag.to {c : Array Val} {code : List LInstr} (h : Frag c code) (post : List LInstr) : FragTo c code post :=
  ⟨h.args, h.canon, h.jumps.to _, h.nest⟩

theorem FragTo.closed {c : Array Val} {code : List LInstr} (h : FragTo c code []) : Frag c code :=
  ⟨h.args, h.canon, h.jumps.closed, h.nest⟩

theorem FragTo.append {c : Array Val} {a b post : List LInstr} (ha : FragTo c a (b ++ post)) (hb : FragTo c b post) :
    FragTo c (a ++ b) post where
  args := by rw [instrs_append, List.all_append, ha.args, hb.args]; rfl
  canon := by rw [instrs_append, List.all_append, ha.canon, hb.canon]; rfl
  jumps := by rw [instrs_append]; exact (instrs_append b post ▸ ha.jumps).append hb.jumps
  nest := by rw [instrs_append]; exact ha.nest.append hb.nest

theorem Frag.append {c : Array Val} {a b : List LInstr} (ha : Frag c a) (hb : Frag c b) : Frag c (a ++ b) :=
  ((ha.to _).append (hb.to [])).closed

theorem FragTo.jump {c : Array Val} (l : Loc) {op : Op} {k : Nat} {post : List LInstr} (hop : op.argClass = .jumpFwd)
    (hk : instrBoundary (instrs post) k = true) : FragTo c [li l op k] post where
  args := by simp [argOk, hop]
  canon := by
    have : op.hasArg = true := (hasArg_iff_argClass op).2 (by rw [hop]; decide)
    simp [canonOk, this]
  jumps := JumpsTo.jump hop hk
  nest := NestBal.plain (by rintro (h : op = _); subst h; cases hop) (by rintro (h : op = _); subst h; cases hop)

theorem Frag.one {c : Array Val} (l : Loc) (op : Op) (arg : Nat) (ha : argOk c ⟨op, arg⟩ = true)
    (hc : canonOk ⟨op, arg⟩ = true) (hj : op.isJump = false) (h1 : op ≠ .begin_) (h2 : op ≠ .end_) :
    Frag c [li l op arg] := by
  simp only [Op.isJump, Bool.or_eq_false_iff, beq_eq_false_iff_ne, ne_eq] at hj
  exact ⟨by simp [ha], by simp [hc], (JumpsTo.plain hj.1 hj.2 []).closed, NestBal.plain h1 h2⟩

theorem argOk_str {c : Array Val} {k : Nat} (h : StrAt c k) (op : Op) (ho : op.argClass = .constant)
    (hc : op.constClass = .str) : argOk c ⟨op, k⟩ = true := by
  obtain ⟨s, hs⟩ := h
  simp [argOk, ho, hs, hc, ConstClass.admits]

theorem argOk_call {c : Array Val} {k : Nat} (h : CallAt c k) (op : Op) (ho : op.argClass = .constant)
    (hc : op.constClass = .call) : argOk c ⟨op, k⟩ = true := by
  obtain ⟨n, s, hs⟩ := h
  simp [argOk, ho, hs, hc, ConstClass.admits]

theorem argOk_re {c : Array Val} {k : Nat} (h : ReAt c k) : argOk c ⟨.matchesConst, k⟩ = true := by
  obtain ⟨s, hs⟩ := h
  simp [argOk, Op.argClass, Op.hasArg, hs, Op.constClass, ConstClass.admits]

theorem argOk_push {c : Array Val} {k : Nat} (h : AnyAt c k) : argOk c ⟨.push, k⟩ = true := by
  obtain ⟨s, hs⟩ := h
  simp [argOk, Op.argClass, Op.hasArg, hs, Op.constClass, ConstClass.admits]

theorem argOk_noarg (c : Array Val) (op : Op) (a : Nat) (h : op.hasArg = false) : argOk c ⟨op, a⟩ = true := by
  simp [argOk, argClass_of_noArg h]

def _root_.ExprModel.Op.bare (op : Op) : Bool := !op.hasArg && op != .begin_ && op != .end_

theorem Frag.plain {c : Array Val} (l : Loc) (op : Op) (h : op.bare = true) : Frag c [li l op] := by
  simp only [Op.bare, Bool.and_eq_true, Bool.not_eq_true', bne_iff_ne, ne_eq] at h
  obtain ⟨⟨h0, h1⟩, h2⟩ := h
  exact Frag.one l op 0 (argOk_noarg c op 0 h0) (by simp [canonOk]) (by rw [Op.isJump, argClass_of_noArg h0]; rfl) h1 h2

theorem Op.constant_of_constClass {op : Op} (h : op.constClass ≠ .any) :
    op.argClass = .constant ∧ op.hasArg = true ∧ op.isJump = false ∧ op ≠ .begin_ ∧ op ≠ .end_ := by
  cases op <;> first | exact absurd rfl h | exact ⟨rfl, rfl, rfl, by decide, by decide⟩

theorem Frag.constOp {c : Array Val} {k : Nat} (l : Loc) (op : Op) (hop : op.constClass ≠ .any)
    (ha : argOk c ⟨op, k⟩ = true) : Frag c [li l op k] :=
  have h := Op.constant_of_constClass hop
  Frag.one l op k ha (by simp [canonOk, h.2.1]) h.2.2.1 h.2.2.2.1 h.2.2.2.2

theorem Frag.strOp {c : Array Val} {k : Nat} (h : StrAt c k) (l : Loc) (op : Op) (hop : op.constClass = .str) :
    Frag c [li l op k] :=
  have hne : op.constClass ≠ .any := by rw [hop]; decide
  Frag.constOp l op hne (argOk_str h op (Op.constant_of_constClass hne).1 hop)

theorem Frag.callOp {c : Array Val} {k : Nat} (h : CallAt c k) (l : Loc) (op : Op) (hop : op.constClass = .call) :
    Frag c [li l op k] :=
  have hne : op.constClass ≠ .any := by rw [hop]; decide
  Frag.constOp l op hne (argOk_call h op (Op.constant_of_constClass hne).1 hop)

theorem Frag.pushOp {c : Array Val} {k : Nat} (h : AnyAt c k) (l : Loc) : Frag c [li l .push k] :=
  Frag.one l .push k (argOk_push h) rfl rfl (by decide) (by decide)

theorem Frag.reOp {c : Array Val} {k : Nat} (h : ReAt c k) (l : Loc) : Frag c [li l .matchesConst k] :=
  Frag.one l .matchesConst k (argOk_re h) rfl rfl (by decide) (by decide)

/-- what `mkConst v` guarantees of its operand `k` with no assumption on the tree: in range, and of the class of `v`.  The
    class fields take an equation so that `Holds K k v` can be stated for a variable `v` (`PoolSpec.const`); `fits` holds
    because the pool has at most 65535 entries (`PoolOk.size_le`); `balanced_push` needs it to find the bytes (`BytesAt`). -/
structure Holds (K : Array Val) (k : Nat) (v : Val) : Prop where
  any : AnyAt K k
  fits : k < 65536
  str' : ∀ {s}, v = .str s → StrAt K k
  call' : ∀ {n s}, v = .call n s → CallAt K k
  re' : ∀ {p}, v = .regexp p → ReAt K k

theorem Holds.str {K k s} (h : Holds K k (.str s)) : StrAt K k := h.str' rfl
theorem Holds.call {K k n s} (h : Holds K k (.call n s)) : CallAt K k := h.call' rfl
theorem Holds.re {K k p} (h : Holds K k (.regexp p)) : ReAt K k := h.re' rfl

end ExprModel.Bc
