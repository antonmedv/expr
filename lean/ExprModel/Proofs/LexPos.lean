import ExprModel.Proofs.LexPrim
/-
Token positions (C12), inside one token.

`Good L0 w s rest` is the invariant of the lexer inside one token: the token started at location `L0` and `w` are
the runes read since, i.e. `word` is that slice, `startLoc = L0`, and `loc` is the position after `w` — *unless the
input is exhausted*, where a `backup` after `next = eof` leaves `loc` stale.  Every primitive keeps it and only
extends `w` (`Ext`); a state function ends in a token at `L0` whose text is what
was read (`TextOf`) and leaves the state `root` is entered in (`Fresh`), or fails (`StepOK`).
-/
namespace ExprModel.Lex

structure Good (L0 : Loc) (w : List Char) (s : LState) (rest : List Char) : Prop where
  word : s.word = w.reverse
  start : s.startLoc = L0
  loc : rest ≠ [] → s.loc = advLoc L0 w

/-- primitives chain by `Ext.trans`; `StepOK.of_ext` ends the chain at an `emit` -/
def Ext (L0 : Loc) (w rest : List Char) (o : LState × List Char) : Prop :=
  ∃ w1, rest = w1 ++ o.2 ∧ Good L0 (w ++ w1) o.1 o.2

theorem Ext.refl {L0 w s rest} (h : Good L0 w s rest) : Ext L0 w rest (s, rest) :=
  ⟨[], by simp, by simpa using h⟩

theorem Ext.prepend {L0 w o} (w1 : List Char) {r : List Char} (h : Ext L0 (w ++ w1) r o) : Ext L0 w (w1 ++ r) o := by
  obtain ⟨w2, e2, g2⟩ := h
  exact ⟨w1 ++ w2, by rw [e2, List.append_assoc], by rwa [← List.append_assoc]⟩

theorem Ext.trans {L0 w rest o1 o2} (h1 : Ext L0 w rest o1)
    (h2 : ∀ w', Good L0 w' o1.1 o1.2 → Ext L0 w' o1.2 o2) : Ext L0 w rest o2 := by
  obtain ⟨w1, rfl, g1⟩ := h1
  exact (h2 _ g1).prepend w1

theorem good_adv {L0 w s c cs} (h : Good L0 w s (c :: cs)) : Good L0 (w ++ [c]) (s.adv c) cs :=
  ⟨by simp [LState.adv, h.word], by simp [LState.adv, h.start],
   fun _ => by simp [LState.adv, h.loc (by simp), advLoc_snoc]⟩

theorem ext_adv {L0 w s c cs} (h : Good L0 w s (c :: cs)) : Ext L0 w (c :: cs) (s.adv c, cs) :=
  ⟨[c], rfl, good_adv h⟩

/-- at the end of input `loc` goes stale, which the last field of `Good` allows -/
theorem good_stay {L0 w s rest} (h : Good L0 w s rest) : Good L0 w (s.stay rest) rest := by
  cases rest with
  | nil => exact ⟨h.word, h.start, fun hne => absurd rfl hne⟩
  | cons c cs => exact ⟨h.word, h.start, h.loc⟩

theorem Ext.stay {L0 w s rest} (h : Good L0 w s rest) : Ext L0 w rest (s.stay rest, rest) :=
  Ext.refl (good_stay h)

theorem Ext.cons {L0 w c cs o} (h : Ext L0 (w ++ [c]) cs o) : Ext L0 w (c :: cs) o := h.prepend [c]

theorem Ext.then {L0 w rest o1 o2} (h1 : Ext L0 w rest o1)
    (h2 : ∀ w', Good L0 w' o1.1 o1.2 → Ext L0 w' o1.2 o2) : Ext L0 w rest o2 := Ext.trans h1 h2

theorem head_cases (v : List Char) (rest : List Char) :
    (∀ x, rest.head? = some x → v.contains x = false) ∨ ∃ c cs, rest = c :: cs ∧ v.contains c = true := by
  cases rest with
  | nil => exact Or.inl fun _ h => nomatch h
  | cons c cs =>
    cases hc : v.contains c with
    | true => exact Or.inr ⟨c, cs, rfl, hc⟩
    | false => exact Or.inl fun x hx => by cases hx; exact hc

theorem ext_next {L0 w s rest} (h : Good L0 w s rest) : Ext L0 w rest (next s rest).2 := by
  cases rest with
  | nil => exact Ext.refl ⟨h.word, h.start, fun hne => absurd rfl hne⟩
  | cons c cs => exact ext_adv h

theorem ext_accept {L0 w s rest} (v : List Char) (h : Good L0 w s rest) : Ext L0 w rest (accept v s rest).2 := by
  rcases head_cases v rest with hno | ⟨c, cs, rfl, hc⟩
  · rw [accept_no v s rest hno]; exact Ext.stay h
  · rw [accept_cons, if_pos hc]; exact ext_adv h

theorem good_advs {L0 : Loc} (l : List Char) {w : List Char} {s : LState} {r : List Char}
    (h : Good L0 w s (l ++ r)) : Good L0 (w ++ l) (s.advs l) r :=
  ⟨by rw [LState.advs_word, h.word, List.reverse_append], by rw [LState.advs_startLoc, h.start],
   fun hr => by rw [LState.advs_loc_eq, h.loc (by simp [hr]), advLoc_append]⟩

theorem acceptRunP_spec {L0 w s rest} (p : Char → Bool) (h : Good L0 w s rest) :
    ∃ w1, (∀ c ∈ w1, p c = true) ∧ rest = w1 ++ (acceptRunP p s rest).2 ∧
      Good L0 (w ++ w1) (acceptRunP p s rest).1 (acceptRunP p s rest).2 := by
  rw [acceptRunP_eq]
  have e := (List.takeWhile_append_dropWhile (p := p) (l := rest)).symm
  exact ⟨rest.takeWhile p, fun c hc => List.all_eq_true.mp List.all_takeWhile c hc, e,
    good_stay (good_advs _ (e ▸ h))⟩

theorem ext_acceptRunP {L0 w s rest} (p : Char → Bool) (h : Good L0 w s rest) :
    Ext L0 w rest (acceptRunP p s rest) := by
  obtain ⟨w1, _, e, g⟩ := acceptRunP_spec p h
  exact ⟨w1, e, g⟩

theorem ext_acceptRun {L0 w s rest} (v : List Char) (h : Good L0 w s rest) :
    Ext L0 w rest (acceptRun v s rest) := ext_acceptRunP _ h

theorem ext_numberPrefix {L0 w s rest} (T : LexTables) (h : Good L0 w s rest) :
    Ext L0 w rest (numberPrefix T s rest).2 := by
  cases rest with
  | nil => rw [numberPrefix_none T s [] fun _ hx => nomatch hx]; exact Ext.stay h
  | cons c cs =>
    rw [numberPrefix_cons]
    by_cases h1 : T.hexMark.contains c = true
    · rw [if_pos h1]; exact ext_adv h
    rw [if_neg h1]
    by_cases h2 : T.octMark.contains c = true
    · rw [if_pos h2]; exact ext_adv h
    rw [if_neg h2]
    by_cases h3 : T.binMark.contains c = true
    · rw [if_pos h3]; exact ext_adv h
    · rw [if_neg h3]; exact Ext.stay h

theorem ext_numberDigits {L0 w s rest} (T : LexTables) (h : Good L0 w s rest) :
    Ext L0 w rest (numberDigits T s rest).2 := by
  cases rest with
  | nil => rw [numberDigits_nil]; exact Ext.stay h
  | cons c cs =>
    by_cases hz : T.zero.contains c = true
    · rw [numberDigits_zero hz]; exact Ext.trans (ext_adv h) fun _ g1 => ext_numberPrefix T g1
    · rw [numberDigits_nonzero hz]; exact Ext.stay h

theorem ext_numberFraction {L0 w s rest} (T : LexTables) (digits : List Char) (h : Good L0 w s rest)
    (o : LState × List Char) (ho : numberFraction T digits s rest = some o) : Ext L0 w rest o := by
  rcases head_cases T.dotC rest with hno | ⟨c, cs, rfl, hc⟩
  · rw [numberFraction_none T digits s rest hno] at ho
    cases ho
    exact Ext.stay h
  · rw [numberFraction_dot hc] at ho
    by_cases hd : cs.head? = some '.'
    · rw [if_pos hd] at ho; cases ho
    · rw [if_neg hd] at ho
      cases ho
      exact Ext.trans (ext_adv h) fun _ g1 => Ext.trans (Ext.stay g1) fun _ g2 => ext_acceptRun digits g2

theorem ext_numberExponent {L0 w s rest} (T : LexTables) (digits : List Char) (h : Good L0 w s rest) :
    Ext L0 w rest (numberExponent T digits s rest) := by
  rcases head_cases T.expMark rest with hno | ⟨c, cs, rfl, hc⟩
  · rw [numberExponent_none T digits s rest hno]; exact Ext.stay h
  · rw [numberExponent_mark hc]
    exact Ext.trans (ext_adv h) fun _ g1 =>
      Ext.trans (ext_accept T.signs g1) fun _ g2 => ext_acceptRun digits g2

theorem ext_numberTail {L0 w s1 r1} (cc : CharClass) (T : LexTables) (digits : List Char)
    (h : Good L0 w s1 r1) : Ext L0 w r1 (numberTail cc T digits s1 r1).2 := by
  unfold numberTail
  cases hf : numberFraction T digits s1 r1 with
  | none => exact Ext.refl ⟨h.word, h.start, h.loc⟩
  | some o =>
    refine Ext.trans (ext_numberFraction T digits h o hf) fun w2 g2 => ?_
    refine Ext.trans (ext_numberExponent T digits g2) fun w3 g3 => ?_
    simp only [peek_eq]
    refine Ext.trans (Ext.stay g3) fun w4 g4 => ?_
    cases (numberExponent T digits o.1 o.2).2.head? with
    | none => exact Ext.refl g4
    | some c =>
      by_cases ha : cc.isAlphaNumeric c = true
      · simp only [ha, if_true]; exact ext_next g4
      · simp only [ha]; exact Ext.refl g4

theorem ext_scanNumber {L0 w s rest} (cc : CharClass) (T : LexTables) (h : Good L0 w s rest) :
    Ext L0 w rest (scanNumber cc T s rest).2 := by
  rw [scanNumber_eq]
  exact Ext.trans (ext_numberDigits T h) fun w1 g1 =>
    Ext.trans (ext_acceptRun (numberDigits T s rest).1 g1) fun w2 g2 => ext_numberTail cc T _ g2

/-- progress on a digit: after `0` the prefix part reads it, otherwise the digit run does -/
theorem ext_scanNumber_digit {T : LexTables} {L0 w s c cs} (cc : CharClass) (hd : T.decDigits.contains c = true)
    (h : Good L0 w s (c :: cs)) : Ext L0 (w ++ [c]) cs (scanNumber cc T s (c :: cs)).2 := by
  rw [scanNumber_eq]
  refine Ext.trans (o1 := acceptRun (numberDigits T s (c :: cs)).1 (numberDigits T s (c :: cs)).2.1
      (numberDigits T s (c :: cs)).2.2) ?_ fun w1 g1 => ext_numberTail cc T _ g1
  by_cases hz : T.zero.contains c = true
  · rw [numberDigits_zero hz]
    exact Ext.trans (ext_numberPrefix T (good_adv h)) fun w1 g1 => ext_acceptRun _ g1
  · rw [numberDigits_nonzero hz, acceptRun, acceptRunP_cons, if_pos hd]
    exact ext_acceptRunP _ (good_adv (good_stay h))

structure Fresh (s : LState) (L : Loc) (rest : List Char) : Prop where
  word : s.word = []
  start : s.startLoc = s.loc
  loc : rest ≠ [] → s.loc = L

theorem Fresh.good {s L c cs} (h : Fresh s L (c :: cs)) : Good L [] s (c :: cs) :=
  ⟨by simp [h.word], by rw [h.start, h.loc (by simp)], fun _ => by simp [h.loc]⟩

theorem fresh_ignore {L0 w s r} (h : Good L0 w s r) : Fresh s.ignore (advLoc L0 w) r :=
  ⟨rfl, rfl, fun hne => by simp [LState.ignore, h.loc hne]⟩

/-- the value of the token `t` is its source text `raw`, but for the two tokens whose value the lexer rewrites: a String
(unescaped) and `not in` (whatever blanks stand between the words, the value has one) -/
def TextOf (cc : CharClass) (T : LexTables) (t : Token) (raw : List Char) : Prop :=
  t.value = String.ofList raw ∨
  (t.kind = .string ∧ ∃ v, unescape T raw = .ok v ∧ t.value = String.ofList v) ∨
  (t.kind = .operator ∧ t.value = "not in" ∧
    ∃ mid, raw = T.notWord.toList ++ mid ++ T.inWord.toList ∧ ∀ c ∈ mid, cc.wordBlank c = true)

/-- a state function entered with `w` read of a token that began at `L0` does not fail with "fuel", the message of a
`lexLoop` out of fuel (all that `lex_total` asks of an error).  It neither skips nor ends: that is `root`'s (`RootOK`). -/
def StepOK (cc : CharClass) (T : LexTables) (L0 : Loc) (w rest : List Char) : Step → Prop
  | .tok t s1 r1 => ∃ w1, rest = w1 ++ r1 ∧ t.loc = L0 ∧ t.kind ≠ .eof ∧ TextOf cc T t (w ++ w1) ∧
      Fresh s1 (advLoc L0 (w ++ w1)) r1
  | .fail e => e.2 ≠ "fuel"
  | .skip _ _ => False
  | .eof _ => False

theorem StepOK.prepend {cc T L0 w st} (w1 : List Char) {r : List Char} (h : StepOK cc T L0 (w ++ w1) r st) :
    StepOK cc T L0 w (w1 ++ r) st := by
  cases st with
  | tok t s1 r1 =>
    obtain ⟨w2, e2, hl, hk, ht, hf⟩ := h
    exact ⟨w1 ++ w2, by rw [e2, List.append_assoc], hl, hk, by rwa [← List.append_assoc],
      by rwa [← List.append_assoc]⟩
  | fail e => exact h
  | skip _ _ => exact h
  | eof _ => exact h

theorem StepOK.of_ext {cc T L0 w rest o st} (h : Ext L0 w rest o)
    (h2 : ∀ w', Good L0 w' o.1 o.2 → StepOK cc T L0 w' o.2 st) : StepOK cc T L0 w rest st := by
  obtain ⟨w1, rfl, g1⟩ := h
  exact (h2 _ g1).prepend w1

theorem StepOK.cons {cc T L0 w c cs st} (h : StepOK cc T L0 (w ++ [c]) cs st) : StepOK cc T L0 w (c :: cs) st :=
  h.prepend [c]

theorem text_of_good {L0 w s r} (h : Good L0 w s r) : s.text = w := by
  simp [LState.text, h.word]

theorem stepOK_emitValue {cc T L0 w s r} (k : TokKind) (hk : k ≠ .eof) (v : List Char) (hv : v = w)
    (h : Good L0 w s r) : StepOK cc T L0 w r (emitValue k v s r) :=
  ⟨[], by simp, h.start, hk, Or.inl (by simp [mkTok, hv]), by simpa using fresh_ignore h⟩

theorem stepOK_emit {cc T L0 w s r} (k : TokKind) (hk : k ≠ .eof) (h : Good L0 w s r) :
    StepOK cc T L0 w r (emit k s r) :=
  stepOK_emitValue k hk s.text (text_of_good h) h

/-- `r0` is free: the state may have been entered after a `backup`; `h` relates the outcome to the caller's `w`, `rest` -/
theorem stepOK_numberState {cc : CharClass} {T L0 w rest s r0} (h : Ext L0 w rest (scanNumber cc T s r0).2) :
    StepOK cc T L0 w rest (numberState cc T s r0) := by
  unfold numberState
  generalize scanNumber cc T s r0 = a at h
  obtain ⟨b, s1, r1⟩ := a
  cases b with
  | false => exact (by decide : ("badnumber" : String) ≠ "fuel")
  | true => exact StepOK.of_ext h fun w' g => stepOK_emit .number (by decide) g

theorem stepOK_dotState {T L0 w s c cs} (cc : CharClass) (h : Good L0 w s (c :: cs)) :
    StepOK cc T L0 (w ++ [c]) cs (dotState cc T s (c :: cs)) := by
  have g := good_adv h
  rcases head_cases T.dotDigits cs with hno | ⟨c2, cs2, rfl, hd⟩
  · rw [dotState_other hno]
    exact StepOK.of_ext (ext_accept T.dotC (good_stay g)) fun _ g2 => stepOK_emit .operator (by decide) g2
  · rw [dotState_digit hd]
    exact stepOK_numberState (ext_scanNumber cc T (good_stay g))

theorem stepOK_nilsafeState {cc T L0 w s c cs} (h : Good L0 w s (c :: cs)) :
    StepOK cc T L0 (w ++ [c]) cs (nilsafeState T s (c :: cs)) := by
  unfold nilsafeState
  simp only [next]
  exact StepOK.of_ext (ext_accept T.nilsafeSecond (good_adv h)) fun _ g2 => stepOK_emit .operator (by decide) g2

/-- `Ext` for `scanString`, the one primitive with errors of its own -/
def ScanOK (L0 : Loc) (w rest : List Char) : Except LexErr (LState × List Char) → Prop
  | .ok o => Ext L0 w rest o
  | .error e => e.2 ≠ "fuel"

theorem scanString_ok {L0} (T : LexTables) (q : Char) : ∀ (rest : List Char) (m : SMode) (s : LState) (w : List Char),
    Good L0 w s rest → ScanOK L0 w rest (scanString T q m s rest)
  | [], m, s, _, _ => by
    obtain ⟨e, he, hf⟩ := scanString_nil T q m s
    rw [he]
    exact hf
  | c :: cs, m, s, w, h => by
    rcases scanString_cons T q m s c cs with he | ⟨e, he, hf⟩ | ⟨m', he⟩
    · rw [he]
      exact ext_adv h
    · rw [he]
      exact hf
    · rw [he]
      have ih := scanString_ok T q cs m' (s.adv c) _ (good_adv h)
      cases hr : scanString T q m' (s.adv c) cs with
      | ok o => rw [hr] at ih; exact Ext.cons ih
      | error e => rw [hr] at ih; exact ih

theorem skipSpaces_spec {L0 w s rest} (cc : CharClass) (h : Good L0 w s rest) :
    ∃ mid, (∀ c ∈ mid, cc.wordBlank c = true) ∧ rest = mid ++ (skipSpaces cc s rest).2 ∧
      Good L0 (w ++ mid) (skipSpaces cc s rest).1 (skipSpaces cc s rest).2 := by
  rw [skipSpaces_eq]
  exact acceptRunP_spec cc.wordBlank h

theorem matchWord_spec {L0} (word : List Char) :
    ∀ (s : LState) (rest w : List Char) (o : LState × List Char), Good L0 w s rest →
      matchWord word s rest = some o → rest = word ++ o.2 ∧ Good L0 (w ++ word) o.1 o.2 := by
  induction word with
  | nil => intro s rest w o h ho; simp only [matchWord] at ho; cases ho; exact ⟨by simp, by simpa using h⟩
  | cons ch wd ih =>
    intro s rest w o h ho
    cases rest with
    | nil => simp [matchWord] at ho
    | cons c cs =>
      simp only [matchWord] at ho
      split at ho
      · rename_i hc
        obtain ⟨e, g⟩ := ih _ _ _ _ (good_adv h) ho
        subst hc
        exact ⟨by simp [e], by simpa [List.append_assoc] using g⟩
      · cases ho

theorem good_restore {L0 w s rest} {cur : LState} (h : Good L0 w s rest) (hc : cur.startLoc = L0) :
    Good L0 w { cur with word := s.word, loc := s.loc, prev := s.prev } rest :=
  ⟨h.word, hc, h.loc⟩

theorem acceptWord_spec {L0 w s rest} (cc : CharClass) (word : List Char) (h : Good L0 w s rest) :
    (∀ s' r', acceptWord cc word s rest = (true, s', r') →
      ∃ mid, (∀ c ∈ mid, cc.wordBlank c = true) ∧ rest = mid ++ word ++ r' ∧
        Good L0 (w ++ (mid ++ word)) s' r' ∧ r'.head?.all cc.wordEnd = true) ∧
    (∀ s' r', acceptWord cc word s rest = (false, s', r') → r' = rest ∧ Good L0 w s' rest) := by
  obtain ⟨mid, hm, e1, g1⟩ := skipSpaces_spec cc h
  cases hmw : matchWord word (skipSpaces cc s rest).1 (skipSpaces cc s rest).2 with
  | none =>
    rw [acceptWord_none hmw]
    refine ⟨fun s' r' he => (nomatch he), fun s' r' he => ?_⟩
    cases he
    exact ⟨rfl, good_restore h g1.start⟩
  | some o =>
    obtain ⟨e2, g2⟩ := matchWord_spec word _ _ _ _ g1 hmw
    rw [acceptWord_some hmw]
    by_cases hend : o.2.head?.all cc.wordEnd = true
    · rw [if_pos hend]
      refine ⟨fun s' r' he => ?_, fun s' r' he => (nomatch he)⟩
      cases he
      exact ⟨mid, hm, by rw [e1, e2, List.append_assoc], by simpa [List.append_assoc] using good_stay g2, hend⟩
    · rw [if_neg hend]
      refine ⟨fun s' r' he => (nomatch he), fun s' r' he => ?_⟩
      cases he
      exact ⟨rfl, good_restore h (good_stay g2).start⟩

theorem stepOK_notState {cc T L0 w s rest} (hnot : T.notWord = "not") (hw : w = T.notWord.toList)
    (h : Good L0 w s rest) : StepOK cc T L0 w rest (notState cc T s rest) := by
  unfold notState
  obtain ⟨ht, hf⟩ := acceptWord_spec cc T.inWord.toList h
  generalize acceptWord cc T.inWord.toList s rest = a at *
  obtain ⟨b, s1, r1⟩ := a
  cases b with
  | true =>
    obtain ⟨mid, hm, e, g, -⟩ := ht s1 r1 rfl
    simp only
    have hraw : w ++ (mid ++ T.inWord.toList) = T.notWord.toList ++ mid ++ T.inWord.toList := by
      rw [hw]; simp [List.append_assoc]
    have hval : (mkTok .operator "not in".toList s1.startLoc).value = "not in" := by
      show String.ofList "not in".toList = "not in"
      exact String.ofList_toList
    exact ⟨mid ++ T.inWord.toList, by simpa [List.append_assoc] using e, g.start, (by simp [mkTok]),
      Or.inr (Or.inr ⟨rfl, hval, mid, hraw, hm⟩), by simpa using fresh_ignore g⟩
  | false =>
    obtain ⟨e, g⟩ := hf s1 r1 rfl
    subst e
    simp only
    exact stepOK_emitValue .operator (by decide) _ (by rw [hw, hnot]) g

theorem stepOK_identifierState {T L0 w s c cs} (cc : CharClass) (hnot : T.notWord = "not")
    (hc : cc.isAlphaNumeric c = true) (h : Good L0 w s (c :: cs)) :
    StepOK cc T L0 (w ++ [c]) cs (identifierState cc T s (c :: cs)) := by
  unfold identifierState
  simp only [acceptRunP, hc, if_true]
  have e := ext_acceptRunP cc.isAlphaNumeric (good_adv h)
  generalize acceptRunP cc.isAlphaNumeric (s.adv c) cs = a at *
  obtain ⟨s1, r1⟩ := a
  simp only
  refine StepOK.of_ext e fun w' g => ?_
  simp only
  split
  · rename_i hw
    refine stepOK_notState hnot ?_ g
    have := congrArg String.toList hw
    simpa [text_of_good g] using this
  · split
    · exact stepOK_emit .operator (by decide) g
    · exact stepOK_emit .identifier (by decide) g

end ExprModel.Lex
