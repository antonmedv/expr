import ExprModel.Proofs.PatchOps
import ExprModel.Proofs.AllLoc
/-
C13, locations through `compiler.PatchOperators`.  The explicit-call form of a tree (what the operator
patcher produces, C17 `patch_eq_explicit`) has no location that the tree it was made from does not have (stated as:
what holds of every location of the tree holds of every location of the result): the call `fn(l, r)` that replaces an
overloaded occurrence takes over the occurrence's annotation (`ast.Patch`), and the explicit-call form is that
replacement applied bottom-up.
-/
namespace ExprModel

variable {P : Loc → Prop}

theorem callOrOp_allLoc (ops : OpTable) (tyOf : Node → String) (m : Meta) (op : String) (l r : Node)
    (hm : P m.loc) (hl : l.AllLoc P) (hr : r.AllLoc P) : (callOrOp ops tyOf m op l r).AllLoc P := by
  unfold callOrOp
  split
  · exact ⟨hm, hl, hr, trivial⟩
  · exact ⟨hm, hl, hr⟩

theorem patchExit_allLoc (ops : OpTable) (tyOf : Node → String) (n : Node) (h : n.AllLoc P) :
    (patchExit ops tyOf n).AllLoc P := by
  cases n with
  | binary m op l r =>
    rw [patchExit_binary]
    exact callOrOp_allLoc ops tyOf m op l r h.1 h.2.1 h.2.2
  | _ => exact h

theorem explicitCallForm_allLoc (ops : OpTable) (tyOf : Node → String) (n : Node) (h : n.AllLoc P) :
    (explicitCallForm ops tyOf n).AllLoc P := by
  rw [explicitCallForm_eq_bottomUp]
  exact bottomUp_allLoc _ (patchExit_allLoc ops tyOf) n h

theorem explicitCallFormL_allLoc (ops : OpTable) (tyOf : Node → String) :
    (ns : List Node) → Node.AllLocL P ns → Node.AllLocL P (explicitCallFormL ops tyOf ns) := by
  intro ns h
  rw [explicitCallFormL_eq_map, Node.allLocL_iff]
  intro c hc
  obtain ⟨d, hd, rfl⟩ := List.mem_map.1 hc
  exact explicitCallForm_allLoc ops tyOf d ((Node.allLocL_iff ns).1 h d hd)

theorem explicitCallFormO_allLoc (ops : OpTable) (tyOf : Node → String) :
    (o : Option Node) → Node.AllLocO P o → Node.AllLocO P (explicitCallFormO ops tyOf o)
  | none, _ => trivial
  | some n, h => explicitCallForm_allLoc ops tyOf n h

end ExprModel
