import ExprModel.Proofs.ParserCanonInd
import ExprModel.Proofs.ParserPost
/-
The image of the parser is canonical — the notions of the proof.

A parser function may return a tree whose *right edge* is an identifier that was marked `NilSafe`
because the next token has the value `?.` although that token is not an operator/bracket (so no postfix
production takes it).  Such a result is "pending": every caller then fails on that token.  `canonX p`
is `canon` up to such a pending right-edge identifier (allowed iff `p`).
-/
namespace ExprModel.Parser

def rightPend : Node → Bool
  | .ident _ _ ns => ns
  | .unary _ _ x => rightPend x
  | .binary _ _ _ r => rightPend r
  | .matches _ _ _ r => rightPend r
  | .cond _ _ _ b => rightPend b
  | _ => false

def clearR : Node → Node
  | .ident m n _ => .ident m n false
  | .unary m op x => .unary m op (clearR x)
  | .binary m op l r => .binary m op l (clearR r)
  | .matches m h l r => .matches m h l (clearR r)
  | .cond m c a b => .cond m c a (clearR b)
  | n => n

variable (cfg : Cfg)

def canonX (p : Bool) (d : Nat) (n : Node) : Bool := canon cfg d (clearR n) && (!rightPend n || p)

def pendB (ts : List Token) : Bool :=
  (cur ts).value == "?." && (cur ts).kind != .operator && (cur ts).kind != .bracket

/-- what the postfix loop is entered with: an identifier whose flag says whether `?.` follows, or a
    tree that is canonical up to a pending right edge -/
def baseOK (d : Nat) (n : Node) (ts : List Token) : Bool :=
  canonBaseWith (canonX cfg (pendB ts) d n) ((cur ts).value == "?.") n

theorem clear_of_not_pend : (n : Node) → rightPend n = false → clearR n = n
  | .ident _ _ _, h => by cases h; rfl
  | .unary _ _ x, h => congrArg (Node.unary _ _) (clear_of_not_pend x h)
  | .binary _ _ _ r, h => congrArg (Node.binary _ _ _) (clear_of_not_pend r h)
  | .matches _ _ _ r, h => congrArg (Node.matches _ _ _) (clear_of_not_pend r h)
  | .cond _ _ _ b, h => congrArg (Node.cond _ _ _) (clear_of_not_pend b h)
  | .nil _, _ | .int _ _, _ | .float _ _, _ | .bool _ _, _ | .str _ _, _ | .const _ _, _
  | .prop _ _ _ _, _ | .index _ _ _, _ | .slice _ _ _ _, _ | .method _ _ _ _ _, _ | .func _ _ _ _, _
  | .builtin _ _ _, _ | .closure _ _, _ | .pointer _, _ | .array _ _, _ | .map _ _, _ | .pair _ _ _, _ => rfl

theorem canonX_eq_canon {n : Node} (h : rightPend n = false) (p : Bool) (d : Nat) :
    canonX cfg p d n = canon cfg d n := by
  simp [canonX, clear_of_not_pend n h, h]

variable {cfg}

theorem not_pend_of_canon : (n : Node) → (d : Nat) → canon cfg d n = true → rightPend n = false
  | .ident _ _ ns, d, h => by
    simp only [canon, Bool.and_eq_true, Bool.not_eq_true'] at h
    exact h.1.2
  | .unary _ _ x, d, h => by
    simp only [canon, Bool.and_eq_true] at h
    exact not_pend_of_canon x d h.2
  | .binary _ _ _ r, d, h => by
    simp only [canon, Bool.and_eq_true] at h
    exact not_pend_of_canon r d h.2
  | .matches _ _ _ r, d, h => by
    simp only [canon, Bool.and_eq_true] at h
    exact not_pend_of_canon r d h.2
  | .cond _ _ _ b, d, h => by
    simp only [canon, Bool.and_eq_true] at h
    exact not_pend_of_canon b d h.2
  | .nil _, _, _ | .int _ _, _, _ | .float _ _, _, _ | .bool _ _, _, _ | .str _ _, _, _ | .const _ _, _, _
  | .prop _ _ _ _, _, _ | .index _ _ _, _, _ | .slice _ _ _ _, _, _ | .method _ _ _ _ _, _, _
  | .func _ _ _ _, _, _ | .builtin _ _ _, _, _ | .closure _ _, _, _ | .pointer _, _, _ | .array _ _, _, _
  | .map _ _, _, _ | .pair _ _ _, _, _ => rfl

theorem canonX_of_canon {d : Nat} {n : Node} (h : canon cfg d n = true) (p : Bool) : canonX cfg p d n = true := by
  have hp := not_pend_of_canon n d h
  simp [canonX, clear_of_not_pend n hp, h, hp]

theorem canon_of_canonX_false {d : Nat} {n : Node} (h : canonX cfg false d n = true) : canon cfg d n = true := by
  simp only [canonX, Bool.and_eq_true, Bool.or_false, Bool.not_eq_true'] at h
  rw [clear_of_not_pend n h.2] at h
  exact h.1

theorem strLit_clearR (r : Node) : strLit? (clearR r) = strLit? r := by
  cases r <;> rfl

theorem canonX_ident {p : Bool} {d : Nat} {m : Meta} {n : String} {ns : Bool}
    (hm : inv m = true) (hr : reserved n = false) (hns : ns = true → p = true) :
    canonX cfg p d (.ident m n ns) = true := by
  cases ns <;> simp_all [canonX, clearR, rightPend, canon]

theorem canonX_unary {p : Bool} {d : Nat} {m : Meta} {op : String} {x : Node}
    (hm : inv m = true) (hop : (cfg.tb.unary.lookup op).isSome = true) (hx : canonX cfg p d x = true) :
    canonX cfg p d (.unary m op x) = true := by
  simp only [canonX, clearR, rightPend, canon, Bool.and_eq_true] at hx ⊢
  exact ⟨⟨⟨hm, hop⟩, hx.1⟩, hx.2⟩

theorem canonX_binary {p : Bool} {d : Nat} {m : Meta} {op : String} {l r : Node}
    (hm : inv m = true) (hop : (cfg.tb.binary.lookup op).isSome = true) (hne : op ≠ "matches")
    (hl : canon cfg d l = true) (hr : canonX cfg p d r = true) :
    canonX cfg p d (.binary m op l r) = true := by
  simp only [canonX, clearR, rightPend, canon, Bool.and_eq_true] at hr ⊢
  exact ⟨⟨⟨⟨⟨hm, hop⟩, bne_iff_ne.mpr hne⟩, hl⟩, hr.1⟩, hr.2⟩

theorem canonX_matches {p : Bool} {d : Nat} {m : Meta} {l r : Node}
    (hm : inv m = true) (hop : (cfg.tb.binary.lookup "matches").isSome = true)
    (hbad : ∀ s, strLit? r = some s → cfg.badRegex s = false)
    (hl : canon cfg d l = true) (hr : canonX cfg p d r = true) :
    canonX cfg p d (.matches m (strLit? r).isSome l r) = true := by
  simp only [canonX, Bool.and_eq_true] at hr ⊢
  simp only [clearR, rightPend, canon, strLit_clearR, hm, hop, hl, hr.1, hr.2, beq_self_eq_true, Bool.true_and,
    Bool.and_true, and_true]
  cases hs : strLit? r with
  | none => rfl
  | some s => simp [hbad s hs]

theorem canonX_cond {p : Bool} {d : Nat} {m : Meta} {c a b : Node}
    (hm : inv m = true) (hc : canon cfg d c = true) (ha : canon cfg d a = true) (hb : canonX cfg p d b = true) :
    canonX cfg p d (.cond m c a b) = true := by
  simp only [canonX, clearR, rightPend, canon, Bool.and_eq_true] at hb ⊢
  exact ⟨⟨⟨⟨hm, hc⟩, ha⟩, hb.1⟩, hb.2⟩

theorem baseOK_of_canonX {d : Nat} {n : Node} {ts : List Token} (h : canonX cfg (pendB ts) d n = true)
    (hni : ∀ m s ns, n ≠ .ident m s ns) : baseOK cfg d n ts = true := by
  rcases canonBaseWith_split n with ⟨m, s, ns, rfl⟩ | hx
  · exact absurd rfl (hni m s ns)
  · rw [baseOK, hx]; exact h

theorem baseOK_of_canon {d : Nat} {n : Node} (ts : List Token) (h : canon cfg d n = true) : baseOK cfg d n ts = true := by
  rcases canonBaseWith_split n with ⟨m, s, ns, rfl⟩ | hx
  · simp only [canon, Bool.and_eq_true, Bool.not_eq_true'] at h
    simp [baseOK, canonBaseWith, h.1.1, h.1.2, h.2]
  · rw [baseOK, hx]; exact canonX_of_canon h _

theorem inv_mk (l : Loc) : inv (mk l) = true := by simp [inv, mk]

theorem pend_false_of_is {ts : List Token} {k : TokKind} {v : String} (h : (cur ts).is k v = true)
    (hk : k = .operator ∨ k = .bracket) : pendB ts = false := by
  have hkind := (kind_of_is h).1
  unfold pendB
  rcases hk with rfl | rfl <;> simp [hkind]

theorem pend_false_of_sep {first : Bool} {ts ts1 : List Token}
    (h : (first = true ∧ ts1 = ts) ∨ (first = false ∧ ts = cur ts :: ts1 ∧ (cur ts).is .operator "," = true))
    (hf : first = false) : pendB ts = false := by
  rcases h with ⟨ht, _⟩ | ⟨_, _, hc⟩
  · rw [hf] at ht; cases ht
  · exact pend_false_of_is hc (Or.inl rfl)

theorem pend_false_of_kind {ts : List Token} (h : ((cur ts).kind == .operator || (cur ts).kind == .bracket) = true) :
    pendB ts = false := by
  unfold pendB
  simp only [Bool.or_eq_true, beq_iff_eq] at h
  rcases h with h | h <;> simp [h]

theorem pend_false_of_kind_eq {ts : List Token} (h : (cur ts).kind = .operator) : pendB ts = false := by
  unfold pendB; simp [h]

/-- `C11.ImageSetting` is this with the tables fixed to the generated ones (`arity` by `C11.builtin_arities`) -/
structure ImgHyp (cfg : Cfg) : Prop where
  num_ok : ∀ s v, cfg.num s = some (.int v) → 0 ≤ v ∧ v < 9223372036854775808
  float_ok : ∀ s b, cfg.num s = some (.float b) → floatLit b = true
  arity : ∀ n ar, cfg.tb.builtins.lookup n = some ar → ar = 1 ∨ ar = 2

theorem base_link {d : Nat} {nd : Node} {ts : List Token} (b : Bool) (hb : baseOK cfg d nd ts = true)
    (hk : ((cur ts).kind == .operator || (cur ts).kind == .bracket) = true) :
    canonBaseWith (canon cfg d nd) (b || (cur ts).value == "?.") nd = true := by
  have hp := pend_false_of_kind hk
  unfold baseOK at hb
  rw [hp] at hb
  rcases canonBaseWith_split nd with ⟨m, n, ns, rfl⟩ | hx
  · simp only [canonBaseWith, Bool.and_eq_true, Bool.or_eq_true, Bool.not_eq_true'] at hb ⊢
    exact ⟨hb.1, hb.2.imp_right Or.inr⟩
  · rw [hx] at hb ⊢; exact canon_of_canonX_false hb

theorem base_index {d : Nat} {nd : Node} {ts : List Token} (hb : baseOK cfg d nd ts = true)
    (hk : ((cur ts).kind == .operator || (cur ts).kind == .bracket) = true) (hv : ((cur ts).value == "[") = true) :
    canonBaseWith (canon cfg d nd) false nd = true := by
  have hp := pend_false_of_kind hk
  unfold baseOK at hb
  rw [hp] at hb
  have hv' : (cur ts).value = "[" := by simpa using hv
  rcases canonBaseWith_split nd with ⟨m, n, ns, rfl⟩ | hx
  · simp only [canonBaseWith, hv', Bool.and_eq_true, Bool.or_eq_true, Bool.not_eq_true'] at hb ⊢
    exact ⟨hb.1, hb.2.imp_right fun h => absurd h (by decide)⟩
  · rw [hx] at hb ⊢; exact canon_of_canonX_false hb

theorem base_stop {d : Nat} {nd : Node} {ts : List Token} (hb : baseOK cfg d nd ts = true)
    (hstop : ((cur ts).kind == .operator || (cur ts).kind == .bracket) = true → ((cur ts).value == "?.") = false) :
    canonX cfg (pendB ts) d nd = true := by
  unfold baseOK at hb
  rcases canonBaseWith_split nd with ⟨m, n, ns, rfl⟩ | hx
  case inr => rw [hx] at hb; exact hb
  simp only [canonBaseWith, Bool.and_eq_true, Bool.or_eq_true, Bool.not_eq_true'] at hb
  refine canonX_ident hb.1.1 hb.1.2 ?_
  intro hns
  rcases hb.2 with h | h
  · rw [hns] at h; cases h
  · unfold pendB
    cases hk : ((cur ts).kind == .operator || (cur ts).kind == .bracket)
    · simp only [Bool.or_eq_false_iff, beq_eq_false_iff_ne] at hk
      simp [h, hk.1, hk.2]
    · rw [hstop hk] at h; cases h

end ExprModel.Parser
