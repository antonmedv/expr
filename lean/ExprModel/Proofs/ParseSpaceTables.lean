import ExprModel.Proofs.ParseLayoutRule
/-
`SpaceNotWord` for a rune classification given by range tables, as Go's `unicode` tables are: the white
space code points above U+007F are few, so they are listed and checked against the letter and digit tables.
-/
namespace ExprModel.Parser
open ExprModel.Lex

def rangePoints (rs : List (Nat × Nat × Nat)) : List Nat :=
  rs.flatMap fun r => (List.range ((r.2.1 - r.1) / r.2.2 + 1)).map fun k => r.1 + k * r.2.2

theorem mem_rangePoints {rs : List (Nat × Nat × Nat)} {n : Nat} (h : CharClass.inRanges rs n = true) :
    n ∈ rangePoints rs := by
  simp only [CharClass.inRanges, List.any_eq_true, Bool.and_eq_true, decide_eq_true_eq, beq_iff_eq] at h
  obtain ⟨⟨lo, hi, stride⟩, hr, ⟨hlo, hhi⟩, hmod⟩ := h
  simp only [rangePoints, List.mem_flatMap, List.mem_map, List.mem_range]
  refine ⟨(lo, hi, stride), hr, (n - lo) / stride, ?_, ?_⟩
  · exact Nat.lt_succ_of_le (Nat.div_le_div_right (Nat.sub_le_sub_right hhi lo))
  · show lo + (n - lo) / stride * stride = n
    rw [Nat.div_mul_cancel (Nat.dvd_of_mod_eq_zero hmod)]
    omega

/-- `inRanges` with the comparisons the kernel evaluates directly (the check below is decided by evaluation) -/
def inRangesB (rs : List (Nat × Nat × Nat)) (n : Nat) : Bool :=
  rs.any fun r => Nat.ble r.1 n && (Nat.ble n r.2.1 && Nat.beq ((n - r.1) % r.2.2) 0)

theorem inRangesB_eq (rs : List (Nat × Nat × Nat)) (n : Nat) : inRangesB rs n = CharClass.inRanges rs n := by
  unfold inRangesB CharClass.inRanges
  congr 1
  funext r
  obtain ⟨lo, hi, stride⟩ := r
  show (Nat.ble lo n && (Nat.ble n hi && Nat.beq ((n - lo) % stride) 0)) =
    (decide (lo ≤ n) && decide (n ≤ hi) && ((n - lo) % stride == 0))
  rw [Bool.and_assoc, Bool.eq_iff_iff]
  simp only [Bool.and_eq_true, Nat.ble_eq, decide_eq_true_eq, Nat.beq_eq, beq_iff_eq]

theorem asciiSpace_not_word {c : Char} (h : CharClass.asciiSpace c = true) :
    (c == '_' || c == '$' || CharClass.asciiLetter c || CharClass.asciiDigit c) = false := by
  have hn : c.toNat ≤ 32 := by
    simp only [CharClass.asciiSpace, Bool.or_eq_true, Bool.and_eq_true, decide_eq_true_eq, beq_iff_eq] at h
    rcases h with h | rfl
    · omega
    · decide
  have hlt : ∀ d : Char, 32 < d.toNat → ¬ d ≤ c := fun d hd hle => by
    have : d.toNat ≤ c.toNat := Char.le_def.mp hle
    omega
  have hne : ∀ d : Char, 32 < d.toNat → (c == d) = false := fun d hd =>
    beq_false_of_ne (fun e => by subst e; omega)
  simp [CharClass.asciiLetter, CharClass.asciiDigit, hne '_' (by decide), hne '$' (by decide),
    hlt 'a' (by decide), hlt 'A' (by decide), hlt '0' (by decide)]

theorem spaceNotWord_ofRanges (l d s : List (Nat × Nat × Nat)) (b : Bool)
    (h : (rangePoints s).all (fun n => Nat.blt n 128 || (!inRangesB l n && !inRangesB d n)) = true) :
    SpaceNotWord { CharClass.ofRanges l d s with notInAnySpace := b } := by
  intro x hx
  show (x == '_' || x == '$' || (CharClass.ofRanges l d s).isLetter x || (CharClass.ofRanges l d s).isDigit x) = false
  by_cases h128 : x.toNat < 128
  · have hs : CharClass.asciiSpace x = true := by simpa [CharClass.ofRanges, h128] using hx
    simpa [CharClass.ofRanges, h128] using asciiSpace_not_word hs
  · have hs : CharClass.inRanges s x.toNat = true := by simpa [CharClass.ofRanges, h128] using hx
    have := List.all_eq_true.mp h _ (mem_rangePoints hs)
    simp only [inRangesB_eq, Bool.or_eq_true, Nat.blt_eq, h128, false_or, Bool.and_eq_true, Bool.not_eq_true'] at this
    have hne : ∀ d : Char, d.toNat < 128 → (x == d) = false := fun d hd =>
      beq_false_of_ne (fun e => by subst e; exact h128 hd)
    simp [CharClass.ofRanges, h128, this.1, this.2, hne '_' (by decide), hne '$' (by decide)]

end ExprModel.Parser
