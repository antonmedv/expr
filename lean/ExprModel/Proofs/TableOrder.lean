import ExprModel.Types.Table
/-
`conf.FieldsFromStruct` as the snapshot wrote it merges the table of an embedded struct by ranging over a Go map
(`for name, typ := range FieldsFromStruct(f.Type)`); the model of that loop (`fieldsRaw`) takes the iteration order as a
parameter `σ`.  The code after commit 08b47a6 has no such loop: it ranges over the slice `fieldNames(t, …)` and asks
`t.FieldByName`; its model (`fieldsFromStruct` with `declOrderMerge = false`) takes the set of names from `fieldsRaw`,
which is all it has to do with `σ`.
Here: for every `σ` that only permutes entries, the entry `fieldsRaw` holds for a name is `rawAt … name`, a function
that does not mention `σ` (`fieldsRaw_get?`), hence `fieldsRaw_perm_invariant`.
-/
namespace ExprModel

namespace Table

@[simp] theorem get?_nil (n : String) : get? [] n = none := rfl

theorem get?_cons (k : String) (v : Tag) (r : Table) (n : String) :
    get? ((k, v) :: r) n = if k = n then some v else get? r n := rfl

theorem filter_cons_eq (k : String) (v : Tag) (r : Table) (n : String) (h : k = n) :
    List.filter (fun e => decide (e.1 ≠ n)) ((k, v) :: r) = List.filter (fun e => decide (e.1 ≠ n)) r := by
  simp [h]

theorem filter_cons_ne (k : String) (v : Tag) (r : Table) (n : String) (h : ¬ k = n) :
    List.filter (fun e => decide (e.1 ≠ n)) ((k, v) :: r) =
      (k, v) :: List.filter (fun e => decide (e.1 ≠ n)) r := by
  simp [h]

theorem get?_filter_ne (t : Table) (n m : String) (h : m ≠ n) :
    get? (t.filter (fun e => decide (e.1 ≠ n))) m = get? t m := by
  induction t with
  | nil => rfl
  | cons e r ih =>
    obtain ⟨k, v⟩ := e
    by_cases hk : k = n
    · rw [filter_cons_eq k v r n hk, ih, get?_cons]
      have : ¬ (k = m) := fun e => h (hk ▸ e.symm)
      simp [this]
    · rw [filter_cons_ne k v r n hk, get?_cons, get?_cons, ih]

theorem get?_filter_self (t : Table) (n : String) :
    get? (t.filter (fun e => decide (e.1 ≠ n))) n = none := by
  induction t with
  | nil => rfl
  | cons e r ih =>
    obtain ⟨k, v⟩ := e
    by_cases hk : k = n
    · rw [filter_cons_eq k v r n hk, ih]
    · rw [filter_cons_ne k v r n hk, get?_cons, ih]; simp [hk]

theorem get?_set (t : Table) (n : String) (g : Tag) (m : String) :
    (t.set n g).get? m = if n = m then some g else t.get? m := by
  unfold set
  rw [get?_cons]
  by_cases h : n = m
  · simp [h]
  · simp only [h, if_false]
    exact get?_filter_ne t n m (fun e => h e.symm)

/-- the invariant of a Go map: keys are unique -/
def NodupKeys (t : Table) : Prop := t.keys.Nodup

theorem nodupKeys_nil : NodupKeys [] := List.nodup_nil

theorem keys_filter_sublist (t : Table) (p : String × Tag → Bool) :
    (keys (t.filter p)).Sublist (keys t) := by
  unfold keys
  exact (List.filter_sublist (l := t)).map _

theorem not_mem_keys_filter (t : Table) (n : String) :
    n ∉ keys (t.filter (fun e => decide (e.1 ≠ n))) := by
  unfold keys
  intro h
  rcases List.mem_map.1 h with ⟨e, he, rfl⟩
  have := (List.mem_filter.1 he).2
  simp at this

theorem nodupKeys_set {t : Table} (h : NodupKeys t) (n : String) (g : Tag) :
    NodupKeys (t.set n g) := by
  unfold NodupKeys set keys
  rw [List.map_cons, List.nodup_cons]
  exact ⟨not_mem_keys_filter t n, h.sublist (keys_filter_sublist t _)⟩

theorem nodupKeys_foldl {α : Type} (F : Table → α → Table) (hF : ∀ b x, NodupKeys b → NodupKeys (F b x))
    (xs : List α) : ∀ {b : Table}, NodupKeys b → NodupKeys (xs.foldl F b) := by
  induction xs with
  | nil => exact fun h => h
  | cons x xs ih => exact fun h => ih (hF _ x h)

theorem mem_keys_iff {t : Table} (n : String) : n ∈ t.keys ↔ (t.get? n).isSome := by
  induction t with
  | nil => exact ⟨nofun, nofun⟩
  | cons e r ih =>
    obtain ⟨k, v⟩ := e
    rw [get?_cons]
    show n ∈ k :: keys r ↔ _
    rw [List.mem_cons]
    by_cases hk : k = n
    · rw [if_pos hk]
      exact ⟨fun _ => rfl, fun _ => .inl hk.symm⟩
    · rw [if_neg hk, ← ih]
      exact ⟨fun h => h.resolve_left fun e => hk e.symm, .inr⟩

theorem mem_of_get? {n : String} {g : Tag} : ∀ {t : Table}, get? t n = some g → (n, g) ∈ t
  | [], h => nomatch h
  | (k, v) :: r, h => by
    rw [get?_cons] at h
    split at h
    · next hk => cases h; rw [← hk]; exact List.mem_cons_self
    · exact List.mem_cons_of_mem _ (mem_of_get? h)

theorem get?_eq_some_iff_mem {t : Table} (h : NodupKeys t) (n : String) (g : Tag) :
    t.get? n = some g ↔ (n, g) ∈ t := by
  induction t with
  | nil => simp
  | cons e r ih =>
    obtain ⟨k, v⟩ := e
    have hn : k ∉ keys r ∧ NodupKeys r := by
      simpa [NodupKeys, keys, List.nodup_cons] using h
    rw [get?_cons]
    by_cases hk : k = n
    · subst hk
      simp only [if_true, List.mem_cons, Prod.mk.injEq, true_and]
      constructor
      · intro e; cases e; exact Or.inl rfl
      · rintro (e | hm)
        · rw [e]
        · exact absurd (List.mem_map.2 ⟨(k, g), hm, rfl⟩) hn.1
    · simp only [hk, if_false, List.mem_cons, Prod.mk.injEq]
      rw [ih hn.2]
      constructor
      · exact Or.inr
      · rintro (⟨e, _⟩ | hm)
        · exact absurd e.symm hk
        · exact hm

theorem NodupKeys.perm {t t' : Table} (p : t'.Perm t) (h : NodupKeys t) : NodupKeys t' := by
  unfold NodupKeys keys at *
  exact (p.map _).nodup_iff.2 h

theorem get?_perm {t t' : Table} (p : t'.Perm t) (h : NodupKeys t) (n : String) :
    t'.get? n = t.get? n := by
  have h' := NodupKeys.perm p h
  cases hg : t.get? n with
  | some g =>
    rw [get?_eq_some_iff_mem h] at hg
    exact (get?_eq_some_iff_mem h' n g).2 (p.mem_iff.2 hg)
  | none =>
    cases hg' : t'.get? n with
    | none => rfl
    | some g =>
      rw [get?_eq_some_iff_mem h'] at hg'
      have := (get?_eq_some_iff_mem h n g).2 (p.mem_iff.1 hg')
      rw [hg] at this; cases this

/-- a table built from a list of keys, one optional entry per key: `fieldsFromStruct` under Go's selector rule -/
theorem get?_filterMap_keys (F : String → Option Tag) (n : String) :
    ∀ ks : List String, get? (ks.filterMap fun k => (F k).map fun g => (k, g)) n =
      if n ∈ ks then F n else none := by
  intro ks
  induction ks with
  | nil => rfl
  | cons k r ih =>
    rw [List.filterMap_cons]
    by_cases hk : k = n
    · subst hk
      cases hF : F k with
      | none => simp [ih, hF]
      | some g => simp [get?_cons]
    · have hne : ¬ n = k := fun e => hk e.symm
      cases hF : F k with
      | none => simp [ih, hne]
      | some g => simp [get?_cons, hk, ih, hne]

theorem nodupKeys_filterMap (F : String → Option Tag) :
    ∀ ks : List String, ks.Nodup → NodupKeys (ks.filterMap fun k => (F k).map fun g => (k, g)) := by
  intro ks h
  unfold NodupKeys keys
  rw [List.map_filterMap]
  have : (List.filterMap (fun x => Option.map (fun x : String × Tag => x.1) (Option.map (fun g => (x, g)) (F x))) ks).Sublist ks := by
    induction ks with
    | nil => exact List.Sublist.slnil
    | cons k r ih =>
      rw [List.filterMap_cons]
      cases F k with
      | none => exact (ih (List.nodup_cons.1 h).2).cons k
      | some g => exact (ih (List.nodup_cons.1 h).2).cons_cons k
  exact h.sublist this

end Table

open Table

/-- what the merge loop does to the entry of one name -/
def mergeAt (cur emb : Option Tag) : Option Tag :=
  match emb with
  | some g => if cur.isSome then some { ambiguous := true } else some g
  | none => cur

def mergeStep (types : Table) (e : String × Tag) : Table :=
  if (types.get? e.1).isSome then types.set e.1 { ambiguous := true } else types.set e.1 e.2

theorem mergeEmbedded_cons (types : Table) (e : String × Tag) (r : Table) :
    mergeEmbedded types (e :: r) = mergeEmbedded (mergeStep types e) r := rfl

theorem get?_mergeStep (types : Table) (e : String × Tag) (n : String) :
    (mergeStep types e).get? n = if e.1 = n then mergeAt (types.get? n) (some e.2) else types.get? n := by
  unfold mergeStep
  by_cases hk : e.1 = n
  · rw [if_pos hk, ← hk]
    show _ = (if (types.get? e.1).isSome then some { ambiguous := true } else some e.2)
    split <;> rw [get?_set, if_pos rfl]
  · rw [if_neg hk]
    split <;> rw [get?_set, if_neg hk]

theorem nodupKeys_cons {k : String} {v : Tag} {r : Table} :
    NodupKeys ((k, v) :: r) ↔ k ∉ keys r ∧ NodupKeys r := List.nodup_cons

theorem mergeEmbedded_nodup (emb : Table) : ∀ {types : Table}, NodupKeys types →
    NodupKeys (mergeEmbedded types emb) :=
  nodupKeys_foldl mergeStep (fun b e h => by unfold mergeStep; split <;> exact nodupKeys_set h _ _) emb

theorem mergeEmbedded_get?_not_mem (emb : Table) (n : String) (hn : n ∉ emb.keys) :
    ∀ types : Table, (mergeEmbedded types emb).get? n = types.get? n := by
  induction emb with
  | nil => intro types; rfl
  | cons e r ih =>
    intro types
    rw [show keys (e :: r) = e.1 :: keys r from rfl, List.mem_cons, not_or] at hn
    rw [mergeEmbedded_cons, ih hn.2, get?_mergeStep, if_neg fun h => hn.1 h.symm]

theorem mergeEmbedded_get? (emb : Table) (h : NodupKeys emb) (n : String) :
    ∀ types : Table, (mergeEmbedded types emb).get? n = mergeAt (types.get? n) (emb.get? n) := by
  induction emb with
  | nil => intro types; rfl
  | cons e r ih =>
    intro types
    obtain ⟨k, v⟩ := e
    obtain ⟨hk, hr⟩ := nodupKeys_cons.1 h
    rw [mergeEmbedded_cons, get?_cons]
    by_cases hkn : k = n
    · rw [if_pos hkn, mergeEmbedded_get?_not_mem r n (hkn ▸ hk), get?_mergeStep, if_pos hkn]
    · rw [if_neg hkn, ih hr, get?_mergeStep, if_neg hkn]

def accepts (d : NDefects) (f : Field) : Bool := d.unexportedAccepted || f.exported

/-- one iteration of the loop over a struct's fields, seen at the entry of `name`; `R` is the recursive call,
    pointwise.  The own field is tested first although `fieldsLoop` merges the embedded struct's table first and
    sets the own field afterwards: the later `set` overwrites the entry, so where both apply the own field wins
    (in `fieldsLoop_get?`: `g2` is rewritten before `g1`). -/
def stepAt (d : NDefects) (R : Ty → String → Option Tag) (name : String) (f : Field) (cur : Option Tag) :
    Option Tag :=
  if accepts d f && f.name = name then some { ty := some f.ty }
  else if f.anon then mergeAt cur (R f.ty name) else cur

def loopAt (d : NDefects) (R : Ty → String → Option Tag) (name : String) :
    List Field → Option Tag → Option Tag
  | [], cur => cur
  | f :: fs, cur => loopAt d R name fs (stepAt d R name f cur)

/-- the entry of `conf.FieldsFromStruct(t)` (as written) for `name`; no iteration order involved -/
def rawAt (d : NDefects) : Nat → Ty → String → Option Tag
  | 0, _, _ => none
  | n + 1, t, name =>
    match t.deref.core with
    | .struct fs => loopAt d (rawAt d n) name fs none
    | _ => none

/-- `σ` models an iteration order: it only permutes the entries -/
def IsOrder (σ : Table → Table) : Prop := ∀ t, (σ t).Perm t

theorem isOrder_id : IsOrder id := fun _ => List.Perm.refl _
theorem isOrder_reverse : IsOrder List.reverse := fun t => List.reverse_perm t

theorem fieldsLoop_nodup (d : NDefects) (σ : Table → Table) (rec : Ty → Table) (fs : List Field) :
    ∀ acc : Table, NodupKeys acc → NodupKeys (fieldsLoop d σ rec fs acc) := by
  induction fs with
  | nil => exact fun _ h => h
  | cons f fs ih =>
    intro acc h
    unfold fieldsLoop
    apply ih
    have h1 : NodupKeys (if f.anon then mergeEmbedded acc (σ (rec f.ty)) else acc) := by
      split
      · exact mergeEmbedded_nodup _ h
      · exact h
    split
    · exact nodupKeys_set h1 _ _
    · exact h1

theorem fieldsLoop_get? (d : NDefects) (σ : Table → Table) (hσ : IsOrder σ) (rec : Ty → Table)
    (hrec : ∀ t, NodupKeys (rec t)) (name : String) :
    ∀ (fs : List Field) (acc : Table),
      (fieldsLoop d σ rec fs acc).get? name = loopAt d (fun t n => (rec t).get? n) name fs (acc.get? name) := by
  intro fs
  induction fs with
  | nil => intro acc; rfl
  | cons f fs ih =>
    intro acc
    unfold fieldsLoop
    rw [loopAt]
    have g1 : (if f.anon then mergeEmbedded acc (σ (rec f.ty)) else acc).get? name =
        (if f.anon then mergeAt (acc.get? name) ((rec f.ty).get? name) else acc.get? name) := by
      split
      · rw [mergeEmbedded_get? _ (NodupKeys.perm (hσ _) (hrec _)), get?_perm (hσ _) (hrec _)]
      · rfl
    generalize (if f.anon then mergeEmbedded acc (σ (rec f.ty)) else acc) = acc1 at g1 ⊢
    have g2 : (if d.unexportedAccepted || f.exported then acc1.set f.name { ty := some f.ty } else acc1).get? name =
        (if (d.unexportedAccepted || f.exported) && f.name = name then some { ty := some f.ty } else acc1.get? name) := by
      by_cases hx : (d.unexportedAccepted || f.exported) = true
      · by_cases hn : f.name = name <;> simp [hx, get?_set, hn]
      · simp [hx]
    rw [ih, g2, g1]
    rfl

theorem fieldsRaw_succ (d : NDefects) (σ : Table → Table) (n : Nat) (t : Ty) :
    fieldsRaw d σ (n + 1) t =
      match t.deref.core with
      | .struct fs => fieldsLoop d σ (fieldsRaw d σ n) fs []
      | _ => [] := rfl

theorem rawAt_succ (d : NDefects) (n : Nat) (t : Ty) (name : String) :
    rawAt d (n + 1) t name =
      match t.deref.core with
      | .struct fs => loopAt d (rawAt d n) name fs none
      | _ => none := rfl

theorem fieldsRaw_nodup (d : NDefects) (σ : Table → Table) (n : Nat) (t : Ty) : NodupKeys (fieldsRaw d σ n t) := by
  cases n with
  | zero => exact nodupKeys_nil
  | succ n =>
    rw [fieldsRaw_succ]
    cases t.deref.core with
    | struct fs => exact fieldsLoop_nodup d σ _ fs [] nodupKeys_nil
    | _ => exact nodupKeys_nil

theorem fieldsRaw_get? (d : NDefects) (σ : Table → Table) (hσ : IsOrder σ) (n : Nat) :
    ∀ (t : Ty) (name : String), (fieldsRaw d σ n t).get? name = rawAt d n t name := by
  induction n with
  | zero => intro t name; rfl
  | succ n ih =>
    intro t name
    have hfun : (fun t m => (fieldsRaw d σ n t).get? m) = rawAt d n := by
      funext t m; exact ih t m
    rw [fieldsRaw_succ, rawAt_succ]
    cases t.deref.core with
    | struct fs =>
      show (fieldsLoop d σ (fieldsRaw d σ n) fs []).get? name = loopAt d (rawAt d n) name fs none
      rw [fieldsLoop_get? d σ hσ _ (fieldsRaw_nodup d σ n) name, hfun]
      rfl
    | _ => rfl

/-- The entry `FieldsFromStruct` computes for a name does not depend on the order in which Go
happens to iterate over the intermediate maps. -/
theorem fieldsRaw_perm_invariant (d : NDefects) (σ σ' : Table → Table) (hσ : IsOrder σ)
    (hσ' : IsOrder σ') (n : Nat) (t : Ty) (name : String) :
    (fieldsRaw d σ n t).get? name = (fieldsRaw d σ' n t).get? name := by
  rw [fieldsRaw_get? d σ hσ, fieldsRaw_get? d σ' hσ']

end ExprModel
