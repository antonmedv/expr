import ExprModel.Proofs.WalkThm
/-
For C17.  `explicitCallForm` is `bottomUp (patchExit …)` (the two obey the same equation over the children), which is
what the operator patcher returns when run through the walker with the complete table (`patchOperators_ref`, by
`walkU_onExit`).  `findOverload` is a `List.find?` (first match), and `configCheck` accepts exactly the tables whose
every function has a well-shaped tag.
-/
namespace ExprModel
open Node

theorem explicitCallFormL_eq_map (ops : OpTable) (tyOf : Node → String) (xs : List Node) :
    explicitCallFormL ops tyOf xs = xs.map (explicitCallForm ops tyOf) := by
  induction xs with
  | nil => rfl
  | cons c cs ih => exact congrArg (explicitCallForm ops tyOf c :: ·) ih

theorem patchExit_binary (ops : OpTable) (tyOf : Node → String) (m : Meta) (op : String) (l r : Node) :
    patchExit ops tyOf (.binary m op l r) = callOrOp ops tyOf m op l r := by
  simp only [patchExit, callOrOp]
  cases overloadFor ops tyOf op l r <;> rfl

theorem explicitCallForm_eq (ops : OpTable) (tyOf : Node → String) (n : Node) :
    explicitCallForm ops tyOf n =
      patchExit ops tyOf (n.withChildren (n.children.map (explicitCallForm ops tyOf))) := by
  have hL := explicitCallFormL_eq_map ops tyOf
  cases n with
  | slice m x f t => cases f <;> cases t <;> rfl
  | binary m op l r => exact (patchExit_binary ops tyOf m op _ _).symm
  | method m x nm a s => exact congrArg (Node.method m _ nm · s) (hL a)
  | func m nm a f => exact congrArg (Node.func m nm · f) (hL a)
  | builtin m nm a => exact congrArg (Node.builtin m nm) (hL a)
  | array m a => exact congrArg (Node.array m) (hL a)
  | map m a => exact congrArg (Node.map m) (hL a)
  | _ => rfl

theorem explicitCallForm_eq_bottomUp (ops : OpTable) (tyOf : Node → String) :
    ∀ n, explicitCallForm ops tyOf n = bottomUp (patchExit ops tyOf) n :=
  Node.fun_unique (fun n ks => patchExit ops tyOf (n.withChildren ks)) (explicitCallForm_eq ops tyOf) (bottomUp_eq _)

theorem patchExit_children (ops : OpTable) (tyOf : Node → String) (n : Node) :
    (patchExit ops tyOf n).children = n.children := by
  cases n with
  | binary m op l r =>
    rw [patchExit_binary]
    unfold callOrOp
    cases overloadFor ops tyOf op l r <;> rfl
  | _ => rfl

theorem overloadFor_nil (tyOf : Node → String) (op : String) (l r : Node) : overloadFor [] tyOf op l r = none := rfl

/-- with no operator mapped nothing changes (`PatchOperators` returns at once) -/
theorem explicitCallForm_nil (tyOf : Node → String) : ∀ n, explicitCallForm [] tyOf n = n :=
  Node.fun_unique (G := id) (fun n ks => patchExit [] tyOf (n.withChildren ks)) (explicitCallForm_eq [] tyOf) fun n => by
    rw [List.map_id, withChildren_children]
    cases n <;> simp [patchExit, overloadFor_nil]

theorem patchOperators_ref (ops : OpTable) (tyOf : Node → String) (n : Node) :
    patchOperators refSlots ops tyOf n = some (explicitCallForm ops tyOf n) := by
  unfold patchOperators
  split
  · next h =>
    have : ops = [] := by cases ops <;> simp_all
    rw [this, explicitCallForm_nil]
  · rw [walk_ref_eq_walkU]
    unfold opPatcher
    -- `patchOperators` gives the walk the fuel `n.height + 1`; `n.height` is what it needs
    rw [walkU_onExit _ _ _ (Nat.le_succ _), explicitCallForm_eq_bottomUp]

theorem findOverload_eq_find? (cs : List OpCand) (tl tr : String) :
    findOverload cs tl tr = (cs.find? fun c => c.l.fits tl && c.r.fits tr).map (·.fn) := by
  induction cs with
  | nil => rfl
  | cons c cs ih =>
    rw [findOverload, List.find?_cons]
    cases c.l.fits tl && c.r.fits tr
    · exact ih
    · rfl

theorem findOverload_none_iff (cs : List OpCand) (tl tr : String) :
    findOverload cs tl tr = none ↔ ∀ c ∈ cs, (c.l.fits tl && c.r.fits tr) = false := by
  rw [findOverload_eq_find?, Option.map_eq_none_iff, List.find?_eq_none]
  simp only [Bool.not_eq_true]

theorem findOverload_first (pre post : List OpCand) (c : OpCand) (tl tr : String)
    (hpre : ∀ d ∈ pre, (d.l.fits tl && d.r.fits tr) = false) (hc : (c.l.fits tl && c.r.fits tr) = true) :
    findOverload (pre ++ c :: post) tl tr = some c.fn := by
  rw [findOverload_eq_find?, List.find?_append, List.find?_eq_none.2 (fun d hd => by rw [hpre d hd]; exact Bool.false_ne_true),
    Option.none_or, List.find?_cons_of_pos (l := post) hc]
  rfl

theorem findOverload_some (cs : List OpCand) (tl tr fn : String) (h : findOverload cs tl tr = some fn) :
    ∃ c ∈ cs, c.fn = fn ∧ c.l.fits tl = true ∧ c.r.fits tr = true := by
  rw [findOverload_eq_find?, Option.map_eq_some_iff] at h
  obtain ⟨c, hc, hfn⟩ := h
  have := List.find?_some hc
  rw [Bool.and_eq_true] at this
  exact ⟨c, List.mem_of_find?_eq_some hc, hfn, this.1, this.2⟩

theorem FnTag.wellShaped_iff (t : FnTag) :
    t.wellShaped = true ↔ t.hasType = true ∧ t.isFunc = true ∧ t.numIn = (if t.method then 3 else 2) ∧ t.numOut = 1 := by
  simp only [FnTag.wellShaped, Bool.and_eq_true, beq_iff_eq, and_assoc]

theorem checkFn_ok_iff (types : List (String × FnTag)) (op fn : String) :
    checkFn types op fn = .ok ↔ ∃ t, types.lookup fn = some t ∧ t.wellShaped = true := by
  unfold checkFn
  cases types.lookup fn with
  | none => simp
  | some t =>
    simp only [Option.some.injEq, exists_eq_left', FnTag.wellShaped_iff]
    by_cases h1 : t.hasType <;> by_cases h2 : t.isFunc <;> simp [h1, h2]

theorem checkFns_ok_iff (types : List (String × FnTag)) (op : String) (fns : List String) :
    checkFns types op fns = .ok ↔ ∀ fn ∈ fns, checkFn types op fn = .ok := by
  induction fns with
  | nil => simp [checkFns]
  | cons fn fns ih =>
    simp only [checkFns, List.mem_cons, forall_eq_or_imp]
    cases h : checkFn types op fn <;> simp [ih]

theorem configCheck_ok_iff_checkFns (types : List (String × FnTag)) (ops : List (String × List String)) :
    configCheck types ops = .ok ↔ ∀ e ∈ ops, checkFns types e.1 e.2 = .ok := by
  induction ops with
  | nil => simp [configCheck]
  | cons e ops ih =>
    simp only [configCheck, List.mem_cons, forall_eq_or_imp]
    cases h : checkFns types e.1 e.2 <;> simp [ih]

theorem configCheck_ok_iff (types : List (String × FnTag)) (ops : List (String × List String)) :
    configCheck types ops = .ok ↔ ∀ e ∈ ops, ∀ fn ∈ e.2, ∃ t, types.lookup fn = some t ∧ t.wellShaped = true := by
  simp only [configCheck_ok_iff_checkFns, checkFns_ok_iff, checkFn_ok_iff]

end ExprModel
