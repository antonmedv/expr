import ExprModel.Proofs.TableOrder
/-
The selector Spec (`levelTys`, `searchLevels`, `reflField`, `occAt`) and its relation to the pointwise table semantics
`rawAt` / `loopAt` of `Proofs/TableOrder.lean`: which fields leave the entry of a name alone (`NoEvent`,
`loopAt_eq_none_iff`), properties asked of a type and of everything it embeds (`AtEveryLevel`, `EmbWF`), and the
direction C16 takes from here: the table has an entry for every accepted field that Go's rule resolves
(`rawAt_isSome_of_found`).  The converse is `Proofs/RawSound.lean`.
-/
namespace ExprModel
open Table

theorem Ty.depth_pos : ∀ t : Ty, 0 < t.depth := by
  intro t; cases t <;> (unfold Ty.depth; omega)

theorem Ty.core_depth_le : ∀ t : Ty, t.core.depth ≤ t.depth
  | .named _ _ u => by
    have := Ty.core_depth_le u
    simp only [Ty.core, Ty.depth]; omega
  | .bool | .string | .num _ | .iface _ | .ptr _ | .slice _ | .array _ _ | .map _ _
  | .func _ _ _ | .struct _ | .ref _ | .other _ => Nat.le_refl _

theorem Ty.fields_depth_lt {t : Ty} {f : Field} (h : f ∈ t.fields) : f.ty.depth < t.depth := by
  unfold Ty.fields at h
  have hc := Ty.core_depth_le t
  split at h
  · rename_i fs hcore
    have := Field.depth_lt_of_mem h
    rw [hcore] at hc
    simp only [Ty.depth] at hc
    omega
  · cases h

theorem embTarget_depth_le (f : Field) : (embTarget f).depth ≤ f.ty.depth := by
  unfold embTarget
  have hc := Ty.core_depth_le f.ty
  split
  · rename_i u hcore
    rw [hcore] at hc
    simp only [Ty.depth] at hc
    omega
  · exact Nat.le_refl _

theorem mem_embedded {t : Ty} {f : Field} : f ∈ t.embedded ↔ f ∈ t.fields ∧ f.anon = true := by
  unfold Ty.embedded; simp [List.mem_filter]

theorem embTarget_depth_lt {t : Ty} {f : Field} (h : f ∈ t.embedded) :
    (embTarget f).depth < t.depth :=
  Nat.lt_of_le_of_lt (embTarget_depth_le f) (Ty.fields_depth_lt (mem_embedded.1 h).1)

theorem levelFields_zero (t : Ty) : levelFields 0 t = t.fields := by
  simp [levelFields, levelTys]

theorem levelFields_succ (d : Nat) (t : Ty) :
    levelFields (d + 1) t = t.embedded.flatMap fun f => levelFields d (embTarget f) := by
  simp [levelFields, levelTys, List.flatMap_assoc]

/-- only `depth`-many embedding levels exist -/
theorem levelTys_eq_nil_of_depth_le : ∀ (d : Nat) (t : Ty), t.depth ≤ d → levelTys d t = []
  | 0, t, h => absurd h (Nat.not_le.2 (Ty.depth_pos t))
  | d + 1, t, h => by
    rw [levelTys]
    apply List.flatMap_eq_nil_iff.2
    intro f hf
    exact levelTys_eq_nil_of_depth_le d _ (by have := embTarget_depth_lt hf; omega)

theorem levelFields_eq_nil_of_depth_le (d : Nat) (t : Ty) (h : t.depth ≤ d) : levelFields d t = [] := by
  rw [levelFields, levelTys_eq_nil_of_depth_le d t h]
  rfl

theorem searchLevels_found {α : Type} (cands : Nat → List α) (c : α) :
    ∀ (k s n : Nat), (∀ j, j < k → cands (s + j) = []) → cands (s + k) = [c] → k < n →
      searchLevels cands s n = .found c
  | 0, s, n + 1, _, hk, _ => by
    unfold searchLevels
    rw [Nat.add_zero] at hk; rw [hk]
  | k + 1, s, n + 1, h0, hk, hn => by
    unfold searchLevels
    have := h0 0 (Nat.succ_pos k)
    rw [Nat.add_zero] at this; rw [this]
    apply searchLevels_found cands c k (s + 1) n
    · intro j hj
      have := h0 (j + 1) (Nat.succ_lt_succ hj)
      rwa [Nat.add_assoc, Nat.add_comm 1 j]
    · rwa [Nat.add_assoc, Nat.add_comm 1 k]
    · omega

theorem searchLevels_found_inv {α : Type} (cands : Nat → List α) (c : α) :
    ∀ (n s : Nat), searchLevels cands s n = .found c →
      ∃ k, k < n ∧ (∀ j, j < k → cands (s + j) = []) ∧ cands (s + k) = [c]
  | 0, s, h => by simp [searchLevels] at h
  | n + 1, s, h => by
    unfold searchLevels at h
    split at h
    · rename_i he
      obtain ⟨k, hk, h0, hc⟩ := searchLevels_found_inv cands c n (s + 1) h
      refine ⟨k + 1, by omega, ?_, ?_⟩
      · intro j hj
        cases j with
        | zero => simpa using he
        | succ j =>
          have := h0 j (by omega)
          rwa [Nat.add_assoc, Nat.add_comm 1 j] at this
      · rwa [Nat.add_assoc, Nat.add_comm 1 k] at hc
    · rename_i c' he
      cases h
      exact ⟨0, by omega, fun j hj => absurd hj (Nat.not_lt_zero j), by simpa using he⟩
    · cases h

theorem searchLevels_notFound {α : Type} (cands : Nat → List α) :
    ∀ (n s : Nat), (∀ j, j < n → cands (s + j) = []) → searchLevels cands s n = .notFound
  | 0, _, _ => rfl
  | n + 1, s, h => by
    unfold searchLevels
    have := h 0 (Nat.succ_pos n)
    rw [Nat.add_zero] at this; rw [this]
    apply searchLevels_notFound cands n (s + 1)
    intro j hj
    have := h (j + 1) (Nat.succ_lt_succ hj)
    rwa [Nat.add_assoc, Nat.add_comm 1 j]

/-- the candidates of `reflField` at depth `d`: Go's rule finds `name` iff the first non-empty `occAt` is a singleton
    (`reflField_found_iff`) -/
def occAt (d : Nat) (t : Ty) (name : String) : List Field :=
  (levelFields d t).filter (fun f => f.name = name)

theorem reflField_def (t : Ty) (name : String) :
    reflField t name = searchLevels (fun d => occAt d t name) 0 (t.depth + 1) := rfl

theorem occAt_zero (t : Ty) (name : String) :
    occAt 0 t name = t.fields.filter (fun f => f.name = name) := by
  simp [occAt, levelFields_zero]

theorem occAt_succ (d : Nat) (t : Ty) (name : String) :
    occAt (d + 1) t name = t.embedded.flatMap fun f => occAt d (embTarget f) name := by
  simp [occAt, levelFields_succ, List.filter_flatMap]

theorem occAt_eq_nil_of_depth_le (d : Nat) (t : Ty) (name : String) (h : t.depth ≤ d) :
    occAt d t name = [] := by
  simp [occAt, levelFields_eq_nil_of_depth_le d t h]

theorem reflField_found_iff (t : Ty) (name : String) (f : Field) :
    reflField t name = .found f ↔
      ∃ k, (∀ j, j < k → occAt j t name = []) ∧ occAt k t name = [f] := by
  rw [reflField_def]
  constructor
  · intro h
    obtain ⟨k, _, h0, hc⟩ := searchLevels_found_inv _ f _ 0 h
    exact ⟨k, fun j hj => by simpa using h0 j hj, by simpa using hc⟩
  · rintro ⟨k, h0, hc⟩
    apply searchLevels_found _ f k 0 (t.depth + 1)
    · intro j hj; simpa using h0 j hj
    · simpa using hc
    · by_cases hk : k < t.depth + 1
      · exact hk
      · have := occAt_eq_nil_of_depth_le k t name (by omega)
        rw [this] at hc; cases hc

/-- Go's selector rule on a struct that embeds nothing: only depth 0 has candidates -/
theorem reflField_flat {t : Ty} (he : t.embedded = []) (name : String) :
    reflField t name =
      match t.fields.filter (fun f => f.name = name) with
      | [] => .notFound
      | [c] => .found c
      | _ => .ambiguous := by
  unfold reflField
  rw [searchLevels]
  simp only [levelFields_zero]
  cases t.fields.filter (fun f => f.name = name) with
  | nil =>
    refine searchLevels_notFound _ _ 1 fun j _ => ?_
    rw [Nat.add_comm, levelFields_succ, he]
    rfl
  | cons c rest => cases rest <;> rfl

theorem Ty.deref_of_not_isPtr {t : Ty} (h : t.isPtr = false) : t.deref = t := by
  unfold Ty.deref
  split
  · cases h
  · rw [if_neg (by rw [h]; exact Bool.false_ne_true)]
  · rfl

theorem Ty.fields_eq_of_core {t : Ty} {fs : List Field} (h : t.core = .struct fs) : t.fields = fs := by
  simp [Ty.fields, h]

theorem Ty.kind_struct_iff {t : Ty} : t.kind = .struct ↔ ∃ fs, t.core = .struct fs := by
  unfold Ty.kind
  cases h : t.core <;> simp

theorem Ty.kind_map_iff {t : Ty} : t.kind = .map ↔ ∃ k v, t.core = .map k v := by
  unfold Ty.kind
  cases h : t.core <;> simp

theorem Ty.isPtr_false_of_kind_struct {t : Ty} (h : t.kind = .struct) : t.isPtr = false := by
  obtain ⟨fs, hc⟩ := Ty.kind_struct_iff.1 h
  simp [Ty.isPtr, hc]

/-- a field that does not touch the entry of `name` -/
def NoEvent (d : NDefects) (R : Ty → String → Option Tag) (name : String) (f : Field) : Prop :=
  (f.anon = true → R f.ty name = none) ∧ ¬ (accepts d f = true ∧ f.name = name)

theorem mergeAt_none (cur : Option Tag) : mergeAt cur none = cur := rfl

theorem mergeAt_none_some (g : Tag) : mergeAt none (some g) = some g := rfl

theorem mergeAt_some_some (c g : Tag) : mergeAt (some c) (some g) = some { ambiguous := true } := rfl

section
variable {d : NDefects} {R : Ty → String → Option Tag} {name : String} {f : Field}

theorem stepAt_own (h : accepts d f = true ∧ f.name = name) (cur : Option Tag) :
    stepAt d R name f cur = some { ty := some f.ty } := by
  unfold stepAt
  rw [if_pos (by rw [h.1, h.2]; exact decide_eq_true rfl)]

theorem stepAt_not_own (h : ¬ (accepts d f = true ∧ f.name = name)) (cur : Option Tag) :
    stepAt d R name f cur = if f.anon then mergeAt cur (R f.ty name) else cur := by
  unfold stepAt
  rw [if_neg (by rw [Bool.and_eq_true, decide_eq_true_eq]; exact h)]

theorem stepAt_noEvent (h : NoEvent d R name f) (cur : Option Tag) : stepAt d R name f cur = cur := by
  rw [stepAt_not_own h.2]
  split
  · next ha => rw [h.1 ha, mergeAt_none]
  · rfl

theorem not_noEvent (h : ¬ NoEvent d R name f) :
    (accepts d f = true ∧ f.name = name) ∨
      (¬ (accepts d f = true ∧ f.name = name) ∧ f.anon = true ∧ ∃ g, R f.ty name = some g) := by
  by_cases hown : accepts d f = true ∧ f.name = name
  · exact Or.inl hown
  · refine Or.inr ⟨hown, ?_⟩
    by_cases ha : f.anon = true
    · cases hR : R f.ty name with
      | none => exact absurd ⟨fun _ => hR, hown⟩ h
      | some g => exact ⟨ha, g, rfl⟩
    · exact absurd ⟨fun ha' => absurd ha' ha, hown⟩ h

theorem stepAt_isSome_of_event (h : ¬ NoEvent d R name f) (cur : Option Tag) :
    (stepAt d R name f cur).isSome := by
  rcases not_noEvent h with hown | ⟨hown, ha, g, hR⟩
  · rw [stepAt_own hown]; rfl
  · rw [stepAt_not_own hown, if_pos ha, hR]
    cases cur <;> rfl

theorem loopAt_eq_none_iff : ∀ (fs : List Field) (cur : Option Tag),
    loopAt d R name fs cur = none ↔ cur = none ∧ ∀ f ∈ fs, NoEvent d R name f
  | [], cur => ⟨fun h => ⟨h, fun _ hf => nomatch hf⟩, fun h => h.1⟩
  | f :: fs, cur => by
    rw [loopAt, loopAt_eq_none_iff fs, List.forall_mem_cons]
    by_cases hne : NoEvent d R name f
    · rw [stepAt_noEvent hne]
      exact ⟨fun h => ⟨h.1, hne, h.2⟩, fun h => ⟨h.1, h.2.2⟩⟩
    · constructor
      · intro h
        have := stepAt_isSome_of_event hne cur
        rw [h.1] at this
        cases this
      · intro h
        exact absurd h.2.1 hne

theorem loopAt_isSome_of_event {fs : List Field} (hf : f ∈ fs) (h : ¬ NoEvent d R name f) (cur : Option Tag) :
    (loopAt d R name fs cur).isSome := by
  cases hl : loopAt d R name fs cur with
  | some g => rfl
  | none => exact absurd (((loopAt_eq_none_iff fs cur).1 hl).2 f hf) h

end

/-- `Q` holds of the type itself and of every type reached through embedded fields, at any depth -/
def AtEveryLevel (Q : Ty → Prop) (t : Ty) : Prop := ∀ d, ∀ u ∈ levelTys d t, Q u

theorem AtEveryLevel.here {Q : Ty → Prop} {t : Ty} (h : AtEveryLevel Q t) : Q t :=
  h 0 t (List.mem_singleton.2 rfl)

theorem AtEveryLevel.sub {Q : Ty → Prop} {t : Ty} (h : AtEveryLevel Q t) {f : Field} (hf : f ∈ t.embedded) :
    AtEveryLevel Q (embTarget f) :=
  fun d u hu => h (d + 1) u (List.mem_flatMap.2 ⟨f, hf, hu⟩)

/-- it is enough to look at the levels below the depth (a finite check on a concrete type) -/
theorem AtEveryLevel.of_depth {Q : Ty → Prop} (t : Ty) (h : ∀ d, d < t.depth → ∀ u ∈ levelTys d t, Q u) :
    AtEveryLevel Q t := by
  intro d u hu
  by_cases hd : d < t.depth
  · exact h d hd u hu
  · rw [levelTys_eq_nil_of_depth_le d t (Nat.le_of_not_lt hd)] at hu
    cases hu

/-- embedded fields are `E` or `*E` with `E` not a pointer type (Go's rule), at every depth.  The body is an
    `AtEveryLevel` written out (as is `NamesWF` of `Proofs/RawSound.lean`); dot notation does not see through a `∀`,
    so `.levels` names the reading under which `AtEveryLevel.sub` / `.here` apply. -/
def EmbWF (t : Ty) : Prop :=
  ∀ d, ∀ u ∈ levelTys d t, ∀ f ∈ u.embedded, (embTarget f).isPtr = false

theorem EmbWF.levels {t : Ty} (h : EmbWF t) :
    AtEveryLevel (fun u => ∀ f ∈ u.embedded, (embTarget f).isPtr = false) t := h

theorem Ty.core_ptr_deref : ∀ (t : Ty) (u : Ty), t.core = .ptr u → t.deref = u.deref
  | .ptr _, u, h => by cases h; rfl
  | .named n ms v, u, h => by
    have hp : (Ty.named n ms v).isPtr = true := by unfold Ty.isPtr; rw [h]
    rw [Ty.deref, if_pos hp]
    exact Ty.core_ptr_deref v u h
  | .bool, _, h | .string, _, h | .num _, _, h | .iface _, _, h | .slice _, _, h | .array _ _, _, h
  | .map _ _, _, h | .func _ _ _, _, h | .struct _, _, h | .ref _, _, h | .other _, _, h => nomatch h

/-- the recursion of `FieldsFromStruct` (all pointer levels) reaches the struct Go's rule reaches (one level) -/
theorem deref_eq_embTarget {f : Field} (h : (embTarget f).isPtr = false) :
    f.ty.deref = embTarget f := by
  unfold embTarget at h ⊢
  split
  · rename_i u hc
    rw [Ty.core_ptr_deref _ u hc]
    simp only [hc] at h
    exact Ty.deref_of_not_isPtr h
  · rename_i hc
    apply Ty.deref_of_not_isPtr
    split at h
    · rename_i u hc'; exact absurd hc' (hc u)
    · exact h

theorem rawAt_congr (d : NDefects) (n : Nat) {t t' : Ty} (h : t.deref = t'.deref) (name : String) :
    rawAt d n t name = rawAt d n t' name := by
  cases n with
  | zero => rfl
  | succ n => rw [rawAt_succ, rawAt_succ, h]

theorem rawAt_emb (d : NDefects) (fuel : Nat) {t : Ty} (hwf : EmbWF t) {e : Field} (he : e ∈ t.embedded)
    (name : String) : rawAt d fuel e.ty name = rawAt d fuel (embTarget e) name := by
  have hpe := hwf.levels.here e he
  apply rawAt_congr
  rw [deref_eq_embTarget hpe, Ty.deref_of_not_isPtr hpe]

theorem rawAt_struct (d : NDefects) (n : Nat) {t : Ty} (hp : t.isPtr = false) (name : String) :
    rawAt d (n + 1) t name = loopAt d (rawAt d n) name t.fields none := by
  rw [rawAt_succ, Ty.deref_of_not_isPtr hp]
  unfold Ty.fields
  cases t.core <;> rfl

theorem rawAt_isSome_of_level (d : NDefects) (name : String) :
    ∀ (k : Nat) (t : Ty) (fuel : Nat), EmbWF t → t.isPtr = false → k < fuel →
      ∀ f ∈ levelFields k t, accepts d f → f.name = name → (rawAt d fuel t name).isSome
  | 0, t, fuel + 1, _, hp, _, f, hf, ha, hn => by
    rw [rawAt_struct d fuel hp]
    rw [levelFields_zero] at hf
    exact loopAt_isSome_of_event hf (fun h => h.2 ⟨ha, hn⟩) none
  | k + 1, t, fuel + 1, hwf, hp, hk, f, hf, ha, hn => by
    rw [rawAt_struct d fuel hp]
    rw [levelFields_succ] at hf
    obtain ⟨e, he, hfe⟩ := List.mem_flatMap.1 hf
    have hpe := hwf.levels.here e he
    have ih := rawAt_isSome_of_level d name k (embTarget e) fuel (hwf.levels.sub he) hpe (by omega) f hfe ha hn
    refine loopAt_isSome_of_event (mem_embedded.1 he).1 (fun h => ?_) none
    have hR := h.1 (mem_embedded.1 he).2
    rw [rawAt_emb d fuel hwf he] at hR
    rw [hR] at ih
    cases ih

theorem rawAt_isSome_of_found (d : NDefects) {t : Ty} {name : String} {f : Field} (hwf : EmbWF t)
    (hp : t.isPtr = false) (hr : reflField t name = .found f) (ha : accepts d f = true) :
    (rawAt d (t.depth + 1) t name).isSome := by
  obtain ⟨k, _, hc⟩ := (reflField_found_iff t name f).1 hr
  have hf : f ∈ occAt k t name := by rw [hc]; exact List.mem_singleton.2 rfl
  obtain ⟨hk, hn⟩ := List.mem_filter.1 hf
  have hlt : k < t.depth :=
    Nat.lt_of_not_le fun hle => by rw [levelFields_eq_nil_of_depth_le k t hle] at hk; cases hk
  exact rawAt_isSome_of_level d name k t (t.depth + 1) hwf hp (by omega) f hk ha (of_decide_eq_true hn)

end ExprModel
