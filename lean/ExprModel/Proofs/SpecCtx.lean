import ExprModel.Proofs.SpecCong
/-
For C18 (`closure_sees_innermost`): `Spec.eval` looks at nothing of the closure context but its head — `#` reads
the innermost (collection, index) pair, and a builtin pushes its own pair on top.  It is `eval_cong` at `Eq`.
-/
namespace ExprModel
namespace Spec

def eqRel : EvalRel where
  R := Eq
  noAlloc := fun _ => rfl
  bind := fun hm hf => by rw [hm, funext hf]

theorem eval_ctx_head (c : SCfg) (ctx1 ctx2 : Ctx) (h : ctx1.head? = ctx2.head?) :
    (n : Node) → eval c ctx1 n = eval c ctx2 n :=
  fun n => eval_cong eqRel c c.budget ⟨fun _ => rfl, fun _ _ => rfl⟩ n ctx1 ctx2 h

theorem evalList_ctx_head (c : SCfg) (ctx1 ctx2 : Ctx) (h : ctx1.head? = ctx2.head?) :
    (ns : List Node) → evalList c ctx1 ns = evalList c ctx2 ns :=
  fun ns => evalList_cong eqRel c c.budget ⟨fun _ => rfl, fun _ _ => rfl⟩ ns ctx1 ctx2 h

end Spec
end ExprModel
