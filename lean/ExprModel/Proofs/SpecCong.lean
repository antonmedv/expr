import ExprModel.Proofs.SpecLoops
import ExprModel.Proofs.RuntimeFails
/-
`Spec.eval` is a congruence.  Everything a node does besides evaluating its children is either one of the two
accounting primitives or a computation that leaves the two allocation counters alone and whose result does not
depend on the state (`NoAlloc`: both hold of `pure`, `fail`, `lift`, `logCall` and pass through `bind`).  So a relation
between computations that is closed under `bind` and relates every `NoAlloc` computation to itself (`EvalRel`) passes
from the children of a node to the node, for any two annotations, closure contexts and budgets — provided it relates
the accounting primitives under the two budgets.
-/
namespace ExprModel
namespace Spec
open Refine (patOf binTail)

def withBudget (sc : SCfg) (B : Int) : SCfg := { sc with budget := B }

@[simp] theorem withBudget_world (sc : SCfg) (B : Int) : (withBudget sc B).world = sc.world := rfl
@[simp] theorem withBudget_env (sc : SCfg) (B : Int) : (withBudget sc B).env = sc.env := rfl
@[simp] theorem withBudget_budget (sc : SCfg) (B : Int) : (withBudget sc B).budget = B := rfl
@[simp] theorem withBudget_rangeSizeSigned (sc : SCfg) (B : Int) :
    (withBudget sc B).rangeSizeSigned = sc.rangeSizeSigned := rfl
@[simp] theorem withBudget_sliceToFirst (sc : SCfg) (B : Int) :
    (withBudget sc B).sliceToFirst = sc.sliceToFirst := rfl

/-- Two facts: a relation between two runs from one state needs `counters` (`Replay`) or nothing (the reflexive
    `eqRel`, `SMRel`); `result` is what a relation between runs from different states (`relMRel` of `Proofs/OptRel`)
    needs to relate `m` to itself. -/
structure NoAlloc {α} (m : SM α) : Prop where
  counters : ∀ s : SState, (m s).2.memory = s.memory ∧ (m s).2.created = s.created
  result : ∀ s s' : SState, (m s).1 = (m s').1

namespace NoAlloc
variable {α β : Type}

theorem pure (a : α) : NoAlloc (Pure.pure a : SM α) := ⟨fun _ => ⟨rfl, rfl⟩, fun _ _ => rfl⟩
theorem fail (e : ErrClass) : NoAlloc (SM.fail e : SM α) := ⟨fun _ => ⟨rfl, rfl⟩, fun _ _ => rfl⟩
theorem lift (r : R α) : NoAlloc (SM.lift r) := by
  cases r with
  | ok a => exact pure a
  | error e => exact fail e
theorem logCall (name : String) (args : List Val) : NoAlloc (SM.logCall name args) :=
  ⟨fun _ => ⟨rfl, rfl⟩, fun _ _ => rfl⟩
theorem asBool (v : Val) : NoAlloc (Spec.asBool v) := by
  unfold Spec.asBool
  split
  · exact pure _
  · exact fail _

theorem bind {m : SM α} {f : α → SM β} (hm : NoAlloc m) (hf : ∀ a, NoAlloc (f a)) :
    NoAlloc (m >>= f) := by
  refine ⟨fun s => ?_, fun s s' => ?_⟩
  · rw [SM.bind_apply]
    have h := hm.counters s
    generalize m s = p at h ⊢
    obtain ⟨r, s1⟩ := p
    cases r with
    | error e => exact h
    | ok a => exact ⟨((hf a).counters s1).1.trans h.1, ((hf a).counters s1).2.trans h.2⟩
  · rw [SM.bind_apply, SM.bind_apply]
    have h := hm.result s s'
    generalize m s = p at h ⊢
    generalize m s' = p' at h ⊢
    obtain ⟨r, s1⟩ := p
    obtain ⟨r', s1'⟩ := p'
    cases h
    cases r with
    | error e => rfl
    | ok a => exact (hf a).result s1 s1'

theorem ite {p : Prop} [Decidable p] {t e : SM α} (ht : NoAlloc t) (he : NoAlloc e) :
    NoAlloc (if p then t else e) := by
  split
  · exact ht
  · exact he

end NoAlloc

/-- inside namespace `EvalRel`, `R` is the field; the result type `ExprModel.R` is written `Except ErrClass` there -/
structure EvalRel where
  R : ∀ {α : Type}, SM α → SM α → Prop
  noAlloc : ∀ {α : Type} {m : SM α}, NoAlloc m → R m m
  bind : ∀ {α β : Type} {m m' : SM α} {f f' : α → SM β},
    R m m' → (∀ a, R (f a) (f' a)) → R (m >>= f) (m' >>= f')

namespace EvalRel
variable (Q : EvalRel) {α : Type}

theorem ite {p : Prop} [Decidable p] {t t' e e' : SM α} (ht : Q.R t t') (he : Q.R e e') :
    Q.R (if p then t else e) (if p then t' else e') := by
  split
  · exact ht
  · exact he

/-- an array, map or builtin result is charged after it is built, a range refused before it is built -/
structure Allocs (c : SCfg) (B' : Int) : Prop where
  after : ∀ k : Nat, Q.R (SM.allocAfter c.budget k k) (SM.allocAfter B' k k)
  before : ∀ lo hi : Int, Q.R (SM.allocBefore c.budget (rangeCharge c lo hi) (rangeElems lo hi).length)
    (SM.allocBefore B' (rangeCharge c lo hi) (rangeElems lo hi).length)

theorem lift_bind {β : Type} {r : Except ErrClass α} {f f' : α → SM β} (h : ∀ a, r = .ok a → Q.R (f a) (f' a)) :
    Q.R (SM.lift r >>= f) (SM.lift r >>= f') := by
  cases r with
  | ok a => exact h a rfl
  | error e => exact Q.noAlloc (.fail e)

theorem loopIdx {body body' : Nat → α → SM (α ⊕ Val)} (hb : ∀ i acc, Q.R (body i acc) (body' i acc)) :
    ∀ fuel i acc, Q.R (Spec.loopIdx body fuel i acc) (Spec.loopIdx body' fuel i acc)
  | 0, _, _ => Q.noAlloc (.pure _)
  | fuel + 1, i, acc => by
    unfold Spec.loopIdx
    refine Q.bind (hb i acc) fun r => ?_
    cases r with
    | inl acc' => exact loopIdx hb fuel (i + 1) acc'
    | inr v => exact Q.noAlloc (.pure _)

theorem seqIdx {g g' : Nat → SM α} (hg : ∀ i, Q.R (g i) (g' i)) :
    ∀ fuel i, Q.R (Spec.seqIdx g fuel i) (Spec.seqIdx g' fuel i)
  | 0, _ => Q.noAlloc (.pure _)
  | fuel + 1, i =>
    Q.bind (hg i) fun _ => Q.bind (seqIdx hg fuel (i + 1)) fun _ => Q.noAlloc (.pure _)

/-- the shape of the clauses `eval_builtin_<name>`, as in `smok_loop` -/
theorem loop {ma ma' : SM Val} (ha : Q.R ma ma') {body body' : Val → Nat → α → SM (α ⊕ Val)} {acc0 : α}
    {k k' : Int → α ⊕ Val → SM Val} (hb : ∀ coll i acc, Q.R (body coll i acc) (body' coll i acc))
    (hk : ∀ n r, Q.R (k n r) (k' n r)) :
    Q.R (ma >>= fun coll => SM.lift (lengthV coll) >>= fun n => Spec.loopIdx (body coll) n.toNat 0 acc0 >>= k n)
      (ma' >>= fun coll => SM.lift (lengthV coll) >>= fun n => Spec.loopIdx (body' coll) n.toNat 0 acc0 >>= k' n) :=
  Q.bind ha fun coll => Q.lift_bind fun n _ => Q.bind (Q.loopIdx (hb coll) _ _ _) (hk n)

end EvalRel

section Nodes
variable (Q : EvalRel) {c : SCfg} {B' : Int} {ctx ctx' : Ctx}

theorem cong_unary {m m' op x x'} (hx : Q.R (eval c ctx x) (eval (withBudget c B') ctx' x')) :
    Q.R (eval c ctx (.unary m op x)) (eval (withBudget c B') ctx' (.unary m' op x')) := by
  rw [eval_unary, eval_unary]
  exact Q.bind hx fun _ => Q.noAlloc (.ite (.lift _) (.ite (.lift _) (.ite (.pure _) (.fail _))))

theorem cong_prop {m m' x x' name nilsafe} (hx : Q.R (eval c ctx x) (eval (withBudget c B') ctx' x')) :
    Q.R (eval c ctx (.prop m x name nilsafe)) (eval (withBudget c B') ctx' (.prop m' x' name nilsafe)) := by
  rw [eval_prop, eval_prop]
  exact Q.bind hx fun _ => Q.noAlloc (.lift _)

theorem cong_index {m m' x x' i i'} (hx : Q.R (eval c ctx x) (eval (withBudget c B') ctx' x'))
    (hi : Q.R (eval c ctx i) (eval (withBudget c B') ctx' i')) :
    Q.R (eval c ctx (.index m x i)) (eval (withBudget c B') ctx' (.index m' x' i')) := by
  rw [eval_index, eval_index]
  exact Q.bind hx fun _ => Q.bind hi fun _ => Q.noAlloc (.lift _)

theorem cong_cond {m m' cnd cnd' a a' b b'} (hc : Q.R (eval c ctx cnd) (eval (withBudget c B') ctx' cnd'))
    (ha : Q.R (eval c ctx a) (eval (withBudget c B') ctx' a'))
    (hb : Q.R (eval c ctx b) (eval (withBudget c B') ctx' b')) :
    Q.R (eval c ctx (.cond m cnd a b)) (eval (withBudget c B') ctx' (.cond m' cnd' a' b')) := by
  rw [eval_cond, eval_cond]
  exact Q.bind hc fun _ => Q.bind (Q.noAlloc (.asBool _)) fun _ => Q.ite ha hb

theorem eqTail_noAlloc (lk rk : RKind) (a b : Val) : NoAlloc (eqTail lk rk a b) := by
  unfold eqTail
  refine .ite ?_ (.ite ?_ (.pure _))
  · split
    · exact .pure _
    · exact .fail _
  · split
    · exact .pure _
    · exact .fail _

/-- `==` reads the static kinds (`heq`), `..` the budget (`hQ.before`); every other operator is the same
    counter-neutral computation on both sides -/
theorem EvalRel.binTail {op : String} {l r l' r' : Node} (hQ : Q.Allocs c B')
    (heq : ∀ a b, Q.R (eqTail l.kd r.kd a b) (eqTail l'.kd r'.kd a b)) (a b : Val) :
    Q.R (binTail c op l r a b) (Refine.binTail (withBudget c B') op l' r' a b) := by
  by_cases he : op = "=="
  · subst he
    rw [Refine.binTail_eqTail, Refine.binTail_eqTail]
    exact heq a b
  by_cases hr : op = ".."
  · subst hr
    rw [Refine.binTail_rangeCharge, Refine.binTail_rangeCharge]
    exact Q.bind (Q.noAlloc (.lift _)) fun lo => Q.bind (Q.noAlloc (.lift _)) fun hi =>
      Q.bind (hQ.before lo hi) fun _ => Q.noAlloc (.pure _)
  simp only [Refine.binTail, beq_eq_false_iff_ne.mpr he, beq_eq_false_iff_ne.mpr hr, Bool.false_eq_true, if_false]
  refine Q.ite (Q.noAlloc (.pure _)) ?_
  refine Q.ite (Q.noAlloc (.bind (.lift _) fun _ => .pure _)) ?_
  refine Q.ite (Q.noAlloc (.bind (.lift _) fun _ => .pure _)) ?_
  refine Q.ite (Q.noAlloc ?_) (Q.noAlloc ?_)
  · split
    · exact .pure _
    · exact .fail _
  · refine .ite (.lift _) (.ite (.lift _) (.ite (.lift _) ?_))
    split
    · exact .lift _
    · exact .fail _

theorem cong_binary {m m' op l l' r r'}
    (hl : Q.R (eval c ctx l) (eval (withBudget c B') ctx' l'))
    (hr : Q.R (eval c ctx r) (eval (withBudget c B') ctx' r'))
    (heq : ∀ a b, Q.R (eqTail l.kd r.kd a b) (eqTail l'.kd r'.kd a b)) (hQ : Q.Allocs c B') :
    Q.R (eval c ctx (.binary m op l r)) (eval (withBudget c B') ctx' (.binary m' op l' r')) := by
  rw [eval_binary, eval_binary]
  exact Q.ite (Q.bind hl fun _ => Q.bind (Q.noAlloc (.asBool _)) fun _ => Q.ite hr (Q.noAlloc (.pure _)))
    (Q.ite (Q.bind hl fun _ => Q.bind (Q.noAlloc (.asBool _)) fun _ => Q.ite (Q.noAlloc (.pure _)) hr)
      (Q.bind hl fun a => Q.bind hr fun b => Q.binTail hQ heq a b))

theorem matchRe_noAlloc (c : SCfg) (pat : String) (a : Val) : NoAlloc (matchRe c pat a) := by
  unfold matchRe
  split
  · split
    · exact .pure _
    · exact .fail _
  · exact .fail _

theorem matchDyn_noAlloc (c : SCfg) (a b : Val) : NoAlloc (matchDyn c a b) := by
  unfold matchDyn
  split
  · split
    · exact .pure _
    · exact .fail _
  · exact .fail _

theorem cong_matches {m m' hasRe l l' r r'}
    (hl : Q.R (eval c ctx l) (eval (withBudget c B') ctx' l'))
    (hr : Q.R (eval c ctx r) (eval (withBudget c B') ctx' r')) (hpat : hasRe = true → patOf r = patOf r') :
    Q.R (eval c ctx (.matches m hasRe l r)) (eval (withBudget c B') ctx' (.matches m' hasRe l' r')) := by
  rw [eval_matches, eval_matches]
  refine Q.bind hl fun a => ?_
  -- the pattern of the right operand is read only where the regexp is a constant
  by_cases h : hasRe = true
  · rw [if_pos h, if_pos h, hpat h]
    exact Q.noAlloc (matchRe_noAlloc c _ a)
  · rw [if_neg h, if_neg h]
    exact Q.bind hr fun b => Q.noAlloc (matchDyn_noAlloc c a b)

def EvalRel.Bound (c : SCfg) (B' : Int) (ctx ctx' : Ctx) : Option Node → Option Node → Prop
  | none, none => True
  | some n, some n' => Q.R (eval c ctx n) (eval (withBudget c B') ctx' n')
  | _, _ => False

theorem EvalRel.boundOr {d : SM Val} (hd : NoAlloc d) : ∀ {f f' : Option Node}, Q.Bound c B' ctx ctx' f f' →
    Q.R (boundOr c ctx d f) (boundOr (withBudget c B') ctx' d f')
  | none, none, _ => Q.noAlloc hd
  | some _, some _, h => h

theorem cong_slice {m m' x x' f f' t t'} (hx : Q.R (eval c ctx x) (eval (withBudget c B') ctx' x'))
    (hf : Q.Bound c B' ctx ctx' f f') (ht : Q.Bound c B' ctx ctx' t t') :
    Q.R (eval c ctx (.slice m x f t)) (eval (withBudget c B') ctx' (.slice m' x' f' t')) := by
  rw [eval_slice, eval_slice]
  exact Q.bind hx fun _ => Q.ite
    (Q.bind (Q.boundOr (.bind (.lift _) fun _ => .pure _) ht) fun _ =>
      Q.bind (Q.boundOr (.pure _) hf) fun _ => Q.noAlloc (.lift _))
    (Q.bind (Q.boundOr (.pure _) hf) fun _ =>
      Q.bind (Q.boundOr (.bind (.lift _) fun _ => .pure _) ht) fun _ => Q.noAlloc (.lift _))

theorem callTail_noAlloc (w : World) (obj : Val) (name : String) (vs : List Val) :
    NoAlloc (callTail w obj name vs) :=
  .ite (.bind (.logCall _ _) fun _ => .lift _) (.lift _)

theorem cong_method {m m' x x' name args args' nilsafe}
    (hx : Q.R (eval c ctx x) (eval (withBudget c B') ctx' x'))
    (ha : Q.R (evalList c ctx args) (evalList (withBudget c B') ctx' args')) :
    Q.R (eval c ctx (.method m x name args nilsafe))
      (eval (withBudget c B') ctx' (.method m' x' name args' nilsafe)) := by
  rw [eval_method, eval_method]
  exact Q.bind hx fun _ => Q.bind ha fun _ => Q.noAlloc (.ite (.pure _) (callTail_noAlloc _ _ _ _))

theorem cong_func {m m' name args args' fast fast'}
    (ha : Q.R (evalList c ctx args) (evalList (withBudget c B') ctx' args')) :
    Q.R (eval c ctx (.func m name args fast)) (eval (withBudget c B') ctx' (.func m' name args' fast')) := by
  rw [eval_func, eval_func]
  exact Q.bind ha fun _ => Q.noAlloc (callTail_noAlloc _ _ _ _)

theorem cong_len {m m' a a'} (ha : Q.R (eval c ctx a) (eval (withBudget c B') ctx' a')) :
    Q.R (eval c ctx (.builtin m "len" [a])) (eval (withBudget c B') ctx' (.builtin m' "len" [a'])) := by
  rw [eval_len, eval_len]
  exact Q.bind ha fun _ => Q.noAlloc (.bind (.lift _) fun _ => .pure _)

theorem cong_array {m m' xs xs'} (hQ : Q.Allocs c B')
    (hx : Q.R (evalList c ctx xs) (evalList (withBudget c B') ctx' xs')) :
    Q.R (eval c ctx (.array m xs)) (eval (withBudget c B') ctx' (.array m' xs')) := by
  rw [eval_array, eval_array]
  exact Q.bind hx fun _ => Q.bind (hQ.after _) fun _ => Q.noAlloc (.pure _)

/-- the map literal `{k: v, …}`; the builtin `map` is a case of `cong_builtin2` -/
theorem cong_mapLit {m m' ps ps'} (hQ : Q.Allocs c B')
    (hlen : ps.length = ps'.length)
    (hx : Q.R (evalList c ctx ps) (evalList (withBudget c B') ctx' ps')) :
    Q.R (eval c ctx (.map m ps)) (eval (withBudget c B') ctx' (.map m' ps')) := by
  rw [Spec.eval_mapLit, Spec.eval_mapLit, ← hlen]
  exact Q.bind hx fun _ => Q.bind (Q.noAlloc (.lift _)) fun _ => Q.bind (hQ.after _) fun _ => Q.noAlloc (.pure _)

theorem cong_list_pair {m m' k k' v v' rest rest'}
    (hk : Q.R (eval c ctx k) (eval (withBudget c B') ctx' k'))
    (hv : Q.R (eval c ctx v) (eval (withBudget c B') ctx' v'))
    (hr : Q.R (evalList c ctx rest) (evalList (withBudget c B') ctx' rest')) :
    Q.R (evalList c ctx (.pair m k v :: rest)) (evalList (withBudget c B') ctx' (.pair m' k' v' :: rest')) := by
  rw [evalList_pair, evalList_pair]
  exact Q.bind hk fun _ => Q.bind hv fun _ => Q.bind hr fun _ => Q.noAlloc (.pure _)

theorem cong_list_cons {n n' rest rest'} (hn : n.isPair = false) (hn' : n'.isPair = false)
    (h : Q.R (eval c ctx n) (eval (withBudget c B') ctx' n'))
    (hr : Q.R (evalList c ctx rest) (evalList (withBudget c B') ctx' rest')) :
    Q.R (evalList c ctx (n :: rest)) (evalList (withBudget c B') ctx' (n' :: rest')) := by
  rw [evalList_cons _ _ _ _ hn, evalList_cons _ _ _ _ hn']
  exact Q.bind h fun _ => Q.bind hr fun _ => Q.noAlloc (.pure _)

theorem cong_builtin2 {m m' name a a' b b'}
    (hQ : Q.Allocs c B') (ha : Q.R (eval c ctx a) (eval (withBudget c B') ctx' a'))
    (hb : ∀ coll i, Q.R (bodyAt c ctx coll b i) (bodyAt (withBudget c B') ctx' coll b' i)) :
    Q.R (eval c ctx (.builtin m name [a, b])) (eval (withBudget c B') ctx' (.builtin m' name [a', b'])) := by
  have hpred : ∀ {σ : Type} {k : Bool → SM σ}, (∀ t, NoAlloc (k t)) → ∀ coll (i : Nat),
      Q.R (eval c ((coll, (i : Int)) :: ctx) b >>= fun v => asBool v >>= k)
        (eval (withBudget c B') ((coll, (i : Int)) :: ctx') b' >>= fun v => asBool v >>= k) :=
    fun hk coll i => Q.bind (hb coll i) fun v => Q.noAlloc (.bind (.asBool v) hk)
  cases hn : builtinNames.contains name with
  | false =>
    rw [eval_builtin_unknown _ _ _ _ _ _ hn, eval_builtin_unknown _ _ _ _ _ _ hn]
    exact Q.noAlloc (.fail _)
  | true =>
    rcases builtinNames_cases hn with rfl | rfl | rfl | rfl | rfl | rfl | rfl
    · rw [eval_builtin_all, eval_builtin_all]
      exact Q.loop ha (fun coll i _ => hpred (fun _ => .ite (.pure _) (.pure _)) coll i) fun _ r => by
        cases r <;> exact Q.noAlloc (.pure _)
    · rw [eval_builtin_none, eval_builtin_none]
      exact Q.loop ha (fun coll i _ => hpred (fun _ => .ite (.pure _) (.pure _)) coll i) fun _ r => by
        cases r <;> exact Q.noAlloc (.pure _)
    · rw [eval_builtin_any, eval_builtin_any]
      exact Q.loop ha (fun coll i _ => hpred (fun _ => .ite (.pure _) (.pure _)) coll i) fun _ r => by
        cases r <;> exact Q.noAlloc (.pure _)
    · rw [eval_builtin_one, eval_builtin_one]
      exact Q.loop ha (fun coll i _ => hpred (fun _ => .ite (.pure _) (.pure _)) coll i) fun _ r => by
        cases r <;> exact Q.noAlloc (.pure _)
    · rw [eval_builtin_filter, eval_builtin_filter]
      refine Q.loop ha (fun coll i _ => hpred (fun _ => .ite (.bind (.lift _) fun _ => .pure _) (.pure _)) coll i)
        fun _ r => ?_
      cases r
      · exact Q.bind (hQ.after _) fun _ => Q.noAlloc (.pure _)
      · exact Q.noAlloc (.pure _)
    · -- `map` charges `n` for an accumulator of another length, and `hQ.after` relates only `allocAfter _ k k`:
      -- `mapTail_eq` turns the charge into the number of results collected, which needs `0 ≤ n`
      rw [eval_builtin_map, eval_builtin_map]
      refine Q.bind ha fun coll => Q.lift_bind fun n hn => ?_
      show Q.R (mapTail c.budget n (bodyAt c ctx coll b)) (mapTail B' n (bodyAt (withBudget c B') ctx' coll b'))
      rw [mapTail_eq _ (lengthV_nonneg hn), mapTail_eq _ (lengthV_nonneg hn)]
      exact Q.bind (Q.seqIdx (hb coll) _ _) fun _ => Q.bind (hQ.after _) fun _ => Q.noAlloc (.pure _)
    · rw [eval_builtin_count, eval_builtin_count]
      exact Q.loop ha (fun coll i _ => hpred (fun _ => .ite (.pure _) (.pure _)) coll i) fun _ r => by
        cases r <;> exact Q.noAlloc (.pure _)

theorem cong_builtin_bad {m m' name args args'} (hlen : args'.length = args.length)
    (h2 : args.length ≠ 2) (h1 : name = "len" → args.length ≠ 1) :
    Q.R (eval c ctx (.builtin m name args)) (eval (withBudget c B') ctx' (.builtin m' name args')) := by
  rw [eval_builtin_bad _ _ _ _ _ h2 h1, eval_builtin_bad _ _ _ _ _ (hlen ▸ h2) (hlen ▸ h1)]
  exact Q.noAlloc (.fail _)

/-- the second premise of `cons`: where a closure body is evaluated -/
inductive EvalRel.Args (c : SCfg) (B' : Int) (ctx ctx' : Ctx) : List Node → List Node → Prop
  | nil : Args c B' ctx ctx' [] []
  | cons {a a' : Node} {as as' : List Node} :
    Q.R (eval c ctx a) (eval (withBudget c B') ctx' a') →
    (∀ coll i, Q.R (eval c ((coll, i) :: ctx) a) (eval (withBudget c B') ((coll, i) :: ctx') a')) →
    Args c B' ctx ctx' as as' → Args c B' ctx ctx' (a :: as) (a' :: as')

theorem EvalRel.Args.length {as as' : List Node} (h : Q.Args c B' ctx ctx' as as') : as'.length = as.length := by
  induction h with
  | nil => rfl
  | cons _ _ _ ih => simp [ih]

theorem cong_builtin {m m' name args args'} (hQ : Q.Allocs c B') (h : Q.Args c B' ctx ctx' args args') :
    Q.R (eval c ctx (.builtin m name args)) (eval (withBudget c B') ctx' (.builtin m' name args')) := by
  match h with
  | .nil => exact cong_builtin_bad Q rfl (by decide) fun _ => by decide
  | .cons ha _ .nil =>
    by_cases hn : name = "len"
    · subst hn
      exact cong_len Q ha
    · exact cong_builtin_bad Q rfl (by simp) fun e => absurd e hn
  | .cons ha _ (.cons _ hb .nil) => exact cong_builtin2 Q hQ ha fun coll i => hb coll i
  | .cons _ _ (.cons _ _ (.cons _ _ t)) => exact cong_builtin_bad Q (by simp [t.length]) (by simp) fun _ => by simp

theorem cong_pointer {m m'} (h : ctx.head? = ctx'.head?) :
    Q.R (eval c ctx (.pointer m)) (eval (withBudget c B') ctx' (.pointer m')) := by
  rw [Spec.eval_pointer, Spec.eval_pointer]
  match ctx, ctx', h with
  | [], [], _ => exact Q.noAlloc (.fail _)
  | (_, _) :: _, _ :: _, h =>
    cases h
    exact Q.noAlloc (.lift _)

end Nodes

mutual
theorem eval_cong (Q : EvalRel) (c : SCfg) (B' : Int) (hQ : Q.Allocs c B') :
    (n : Node) → ∀ ctx ctx', ctx.head? = ctx'.head? → Q.R (eval c ctx n) (eval (withBudget c B') ctx' n)
  | .nil _, _, _, _ => Q.noAlloc (.pure _)
  | .ident .., _, _, _ => Q.noAlloc (.lift _)
  | .int .., _, _, _ => Q.noAlloc (.pure _)
  | .float .., _, _, _ => Q.noAlloc (.pure _)
  | .bool .., _, _, _ => Q.noAlloc (.pure _)
  | .str .., _, _, _ => Q.noAlloc (.pure _)
  | .const .., _, _, _ => Q.noAlloc (.pure _)
  | .unary _ _ x, ctx, ctx', h => cong_unary Q (eval_cong Q c B' hQ x ctx ctx' h)
  | .binary _ _ l r, ctx, ctx', h =>
    cong_binary Q (eval_cong Q c B' hQ l ctx ctx' h) (eval_cong Q c B' hQ r ctx ctx' h)
      (fun a b => Q.noAlloc (eqTail_noAlloc _ _ a b)) hQ
  | .matches _ _ l r, ctx, ctx', h =>
    cong_matches Q (eval_cong Q c B' hQ l ctx ctx' h) (eval_cong Q c B' hQ r ctx ctx' h) fun _ => rfl
  | .prop _ x _ _, ctx, ctx', h => cong_prop Q (eval_cong Q c B' hQ x ctx ctx' h)
  | .index _ x i, ctx, ctx', h =>
    cong_index Q (eval_cong Q c B' hQ x ctx ctx' h) (eval_cong Q c B' hQ i ctx ctx' h)
  | .slice _ x f t, ctx, ctx', h =>
    cong_slice Q (eval_cong Q c B' hQ x ctx ctx' h) (bound_cong Q c B' hQ f ctx ctx' h)
      (bound_cong Q c B' hQ t ctx ctx' h)
  | .method _ x _ args _, ctx, ctx', h =>
    cong_method Q (eval_cong Q c B' hQ x ctx ctx' h) (evalList_cong Q c B' hQ args ctx ctx' h)
  | .func _ _ args _, ctx, ctx', h => cong_func Q (evalList_cong Q c B' hQ args ctx ctx' h)
  | .builtin _ _ args, ctx, ctx', h => cong_builtin Q hQ (args_cong Q c B' hQ args ctx ctx' h)
  | .closure _ x, ctx, ctx', h => eval_cong Q c B' hQ x ctx ctx' h
  | .pointer _, _, _, h => cong_pointer Q h
  | .cond _ cnd a b, ctx, ctx', h =>
    cong_cond Q (eval_cong Q c B' hQ cnd ctx ctx' h) (eval_cong Q c B' hQ a ctx ctx' h)
      (eval_cong Q c B' hQ b ctx ctx' h)
  | .array _ xs, ctx, ctx', h => cong_array Q hQ (evalList_cong Q c B' hQ xs ctx ctx' h)
  | .map _ ps, ctx, ctx', h => cong_mapLit Q hQ rfl (evalList_cong Q c B' hQ ps ctx ctx' h)
  | .pair .., _, _, _ => Q.noAlloc (.fail _)
theorem bound_cong (Q : EvalRel) (c : SCfg) (B' : Int) (hQ : Q.Allocs c B') :
    (o : Option Node) → ∀ ctx ctx', ctx.head? = ctx'.head? → Q.Bound c B' ctx ctx' o o
  | none, _, _, _ => trivial
  | some n, ctx, ctx', h => eval_cong Q c B' hQ n ctx ctx' h
theorem args_cong (Q : EvalRel) (c : SCfg) (B' : Int) (hQ : Q.Allocs c B') :
    (ns : List Node) → ∀ ctx ctx', ctx.head? = ctx'.head? → Q.Args c B' ctx ctx' ns ns
  | [], _, _, _ => .nil
  | n :: ns, ctx, ctx', h =>
    .cons (eval_cong Q c B' hQ n ctx ctx' h) (fun _ _ => eval_cong Q c B' hQ n _ _ rfl) (args_cong Q c B' hQ ns ctx ctx' h)
theorem evalList_cong (Q : EvalRel) (c : SCfg) (B' : Int) (hQ : Q.Allocs c B') :
    (ns : List Node) → ∀ ctx ctx', ctx.head? = ctx'.head? →
      Q.R (evalList c ctx ns) (evalList (withBudget c B') ctx' ns)
  | [], _, _, _ => Q.noAlloc (.pure _)
  | n :: rest, ctx, ctx', h => by
    have hn := eval_cong Q c B' hQ n ctx ctx' h
    have hr := evalList_cong Q c B' hQ rest ctx ctx' h
    cases n
    case pair m k v =>
      exact cong_list_pair Q (eval_cong Q c B' hQ k ctx ctx' h) (eval_cong Q c B' hQ v ctx ctx' h) hr
    all_goals exact cong_list_cons Q rfl rfl hn hr
end

end Spec
end ExprModel
