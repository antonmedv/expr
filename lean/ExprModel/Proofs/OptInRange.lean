import ExprModel.Proofs.OptRules
/-
Soundness of in_range.go: `x in a..b` ⇝ `x >= a and x <= b` for a left operand that
evaluates, without touching the state, to an integer of a kind that is compared with `int` at kind `int`.
-/
namespace ExprModel
namespace OptProofs
open Spec Opt

variable {c : SCfg}

/-- kinds whose comparison with an `int` bound is exact: `int`, the unsigned kinds (the operand is converted
    to `int`) and `int64` (the bound is converted to `int64`, which is the same 64-bit range); they are the kinds
    `Opt.rangeKd` admits (`C02.rangeKd_iff`) -/
def RangeK (k : Kind) : Prop := k.rank ≤ Kind.int.rank ∨ k = .int64

theorem RangeK.isInt {k : Kind} (hk : RangeK k) : k.isInt = true := by
  rcases hk with hk | rfl
  · cases k <;> first | exact absurd hk (by decide) | rfl
  · rfl

theorem RangeK.fits {k : Kind} (hk : RangeK k) {e : Int} (he : inRange .int e) : k.rank > Kind.int.rank → inRange k e := by
  rcases hk with hk | rfl
  · exact fun h => absurd hk (Nat.not_le.mpr h)
  · exact fun _ => he

/-- the left operand can be evaluated twice and compared at kind `int`: its evaluation does not touch
    the state (no calls, no allocation) and yields an integer of kind `int`, `int64` or an unsigned kind -/
def RangeLeftOK (c : SCfg) (l : Node) : Prop :=
  ∀ ctx, ∃ r : R Val, eval c ctx l = SM.lift r ∧ ∀ v, r = .ok v → ∃ k x, v = .int k x ∧ RangeK k

/-- guard of the in_range pass: Go `int` bounds; a left operand that can be evaluated twice (to be shown from what the
    rule tests itself under the two switches); and, as in `ConstRangeOK`, a non-descending range under OpRange's
    signed accounting, so that the allocation the rewrite drops was not negative (`rangeCharge_nonneg`) -/
def InRangeOK (c : SCfg) (fl : Flags) : Node → Prop
  | .binary _ op l (.binary _ rop (.int mf a) (.int mt b)) =>
    (op = "in" ∨ op = "not in") → rop = ".." →
      IntLitOK mf a ∧ IntLitOK mt b ∧
      ((fl.inRangeKindGuard = true → rangeKd l.kd = true) → (fl.inRangeSimpleLeft = true → simpleLeft l = true) →
        RangeLeftOK c l) ∧
      (c.rangeSizeSigned = true → a ≤ b + 1)
  | _ => True

theorem lift_err_bind {α β : Type} (e : ErrClass) (f : α → SM β) : (SM.lift (.error e) >>= f) = SM.fail e := rfl
theorem fail_bind {α β : Type} (e : ErrClass) (f : α → SM β) : ((SM.fail e : SM α) >>= f) = SM.fail e := rfl

theorem eval_cmp_lit (ctx : Ctx) (m mf : Meta) (op : String) (h : Helper) (hop : binArith op = some h) (l : Node) (a : Int)
    (ha : IntLitOK mf a) :
    eval c ctx (.binary m op l (.int mf a)) = (eval c ctx l >>= fun v => SM.lift (binHelper h v (.int .int a))) := by
  rw [eval_arith c ctx m op h hop, eval_int_plain ctx mf ha.1 ha.2]
  rfl

theorem eval_conj (ctx : Ctx) (m mg ml mf mt : Meta) (l : Node) (a b : Int) (k : Kind) (x : Int)
    (ha : IntLitOK mf a) (hb : IntLitOK mt b) (hl : eval c ctx l = SM.lift (.ok (.int k x))) (hk : RangeK k) :
    eval c ctx (.binary m "and" (.binary mg ">=" l (.int mf a)) (.binary ml "<=" l (.int mt b))) =
      pure (.bool (decide (a ≤ normInt k x ∧ normInt k x ≤ b))) :=
  funext fun s => eval_two_sided c ctx m mg ml l (.int mf a) (.int mt b) s k x a b (by rw [hl]; rfl)
    (by rw [eval_int_plain ctx mf ha.1 ha.2]; rfl) (by rw [eval_int_plain ctx mt hb.1 hb.2]; rfl) hk.isInt
    fun hr => ⟨hk.fits ha.2 hr, hk.fits hb.2 hr⟩

theorem inRangeRule_sound (fl : Flags) (N : Node) (hg : InRangeOK c fl N) (st : St) : Sim c (inRangeRule fl N st).1 N :=
  (inRangeRule_step fl N st).sim fun n' h => by
    obtain @⟨m, op, l, mr, mf, a, mt, b, neg, hop, hk, hsl⟩ := h
    obtain ⟨ha, hb, hleft, hsg⟩ := hg (by cases neg <;> simp [hop]) rfl
    have hleft : RangeLeftOK c l := hleft hk hsl
    have core : ∀ ctx,
        RelM (eval c ctx (.binary m "and" (.binary {} ">=" l (.int mf a)) (.binary {} "<=" l (.int mt b))) >>= fun v =>
                if neg = true then SM.lift (notV v) else pure v)
             (evalIn c ctx neg l (.binary mr ".." (.int mf a) (.int mt b))) := by
      intro ctx
      obtain ⟨r, hl, hr⟩ := hleft ctx
      unfold evalIn
      rw [eval_range_lits ctx mr mf mt a b ha hb]
      cases r with
      | error e =>
        rw [Spec.eval_andOp (op := "and") _ _ _ rfl, eval_cmp_lit ctx _ mf ">=" .moreOrEqual rfl l a ha, hl]
        simp only [lift_err_bind, fail_bind]
        exact RelM.fail e
      | ok v =>
        obtain ⟨k, x, rfl, hk⟩ := hr v rfl
        rw [eval_conj ctx m {} {} mf mt l a b k x ha hb hl hk, hl, SM.lift_ok]
        simp only [SM.pure_bind, SM.bind_assoc]
        refine RelM.skip_allocBefore _ _ _ (rangeCharge_nonneg hsg) ?_
        simp only [SM.pure_bind, inV, range_any_eq k hk.isInt a b x fun h => ⟨hk.fits ha.2 h, hk.fits hb.2 h⟩, SM.lift_ok]
        cases neg <;> simp only [Bool.false_eq_true, if_false, if_true, Bool.false_bne, Bool.true_bne, notV, SM.lift_ok] <;>
          exact RelM.pure _
    have re : ∀ h : reOK l = true, (reOK l && true && (reOK l && true)) = true := fun h => by rw [h]; rfl
    cases neg
    · cases hop
      refine sim_of_ev rfl rfl rfl rfl (fun h => ?_) (fun ctx => ?_)
      · simp only [reOK, Bool.and_true] at h
        exact re h
      · simp only [Bool.false_eq_true, if_false, rangeConj, patch, Node.withMeta, Node.getMeta]
        rw [eval_in_evalIn, ← bind_pure (eval c ctx _)]
        exact core ctx
    · cases hop
      refine sim_of_ev rfl rfl rfl rfl (fun h => ?_) (fun ctx => ?_)
      · simp only [reOK, Bool.and_true] at h
        exact re h
      · simp only [if_true, rangeConj, patch, Node.withMeta, Node.getMeta]
        rw [eval_notin_evalIn, Spec.eval_not c ctx _ "not" (.inl rfl)]
        exact core ctx

end OptProofs
end ExprModel
