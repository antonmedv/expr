import ExprModel.Proofs.OptStep
import ExprModel.Proofs.OptPipeline
import ExprModel.Proofs.AllLocDef
/-
C13: locations through the optimizer.  Every node of the tree `optimizer.Optimize` returns carries
the location of a node of the tree it was given, or 0:0 (the fresh inner nodes of the in-array / in-range
rewrites, which `ast.Patch` does not reach), and the location of a compile error raised by a pass (integer
division by zero in `fold`, a failing `ConstExpr` call) is the location of a node of the tree given, or 0:0.
Without the two rewrites that create nodes at 0:0 neither needs the exception (`optimizeWith_allLoc_exact`).
Stated for an arbitrary predicate `P` on locations that holds of the input tree and of 0:0.
-/
namespace ExprModel
namespace OptProofs
open Opt

variable {P : Loc → Prop}

def ErrIn (P : Loc → Prop) (st : St) : Prop := ∀ l, st.err = some l → P l

def KeepsLoc (P : Loc → Prop) (rule : Rule) : Prop :=
  ∀ N st, N.AllLoc P → ErrIn P st → (rule N st).1.AllLoc P ∧ ErrIn P (rule N st).2

theorem errIn_init : ErrIn P ({} : St) := by intro l h; cases h

theorem allLoc_patch (old new : Node) (ho : old.AllLoc P) (hn : new.AllLoc P) : (patch old new).AllLoc P :=
  Node.allLoc_withMeta new _ (Node.allLoc_root old ho) hn

theorem leaf0 (h0 : P {}) (n : Node)
    (h : (∃ v, n = .int {} v) ∨ (∃ v, n = .float {} v) ∨ (∃ v, n = .str {} v) ∨ (∃ v, n = .const {} v)) :
    n.AllLoc P := by
  rcases h with ⟨v, rfl⟩ | ⟨v, rfl⟩ | ⟨v, rfl⟩ | ⟨v, rfl⟩ <;> simp only [Node.AllLoc] <;> exact h0

mutual
theorem walk_allLoc (ws : Bool) (rule : Rule) (hrule : KeepsLoc P rule) :
    (n : Node) → ∀ st, n.AllLoc P → ErrIn P st → (walk ws rule n st).1.AllLoc P ∧ ErrIn P (walk ws rule n st).2
  | .nil _, st, h, he | .ident .., st, h, he | .int .., st, h, he | .float .., st, h, he | .bool .., st, h, he
  | .str .., st, h, he | .const .., st, h, he | .pointer _, st, h, he => by simp only [walk]; exact hrule _ _ h he
  | .unary m _ x, st, h, he | .closure m x, st, h, he | .prop m x _ _, st, h, he => by
    simp only [walk]
    simp only [Node.AllLoc] at h
    have a := walk_allLoc ws rule hrule x st h.2 he
    exact hrule _ _ (by simp only [Node.AllLoc]; exact ⟨h.1, a.1⟩) a.2
  | .binary m _ l r, st, h, he | .matches m _ l r, st, h, he | .index m l r, st, h, he | .pair m l r, st, h, he => by
    simp only [walk]
    simp only [Node.AllLoc] at h
    have a := walk_allLoc ws rule hrule l st h.2.1 he
    have b := walk_allLoc ws rule hrule r _ h.2.2 a.2
    exact hrule _ _ (by simp only [Node.AllLoc]; exact ⟨h.1, a.1, b.1⟩) b.2
  | .slice m x f t, st, h, he => by
    simp only [walk]
    simp only [Node.AllLoc] at h
    cases ws with
    | false =>
      simp only [Bool.false_eq_true, if_false]
      have b := walkOpt_allLoc false rule hrule f st h.2.2.1 he
      have d := walkOpt_allLoc false rule hrule t _ h.2.2.2 b.2
      exact hrule _ _ (by simp only [Node.AllLoc]; exact ⟨h.1, h.2.1, b.1, d.1⟩) d.2
    | true =>
      simp only [if_true]
      have a := walk_allLoc true rule hrule x st h.2.1 he
      have b := walkOpt_allLoc true rule hrule f _ h.2.2.1 a.2
      have d := walkOpt_allLoc true rule hrule t _ h.2.2.2 b.2
      exact hrule _ _ (by simp only [Node.AllLoc]; exact ⟨h.1, a.1, b.1, d.1⟩) d.2
  | .method m x name args ns, st, h, he => by
    simp only [walk]
    simp only [Node.AllLoc] at h
    have a := walk_allLoc ws rule hrule x st h.2.1 he
    have b := walkList_allLoc ws rule hrule args _ h.2.2 a.2
    exact hrule _ _ (by simp only [Node.AllLoc]; exact ⟨h.1, a.1, b.1⟩) b.2
  | .func m _ args _, st, h, he | .builtin m _ args, st, h, he | .array m args, st, h, he | .map m args, st, h, he => by
    simp only [walk]
    simp only [Node.AllLoc] at h
    have b := walkList_allLoc ws rule hrule args st h.2 he
    exact hrule _ _ (by simp only [Node.AllLoc]; exact ⟨h.1, b.1⟩) b.2
  | .cond m c a b, st, h, he => by
    simp only [walk]
    simp only [Node.AllLoc] at h
    have x := walk_allLoc ws rule hrule c st h.2.1 he
    have y := walk_allLoc ws rule hrule a _ h.2.2.1 x.2
    have z := walk_allLoc ws rule hrule b _ h.2.2.2 y.2
    exact hrule _ _ (by simp only [Node.AllLoc]; exact ⟨h.1, x.1, y.1, z.1⟩) z.2
theorem walkList_allLoc (ws : Bool) (rule : Rule) (hrule : KeepsLoc P rule) :
    (ns : List Node) → ∀ st, Node.AllLocL P ns → ErrIn P st →
      Node.AllLocL P (walkList ws rule ns st).1 ∧ ErrIn P (walkList ws rule ns st).2
  | [], st, _, he => by simp only [walkList, Node.AllLocL]; exact ⟨trivial, he⟩
  | n :: ns, st, h, he => by
    simp only [walkList]
    simp only [Node.AllLocL] at h
    have a := walk_allLoc ws rule hrule n st h.1 he
    have b := walkList_allLoc ws rule hrule ns _ h.2 a.2
    exact ⟨by simp only [Node.AllLocL]; exact ⟨a.1, b.1⟩, b.2⟩
theorem walkOpt_allLoc (ws : Bool) (rule : Rule) (hrule : KeepsLoc P rule) :
    (o : Option Node) → ∀ st, Node.AllLocO P o → ErrIn P st →
      Node.AllLocO P (walkOpt ws rule o st).1 ∧ ErrIn P (walkOpt ws rule o st).2
  | none, st, _, he => by simp only [walkOpt, Node.AllLocO]; exact ⟨trivial, he⟩
  | some n, st, h, he => by
    simp only [walkOpt]
    simp only [Node.AllLocO] at h
    have a := walk_allLoc ws rule hrule n st h he
    exact ⟨by simp only [Node.AllLocO]; exact a.1, a.2⟩
end

theorem walkKeeps_allLoc (ws : Bool) {rule : Rule} (h : KeepsLoc P rule) : WalkKeeps ws (Node.AllLoc P) P rule :=
  fun n hn => walk_allLoc ws rule h n {} hn errIn_init

theorem guarded_keepsLoc (g : Guard) (p : Pass) (r : Rule) (h : KeepsLoc P r) : KeepsLoc P (guarded g p r) := by
  intro N st hN he
  simp only [guarded]
  split
  · exact h N st hN he
  · exact ⟨hN, he⟩

theorem errIn_applied {st : St} (he : ErrIn P st) : ErrIn P (applied st) := he

theorem errIn_setApplied {st : St} (he : ErrIn P st) : ErrIn P { st with applied := true } := he

theorem errIn_setErr {st : St} {l : Loc} (hl : P l) : ErrIn P { st with err := some l } := by
  intro l' h; simp only [Option.some.injEq] at h; rw [← h]; exact hl

theorem Step.keepsLoc {marks : Bool} {Rej : Prop} {New : Node → Prop} {N : Node} {st : St} {out : Node × St}
    (h : Step marks Rej New N st out) (hn : ∀ n', New n' → n'.AllLoc P) (hN : N.AllLoc P) (he : ErrIn P st) :
    out.1.AllLoc P ∧ ErrIn P out.2 := by
  cases h with
  | keep => exact ⟨hN, he⟩
  | reject => exact ⟨hN, errIn_setErr (Node.allLoc_root N hN)⟩
  | new h => exact ⟨hn _ h, by cases marks <;> exact he⟩

theorem LeafAt.allLoc {N n' : Node} (h : LeafAt N n') (hN : N.AllLoc P) : n'.AllLoc P := by
  obtain ⟨leaf, kd, hl, rfl⟩ := h
  cases hl <;> exact Node.allLoc_root N hN

theorem foldRule_keepsLoc (fl : Flags) (w : World) : KeepsLoc P (foldRule fl w) :=
  fun N st hN he => (foldRule_step fl w N st).keepsLoc (fun _ h => h.leafAt.allLoc hN) hN he

theorem constRangeRule_keepsLoc (fl : Flags) : KeepsLoc P (constRangeRule fl) :=
  fun N st hN he => (constRangeRule_step fl N st).keepsLoc (fun _ h => h.leafAt.allLoc hN) hN he

theorem constExprRule_keepsLoc (fl : Flags) (fns : ConstFns) (w : World) : KeepsLoc P (constExprRule fl fns w) :=
  fun N st hN he => (constExprRule_step fl fns w N st).keepsLoc (fun _ h => h.leafAt.allLoc hN) hN he

theorem inArrayRule_keepsLoc (h0 : P {}) (fl : Flags) : KeepsLoc P (inArrayRule fl) :=
  fun N st hN he => (inArrayRule_step fl N st).keepsLoc (fun n' h => by
    obtain ⟨m, op, l, ma, xs, v, rfl, _, rfl⟩ := h.shape
    exact ⟨hN.1, hN.2.1, h0⟩) hN he

theorem inRangeRule_keepsLoc (h0 : P {}) (fl : Flags) : KeepsLoc P (inRangeRule fl) :=
  fun N st hN he => (inRangeRule_step fl N st).keepsLoc (fun n' h => by
    cases h with
    | @mk m op l mr mf a mt b neg =>
      have hconj : (rangeConj (.binary m op l (.binary mr ".." (.int mf a) (.int mt b))) l mf a mt b).AllLoc P :=
        allLoc_patch _ _ hN ⟨h0, ⟨h0, hN.2.1, hN.2.2.2.1⟩, ⟨h0, hN.2.1, hN.2.2.2.2⟩⟩
      cases neg
      · exact hconj
      · exact allLoc_patch _ _ hconj ⟨h0, hconj⟩) hN he

theorem guarded_off_keepsLoc (g : Guard) (p : Pass) (r : Rule) (h : ∀ N, g p N = false) : KeepsLoc P (guarded g p r) := by
  intro N st hN he
  simp only [guarded, h N]
  exact ⟨hN, he⟩

theorem optimizeWith_allLoc_of (g : Guard) (fl : Flags) (fns : ConstFns) (w : World)
    (hA : KeepsLoc P (guarded g .inArray (inArrayRule fl))) (hR : KeepsLoc P (guarded g .inRange (inRangeRule fl)))
    (n : Node) (hn : n.AllLoc P) : ResTo (Node.AllLoc P) P (optimizeWith g fl fns w n) :=
  optimizeWith_keeps g fl fns w (fun p => walkKeeps_allLoc _ (by
    cases p
    · exact hA
    · exact guarded_keepsLoc g .fold _ (foldRule_keepsLoc fl w)
    · exact guarded_keepsLoc g .constExpr _ (constExprRule_keepsLoc fl fns w)
    · exact hR
    · exact guarded_keepsLoc g .constRange _ (constRangeRule_keepsLoc fl))) n hn

theorem optimizeWith_allLoc (h0 : P {}) (g : Guard) (fl : Flags) (fns : ConstFns) (w : World) (n : Node)
    (hn : n.AllLoc P) : ResTo (Node.AllLoc P) P (optimizeWith g fl fns w n) :=
  optimizeWith_allLoc_of g fl fns w (guarded_keepsLoc g .inArray _ (inArrayRule_keepsLoc h0 fl))
    (guarded_keepsLoc g .inRange _ (inRangeRule_keepsLoc h0 fl)) n hn

theorem optimizeWith_allLoc_exact (g : Guard) (hA : ∀ N, g .inArray N = false) (hR : ∀ N, g .inRange N = false)
    (fl : Flags) (fns : ConstFns) (w : World) (n : Node) (hn : n.AllLoc P) : ResTo (Node.AllLoc P) P (optimizeWith g fl fns w n) :=
  optimizeWith_allLoc_of g fl fns w (guarded_off_keepsLoc g .inArray _ hA) (guarded_off_keepsLoc g .inRange _ hR) n hn

end OptProofs
end ExprModel
