import ExprModel.Api.Source
/-
`Source.Snippet` against the lines of the source (C13; C04 uses that it cannot panic).  The offsets table holds, for
line `i`, the rune offset just after its line feed: `startOf L (i + 1)` for `L = splitLines src`; the source is
`joinLines L` (`join_split`), in which line `n` stands behind `startOf L n` runes (`joinLines_at`), so the slice
`[startOf L n, startOf L (n + 1) - 1)` is the `n`-th line (`snippet_line_core`).
-/
namespace ExprModel.Src

/-- `strings.Join(lines, "\n")` -/
def joinLines : List (List Char) → List Char
  | [] => []
  | [l] => l
  | l :: l' :: ls => l ++ '\n' :: joinLines (l' :: ls)

/-- the offset, in `joinLines L`, of the first rune of line `n` (0-based): the lines before it and their line feeds -/
def startOf : List (List Char) → Nat → Nat
  | _, 0 => 0
  | [], _ + 1 => 0
  | l :: ls, n + 1 => l.length + 1 + startOf ls n

theorem splitLines_ne_nil (s : List Char) : splitLines s ≠ [] := by
  cases s with
  | nil => simp [splitLines]
  | cons c cs =>
    unfold splitLines
    split
    · simp
    · split <;> simp

theorem joinLines_cons_cons (c : Char) (l : List Char) (ls : List (List Char)) :
    joinLines ((c :: l) :: ls) = c :: joinLines (l :: ls) := by
  cases ls <;> simp [joinLines]

theorem join_split (s : List Char) : joinLines (splitLines s) = s := by
  induction s with
  | nil => simp [splitLines, joinLines]
  | cons c cs ih =>
    unfold splitLines
    split
    · next h =>
      subst h
      cases hs : splitLines cs with
      | nil => exact absurd hs (splitLines_ne_nil cs)
      | cons l ls => rw [hs] at ih; simp [joinLines, ih]
    · cases hs : splitLines cs with
      | nil => exact absurd hs (splitLines_ne_nil cs)
      | cons l ls => rw [hs] at ih; simp [joinLines_cons_cons, ih]

theorem splitLines_eq (s : List Char) :
    splitLines s = firstLine s :: (match afterFirstLine s with | none => [] | some r => splitLines r) := by
  induction s with
  | nil => simp [splitLines, firstLine, afterFirstLine]
  | cons c cs ih =>
    by_cases h : c = '\n'
    · simp [splitLines, firstLine, afterFirstLine, h]
    · simp only [splitLines, firstLine, afterFirstLine, h, if_false]
      rw [ih]

theorem splitLines_getElem? (s : List Char) (n : Nat) : (splitLines s)[n]? = nthLine s n := by
  induction n generalizing s with
  | zero => rw [splitLines_eq]; simp [nthLine]
  | succ n ih =>
    rw [splitLines_eq]
    simp only [List.getElem?_cons_succ, nthLine]
    cases afterFirstLine s with
    | none => simp
    | some r => exact ih r

theorem firstLine_no_nl (s : List Char) : '\n' ∉ firstLine s := by
  induction s with
  | nil => simp [firstLine]
  | cons c cs ih =>
    by_cases h : c = '\n'
    · simp [firstLine, h]
    · simp only [firstLine, h, if_false, List.mem_cons, not_or]
      exact ⟨fun e => h e.symm, ih⟩

theorem nthLine_no_nl (s : List Char) (n : Nat) (l : List Char) (h : nthLine s n = some l) : '\n' ∉ l := by
  induction n generalizing s with
  | zero => simp [nthLine] at h; subst h; exact firstLine_no_nl s
  | succ n ih =>
    simp only [nthLine] at h
    cases hr : afterFirstLine s with
    | none => rw [hr] at h; cases h
    | some r => rw [hr] at h; exact ih r h

theorem lineOffsetsFrom_length (acc : Nat) (L : List (List Char)) : (lineOffsetsFrom acc L).length = L.length := by
  induction L generalizing acc with
  | nil => rfl
  | cons l ls ih => simp [lineOffsetsFrom, ih]

theorem lineOffsetsFrom_get (acc : Nat) (L : List (List Char)) (i : Nat) (h : i < L.length) :
    (lineOffsetsFrom acc L)[i]? = some (acc + startOf L (i + 1)) := by
  induction L generalizing acc i with
  | nil => simp at h
  | cons l ls ih =>
    cases i with
    | zero => simp [lineOffsetsFrom, startOf]; omega
    | succ i =>
      simp only [lineOffsetsFrom, List.getElem?_cons_succ]
      rw [ih _ i (by simpa using h)]
      simp only [startOf]
      congr 1
      omega

theorem joinLines_at (L : List (List Char)) (n : Nat) (h : n < L.length) :
    ∃ pre post, joinLines L = pre ++ L[n] ++ post ∧ pre.length = startOf L n ∧ (n + 1 = L.length → post = []) := by
  induction L generalizing n with
  | nil => simp at h
  | cons l ls ih =>
    cases n with
    | zero =>
      cases ls with
      | nil => exact ⟨[], [], by simp [joinLines], rfl, fun _ => rfl⟩
      | cons l' ls' => exact ⟨[], '\n' :: joinLines (l' :: ls'), by simp [joinLines], rfl, fun e => by simp at e⟩
    | succ n =>
      cases ls with
      | nil => simp at h
      | cons l' ls' =>
        obtain ⟨pre, post, hj, hp, hlast⟩ := ih n (by simpa using h)
        refine ⟨l ++ '\n' :: pre, post, ?_, ?_, fun e => hlast (by simpa using e)⟩
        · rw [joinLines, hj]; simp
        · simp [startOf, hp]; omega

theorem startOf_succ (L : List (List Char)) (n : Nat) (h : n < L.length) :
    startOf L (n + 1) = startOf L n + (L[n]'h).length + 1 := by
  induction L generalizing n with
  | nil => simp at h
  | cons l ls ih =>
    cases n with
    | zero => simp [startOf]
    | succ n =>
      have h' : n < ls.length := by simpa using h
      simp only [startOf, List.getElem_cons_succ]
      rw [ih n h']
      omega

theorem idx_ok (xs : List Nat) (i v : Nat) (h : xs[i]? = some v) : idx xs (i : Int) = .ok v := by
  have hl : i < xs.length := by
    rcases Nat.lt_or_ge i xs.length with h' | h'
    · exact h'
    · rw [List.getElem?_eq_none h'] at h; cases h
  unfold idx
  rw [if_pos ⟨by omega, by omega⟩]
  simp [List.getD_eq_getElem?_getD, h]

theorem findLineOffset_found (L : List (List Char)) (n : Nat) (h : n < L.length) :
    findLineOffset (lineOffsetsFrom 0 L) ((n : Int) + 1) = .ok ((startOf L n : Nat), true) := by
  unfold findLineOffset
  cases n with
  | zero => simp [startOf]
  | succ m =>
    have h1 : ¬ (((m + 1 : Nat) : Int) + 1 = 1) := by omega
    rw [if_neg h1, lineOffsetsFrom_length]
    rw [if_pos ⟨by omega, by omega⟩]
    have : (((m + 1 : Nat) : Int) + 1 - 2) = (m : Int) := by omega
    rw [this, idx_ok _ m _ (lineOffsetsFrom_get 0 L m (by omega))]
    simp

theorem findLineOffset_beyond (L : List (List Char)) (n : Nat) (hL : L ≠ []) (h : L.length ≤ n) :
    findLineOffset (lineOffsetsFrom 0 L) ((n : Int) + 1) = .ok (-1, false) := by
  have hpos : 0 < L.length := List.length_pos_iff.mpr hL
  unfold findLineOffset
  rw [if_neg (by omega), lineOffsetsFrom_length, if_neg (by omega)]

theorem findLineOffset_nonpos (offs : List Nat) (line : Int) (h : line ≤ 0) :
    findLineOffset offs line = .ok (-1, false) := by
  unfold findLineOffset
  rw [if_neg (by omega), if_neg (by omega)]

theorem snippet_line_core (s : List Char) (hs : s ≠ []) (n : Nat) (h : n < (splitLines s).length) :
    snippet s ((n : Int) + 1) = .ok ((splitLines s)[n], true) := by
  have hjoin := join_split s
  have hne := splitLines_ne_nil s
  generalize hL : splitLines s = L at *
  obtain ⟨pre, post, hj, hp, hlast⟩ := joinLines_at L n h
  rw [hjoin] at hj
  have hsl : ¬ (s.length = 0) := by
    intro h0; exact hs (List.eq_nil_of_length_eq_zero h0)
  have hsucc := startOf_succ L n h
  have hlen : s.length = startOf L n + (L[n]).length + post.length := by rw [hj, ← hp]; simp [Nat.add_assoc]
  have hcut : (s.drop (startOf L n)).take (L[n]).length = L[n] := by rw [hj, ← hp]; simp
  unfold snippet lineOffsets
  rw [hL, findLineOffset_found L n h]
  simp only [Bool.not_true, Bool.false_or, beq_iff_eq, hsl, if_false]
  by_cases hlast' : n + 1 < L.length
  · have := findLineOffset_found L (n + 1) hlast'
    rw [show (((n + 1 : Nat) : Int) + 1) = (n : Int) + 1 + 1 by omega] at this
    rw [this]
    simp only [slice, Out.map]
    rw [if_pos ⟨by omega, by omega, by omega⟩]
    simp only [Int.toNat_natCast]
    rw [show ((startOf L (n + 1) : Nat) - 1 - (startOf L n : Nat) : Int).toNat = (L[n]).length by omega, hcut]
  · have := findLineOffset_beyond L (n + 1) hne (by omega)
    rw [show (((n + 1 : Nat) : Int) + 1) = (n : Int) + 1 + 1 by omega] at this
    rw [this]
    simp only [slice, Out.map]
    have hpost : post.length = 0 := by rw [hlast (by omega)]; rfl
    rw [if_pos ⟨by omega, by omega, by omega⟩]
    simp only [Int.toNat_natCast]
    rw [show ((s.length : Int) - (startOf L n : Nat)).toNat = (L[n]).length by omega, hcut]

theorem snippet_out_of_range (s : List Char) (line : Int) (h : line ≤ 0 ∨ (numLines s : Int) < line) :
    snippet s line = .ok ([], false) := by
  unfold snippet lineOffsets
  rcases h with h | h
  · rw [findLineOffset_nonpos _ _ h]; simp
  · have : line = ((line - 1).toNat : Int) + 1 := by omega
    rw [this, findLineOffset_beyond _ _ (splitLines_ne_nil s) (by unfold numLines at h; omega)]
    simp

theorem snippet_empty_source (line : Int) : snippet [] line = .ok ([], false) := by
  unfold snippet
  cases h : findLineOffset (lineOffsets []) line with
  | panic =>
    unfold findLineOffset at h
    split at h
    · cases h
    · split at h
      · next h2 => simp [lineOffsets, splitLines, lineOffsetsFrom] at h2; omega
      · cases h
  | ok p => obtain ⟨a, b⟩ := p; simp

/-- What `Snippet` returns: the line of that number when the source is not empty and has one, `("", false)`
    otherwise — never a panic. -/
theorem snippet_eq (s : List Char) (line : Int) :
    snippet s line =
      if s = [] ∨ line < 1 then .ok ([], false)
      else match nthLine s (line - 1).toNat with
        | some l => .ok (l, true)
        | none => .ok ([], false) := by
  split
  · next h =>
    rcases h with rfl | h
    · exact snippet_empty_source line
    · exact snippet_out_of_range s line (Or.inl (by omega))
  · next h =>
    rw [not_or] at h
    rw [← splitLines_getElem?]
    by_cases hn : (line - 1).toNat < (splitLines s).length
    · rw [List.getElem?_eq_getElem hn]
      have := snippet_line_core s h.1 _ hn
      rwa [show ((line - 1).toNat : Int) + 1 = line by omega] at this
    · rw [List.getElem?_eq_none (by omega)]
      exact snippet_out_of_range s line (Or.inr (by unfold numLines; omega))

theorem nthLine_isSome_iff (s : List Char) (n : Nat) : (∃ l, nthLine s n = some l) ↔ n < numLines s := by
  rw [← splitLines_getElem?]
  exact ⟨fun ⟨l, hl⟩ => (List.getElem?_eq_some_iff.1 hl).1, fun h => ⟨_, List.getElem?_eq_getElem h⟩⟩

end ExprModel.Src
