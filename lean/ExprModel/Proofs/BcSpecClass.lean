import ExprModel.Proofs.RefineBenignAll
/-
C05 (run-time half, via C01): the reference evaluator never fails with the class `underflow` (a pop of an empty
stack / a missing scope) nor `fuel` on a well-formed tree, whatever the environment functions do as long as THEY
do not report those classes.  Together with C01's refinement (run = Spec.run) this gives: no run of a compiled
program pops an empty stack.
-/
namespace ExprModel.Bc
open ExprModel ExprModel.Spec ExprModel.Refine

def Ordinary (e : ErrClass) : Prop := e ≠ .underflow ∧ e ≠ .fuel

def WorldOrd (w : World) : Prop := ∀ id args e, w.call id args = .error e → Ordinary e

theorem ordinary_of_benign {e : ErrClass} (h : Benign e) : Ordinary e := by
  rcases h with rfl | rfl | rfl | rfl | rfl <;> exact ⟨by decide, by decide⟩

theorem sm_pure_eq {α} (a : α) : (pure a : SM α) = SM.pure' a := rfl

theorem spec_run_ordinary (c : SCfg) (hw : WorldOrd c.world) (L : Node → Prop) (cast : Option Nat) (n : Node)
    (hg : Good L n) (e : ErrClass) (h : (Spec.run c cast n).1 = .error e) : Ordinary e :=
  run_errsIn
    -- `Known` holds by its first disjunct (`Ordinary .badop`); its other one, about `K` and `cfg`, is not looked at
    (eval_fails (K := #[]) (cfg := {}) ⟨fun _ => ordinary_of_benign, hw⟩ n [] (.inl ⟨by decide, by decide⟩) hg)
    (fun t v => (lib_castV t v).mono fun _ he => ordinary_of_benign he.benign) e h

end ExprModel.Bc
