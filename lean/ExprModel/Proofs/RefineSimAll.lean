import ExprModel.Proofs.RefineSem
/-
C01: assembling the case lemmas by mutual structural recursion over `Node` / `List Node`, on trees that are
`Good L` (Proofs/RefineGood.lean).  The loop builtins enter through the hypothesis `LoopCase`.
-/
namespace ExprModel.Refine
open ExprModel
open ExprModel.Spec
open ExprModel.Spec.SML

/-- the loop case of the recursion `simC`, as a hypothesis: `simC` is proved for any predicate `loops` on the collections
    a builtin may iterate over, so that the loop-free theorems (`loops := fun _ => False`, `loopCase_none`) rest neither
    on the loop proofs nor on `SmallColl`; `loopCase_holds` (RefineLoopAll) supplies it for `SmallColl c`.  Stated with
    `Sim`, which speaks of `eval`; `simC` and `loopCase_holds` cross by `sim_iff`. -/
def LoopCase (c : Cfg) (P : LProg) (loops : Node → Prop) : Prop :=
  ∀ (m : Meta) (name : String) (a b : Node) (ca cb : List LInstr) (ci cs car c0 : Nat) (code : List LInstr)
    (ctx : Ctx), loops a → (∀ ctx', Sim c P ctx' a ca) →
    (∀ ctx', Sim c P ctx' b cb) → LoopK P.consts ci cs car c0 →
    BuiltinCode P.consts m.loc name ca cb ci cs car c0 code → Sim c P ctx (.builtin m name [a, b]) code

theorem loopCase_none (c : Cfg) (P : LProg) : LoopCase c P (fun _ => False) :=
  fun _ _ _ _ _ _ _ _ _ _ _ _ h => h.elim

/-- the environment is a map when the compiler was told so (`OpFetchMap`) -/
def EnvOK (c : Cfg) (cfg : CompCfg) : Prop := cfg.mapEnv = true → ∃ kvs, c.env = .map kvs

mutual
theorem simC {c : Cfg} {P : LProg} {cfg : CompCfg} {loops : Node → Prop} (henv : EnvOK c cfg) (hloop : LoopCase c P loops) :
    ∀ (n : Node) (code : List LInstr) (ctx : Ctx), Compiles P.consts cfg n code → Good loops n →
      SimC c P ctx [] one (evalLoc (specOf c) ctx n) code
  | .nil m, code, ctx, h, _ => by
    rw [Compiles_nil] at h; subst h
    exact SimC.const fun _ _ _ _ hc => Runs.nil_ hc (Reach.refl _)
  | .bool m b, code, ctx, h, _ => by
    rw [Compiles_bool] at h; subst h
    cases b
    · exact SimC.const fun _ _ _ _ hc => Runs.false_ hc (Reach.refl _)
    · exact SimC.const fun _ _ _ _ hc => Runs.true_ hc (Reach.refl _)
  | .int m v, code, ctx, h, _ => by
    rw [Compiles_int] at h; obtain ⟨k, hk, rfl⟩ := h
    exact SimC.pushConst hk
  | .float m bits, code, ctx, h, _ => by
    rw [Compiles_float] at h; obtain ⟨k, hk, rfl⟩ := h
    exact SimC.pushConst hk
  | .str m s, code, ctx, h, _ => by
    rw [Compiles_str] at h; obtain ⟨k, hk, rfl⟩ := h
    exact SimC.pushConst hk
  | .const m v, code, ctx, h, _ => by
    rw [Compiles_const] at h
    rcases h with ⟨rfl, rfl⟩ | ⟨_, k, hk, rfl⟩
    · exact SimC.const fun _ _ _ _ hc => Runs.nil_ hc (Reach.refl _)
    · exact SimC.pushConst hk
  | .ident m name nilsafe, code, ctx, h, _ => by
    rw [Compiles_ident] at h; obtain ⟨k, hk, rfl⟩ := h
    rw [evalLoc_ident]
    cases hm : cfg.mapEnv with
    | true =>
      obtain ⟨kvs, hkvs⟩ := henv hm
      have hf : fetchV (specOf c).env (.str name) nilsafe = .ok ((lookupKv name kvs).getD .nil) := by
        show fetchV c.env _ _ = _
        rw [hkvs]; rfl
      rw [hf]
      exact SimC.lifted fun _ _ _ _ hc _ => Runs.fetchMap hc hk hkvs (Reach.refl _)
    | false =>
      cases nilsafe
      · exact SimC.lifted fun _ _ _ _ hc hb => Runs.fetch hc hk hb
      · exact SimC.lifted fun _ _ _ _ hc hb => Runs.fetchNilSafe hc hk hb
  | .unary m op x, code, ctx, h, hg => by
    rw [Compiles_unary] at h; obtain ⟨cx, hx, hc⟩ := h
    have ihx := simC henv hloop x cx ctx hx hg
    rw [evalLoc_unary]
    by_cases h1 : (op == "!" || op == "not") = true
    · simp only [h1, if_true] at hc ⊢; subst hc
      exact ihx.bind fun v => SimC.lifted fun _ _ _ _ hc hb => Runs.not_ hc hb
    · simp only [h1] at hc ⊢
      by_cases h2 : (op == "+") = true
      · have hm : (op == "-") = false := by
          have : op = "+" := by simpa using h2
          subst this; decide
        simp only [h2, hm, if_true, Bool.false_eq_true, if_false] at hc ⊢; subst hc
        rw [← List.append_nil code]
        exact ihx.bind fun v => SimC.raised (fun σ => (.ok v, σ)) (fun _ => rfl) fun _ _ _ _ _ _ => Reach.refl _
      · simp only [h2] at hc
        by_cases h3 : (op == "-") = true
        · simp only [h3, if_true] at hc ⊢; subst hc
          exact ihx.bind fun v => SimC.lifted fun _ _ _ _ hc hb => Runs.negate hc hb
        · simp [h3] at hc
  | .binary m op l r, code, ctx, h, hg => by
    rw [Compiles_binary] at h; obtain ⟨cl, cr, hl, hr, hc⟩ := h
    have ihl := simC henv hloop l cl ctx hl hg.1
    have ihr := simC henv hloop r cr ctx hr hg.2
    have strict : ∀ {tail}, isLogicOp op = false →
        TailOK c P ctx m.loc op l r tail → SimC c P ctx [] one (evalLoc (specOf c) ctx (.binary m op l r)) (cl ++ cr ++ tail) := by
      intro tail hs ht
      rw [evalLoc_strict _ _ _ hs, List.append_assoc]
      exact ihl.bind fun a => (ihr.under [a]).bind fun b => ht a b
    by_cases h1 : (op == "==") = true
    · simp only [h1, if_true] at hc; subst hc
      have : op = "==" := by simpa using h1
      subst this
      exact strict (by decide) tail_eq
    · simp only [h1] at hc
      by_cases h2 : (op == "or" || op == "||") = true
      · simp only [h2, if_true] at hc; subst hc
        have hna : (op == "and" || op == "&&") = false := by
          simp only [Bool.or_eq_true, beq_iff_eq] at h2
          rcases h2 with rfl | rfl <;> decide
        rw [evalLoc_binary]
        simp only [hna, h2, if_true, Bool.false_eq_true, if_false]
        exact SimC.shortcut (jt := true) rfl rfl ihl ihr
      · simp only [h2] at hc
        by_cases h3 : (op == "and" || op == "&&") = true
        · simp only [h3, if_true] at hc; subst hc
          rw [evalLoc_binary]
          simp only [h3, if_true]
          exact SimC.shortcut (jt := false) rfl rfl ihl ihr
        · simp only [h3] at hc
          cases hops : binSimpleOp op with
          | none => simp [hops] at hc
          | some ops =>
            simp only [hops] at hc; subst hc
            obtain ⟨hs, hrow⟩ := binSimple_row (specOf c) l r hops
            exact strict hs hrow.tail
  | .matches m hasRe l r, code, ctx, h, hg => by
    rw [Compiles_matches] at h; obtain ⟨cl, hl, hc⟩ := h
    have ihl := simC henv hloop l cl ctx hl hg.1
    cases hasRe with
    | true =>
      simp only [if_true] at hc
      obtain ⟨k, hk, rfl⟩ := hc
      rw [evalLoc_matches_re]
      exact ihl.bind fun a => SimC.lifted fun _ _ _ _ hc hb => Runs.matchesConst hc hk hb
    | false =>
      simp only [Bool.false_eq_true, if_false] at hc
      obtain ⟨cr, hr, rfl⟩ := hc
      rw [evalLoc_matches_dyn, List.append_assoc]
      exact ihl.bind fun a => ((simC henv hloop r cr ctx hr hg.2).under [a]).bind fun b =>
        SimC.lifted fun _ _ _ _ hc hb => Runs.matches_ hc hb
  | .prop m x name nilsafe, code, ctx, h, hg => by
    rw [Compiles_prop] at h; obtain ⟨cx, k, hx, hk, rfl⟩ := h
    rw [evalLoc_prop]
    refine (simC henv hloop x cx ctx hx hg).bind fun v => ?_
    cases nilsafe
    · exact SimC.lifted fun _ _ _ _ hc hb => Runs.property hc hk hb
    · exact SimC.lifted fun _ _ _ _ hc hb => Runs.propertyNilSafe hc hk hb
  | .index m x i, code, ctx, h, hg => by
    rw [Compiles_index] at h; obtain ⟨cx, ci, hx, hi, rfl⟩ := h
    rw [evalLoc_index, List.append_assoc]
    exact (simC henv hloop x cx ctx hx hg.1).bind fun a => ((simC henv hloop i ci ctx hi hg.2).under [a]).bind fun b =>
      SimC.lifted fun _ _ _ _ hc hb => Runs.index hc hb
  | .slice m x f t, code, ctx, h, hg => by
    rw [Compiles_slice] at h; obtain ⟨cx, ct, cf, hx, ht, hf, rfl⟩ := h
    rw [evalLoc_slice]
    refine SimC.slice (simC henv hloop x cx ctx hx hg.1) (fun a => ?_) ?_
    · cases t with
      | none => rw [CompilesO_none] at ht; subst ht; exact SimC.len_peek a
      | some t => exact (simC henv hloop t ct ctx ht hg.2.2).under [a]
    · cases f with
      | none => rw [CompilesO_none] at hf; obtain ⟨k0, hk0, rfl⟩ := hf; exact SimC.pushConst hk0
      | some f => exact simC henv hloop f cf ctx hf hg.2.1
  | .method m x name args nilsafe, code, ctx, h, hg => by
    rw [Compiles_method] at h; obtain ⟨cx, ca, k, hx, ha, hk, rfl⟩ := h
    exact SimC.method (simC henv hloop x cx ctx hx hg.1) (simCL henv hloop args ca ctx ha hg.2) hg.2 hk
  | .func m name args fast, code, ctx, h, hg => by
    rw [Compiles_func] at h; obtain ⟨ca, k, ha, hk, rfl⟩ := h
    exact SimC.func (simCL henv hloop args ca ctx ha hg) hg hk
  | .builtin m name [], code, ctx, h, hg => by
    rw [Compiles_builtin0] at h; exact h.elim
  | .builtin m name [a], code, ctx, h, hg => by
    rw [Compiles_builtin1] at h; obtain ⟨rfl, ca, ha, rfl⟩ := h
    rw [evalLoc_len]
    exact SimC.len (simC henv hloop a ca ctx ha hg.2.1)
  | .builtin m name [a, b], code, ctx, h, hg => by
    rw [Compiles_builtin2] at h; obtain ⟨ca, cb, ci, cs, car, c0, ha, hb, hK, hcode⟩ := h
    have hl : loops a := by
      rcases hg.1 with rfl | hl
      · rcases hcode with ⟨h, _⟩ | ⟨h, _⟩ | ⟨h, _⟩ | ⟨h, _⟩ | ⟨h, _⟩ | ⟨h, _⟩ | ⟨h, _⟩ <;> exact absurd h (by decide)
      · exact hl
    exact sim_iff.1 (hloop m name a b ca cb ci cs car c0 code ctx hl
      (fun ctx' => sim_iff.2 (simC henv hloop a ca ctx' ha hg.2.1))
      (fun ctx' => sim_iff.2 (simC henv hloop b cb ctx' hb hg.2.2.1)) hK hcode)
  | .builtin m name (a :: b :: d :: rest), code, ctx, h, hg => by
    rw [Compiles_builtin3] at h; exact h.elim
  | .closure m x, code, ctx, h, hg => by
    rw [Compiles_closure] at h
    exact simC henv hloop x code ctx h hg
  | .pointer m, code, ctx, h, _ => by
    rw [Compiles_pointer] at h; obtain ⟨car, ci, hcar, hci, rfl⟩ := h
    exact SimC.pointer hcar hci
  | .cond m cn a b, code, ctx, h, hg => by
    rw [Compiles_cond] at h; obtain ⟨cc, ca, cb, hc, ha, hb, rfl⟩ := h
    rw [evalLoc_cond]
    exact SimC.cond (simC henv hloop cn cc ctx hc hg.1) (simC henv hloop a ca ctx ha hg.2.1)
      (simC henv hloop b cb ctx hb hg.2.2)
  | .array m xs, code, ctx, h, hg => by
    rw [Compiles_array] at h; obtain ⟨cx, k, hx, hk, rfl⟩ := h
    exact SimC.array (simCL henv hloop xs cx ctx hx hg) hg hk
  | .map m ps, code, ctx, h, hg => by
    rw [Compiles_map] at h; obtain ⟨cx, k, hx, hk, rfl⟩ := h
    exact SimC.mapLit (simCP henv hloop ps cx ctx hx hg) hg hk
  | .pair m k v, code, ctx, h, hg => hg.elim
theorem simCL {c : Cfg} {P : LProg} {cfg : CompCfg} {loops : Node → Prop} (henv : EnvOK c cfg) (hloop : LoopCase c P loops) :
    ∀ (ns : List Node) (code : List LInstr) (ctx : Ctx), CompilesL P.consts cfg ns code → GoodL loops ns →
      SimC c P ctx [] List.reverse (evalListLoc (specOf c) ctx ns) code
  | [], code, ctx, h, _ => by
    rw [CompilesL_nil] at h; subst h; exact SimC.nil
  | n :: ns, code, ctx, h, hg => by
    rw [CompilesL_cons] at h; obtain ⟨c1, c2, h1, h2, rfl⟩ := h
    exact SimC.cons (good_not_pair hg.1) (simC henv hloop n c1 ctx h1 hg.1) (simCL henv hloop ns c2 ctx h2 hg.2)
theorem simCP {c : Cfg} {P : LProg} {cfg : CompCfg} {loops : Node → Prop} (henv : EnvOK c cfg) (hloop : LoopCase c P loops) :
    ∀ (ns : List Node) (code : List LInstr) (ctx : Ctx), CompilesL P.consts cfg ns code → GoodP loops ns →
      SimC c P ctx [] List.reverse (evalListLoc (specOf c) ctx ns) code
  | [], code, ctx, h, _ => by
    rw [CompilesL_nil] at h; subst h; exact SimC.nil
  | n :: ns, code, ctx, h, hg => by
    cases n <;> first | exact (hg : False).elim | skip
    rename_i m k v
    rw [CompilesL_cons] at h; obtain ⟨c1, c2, h1, h2, rfl⟩ := h
    rw [Compiles_pair] at h1; obtain ⟨ck, cv, hk, hv, rfl⟩ := h1
    have hg' : Good loops k ∧ Good loops v ∧ GoodP loops ns := hg
    exact SimC.pair (simC henv hloop k ck ctx hk hg'.1) (simC henv hloop v cv ctx hv hg'.2.1)
      (simCP henv hloop ns c2 ctx h2 hg'.2.2)
end

theorem sim {c : Cfg} {P : LProg} {cfg : CompCfg} {loops : Node → Prop} (henv : EnvOK c cfg) (hloop : LoopCase c P loops) :
    ∀ (n : Node) (code : List LInstr) (ctx : Ctx), Compiles P.consts cfg n code → Good loops n → Sim c P ctx n code :=
  fun n code ctx h hg => sim_iff.2 (simC henv hloop n code ctx h hg)
theorem simL {c : Cfg} {P : LProg} {cfg : CompCfg} {loops : Node → Prop} (henv : EnvOK c cfg) (hloop : LoopCase c P loops) :
    ∀ (ns : List Node) (code : List LInstr) (ctx : Ctx), CompilesL P.consts cfg ns code → GoodL loops ns → SimL c P ctx ns code :=
  fun ns code ctx h hg => simL_iff.2 (simCL henv hloop ns code ctx h hg)
theorem simP {c : Cfg} {P : LProg} {cfg : CompCfg} {loops : Node → Prop} (henv : EnvOK c cfg) (hloop : LoopCase c P loops) :
    ∀ (ns : List Node) (code : List LInstr) (ctx : Ctx), CompilesL P.consts cfg ns code → GoodP loops ns → SimL c P ctx ns code :=
  fun ns code ctx h hg => simL_iff.2 (simCP henv hloop ns code ctx h hg)

end ExprModel.Refine
