import ExprModel.Walk.Patch
/-
The walker model (C10, C17; C13 takes the induction principle), independent of the generated tables.  The walker with
the complete table is the walker over `children` / `withChildren` (`walk_ref_eq_walkU`); everything downstream is about
`walkU`.  Every traversal proof starts from: a fold over a tree is its function applied to the folds of the children
(`foldN_eq`), induction on the children under a height bound (`Node.induction_fuel`), and that such an equation
determines the function (`Node.fun_unique`; hence fold fusion, `foldN_fusion`: how one fold is read off another, e.g.
pre-order off the event trace).
-/
namespace ExprModel
open Node

theorem foldL_eq_map {α : Type} (f : Node → List α → α) (xs : List Node) : foldL f xs = xs.map (foldN f) := by
  induction xs with
  | nil => rfl
  | cons c cs ih => exact congrArg (foldN f c :: ·) ih

theorem foldO_eq_map {α : Type} (f : Node → List α → α) (o : Option Node) : foldO f o = o.toList.map (foldN f) := by
  cases o <;> rfl

theorem foldN_eq {α : Type} (f : Node → List α → α) (n : Node) : foldN f n = f n (n.children.map (foldN f)) := by
  cases n with
  | slice m x fr t => cases fr <;> cases t <;> rfl
  | method m x nm a s => exact congrArg (fun l => f _ (foldN f x :: l)) (foldL_eq_map f a)
  | func m nm a fa => exact congrArg (f _) (foldL_eq_map f a)
  | builtin m nm a => exact congrArg (f _) (foldL_eq_map f a)
  | array m a => exact congrArg (f _) (foldL_eq_map f a)
  | map m a => exact congrArg (f _) (foldL_eq_map f a)
  | _ => rfl

section
variable {σ : Type}

local macro "split_walks" rec:ident : tactic => `(tactic|
  repeat
    first
    | rfl
    | (generalize $rec _ _ = r; rcases r with _ | ⟨c, s1⟩ <;> simp [withChildren])
    | (generalize walkList $rec _ _ = r; rcases r with _ | ⟨c, s1⟩ <;> simp [withChildren]))

/-- `F` is whatever is built from the walked children (`fun ks => .method m x' nm ks s`, …): `walkSlots` is a chain of
    such matches, one per slot, and rewriting with this peels the children off the list walk on the other side until
    both sides are the same chain. -/
theorem walkList_cons_then (rec : Node → σ → Option (Node × σ)) (c : Node) (cs : List Node) (s : σ)
    (F : List Node → Node) :
    (match walkList rec (c :: cs) s with
      | none => none
      | some (ks, s') => some (F ks, s')) =
    match rec c s with
    | none => none
    | some (c', s1) =>
      match walkList rec cs s1 with
      | none => none
      | some (ks, s') => some (F (c' :: ks), s') := by
  simp only [walkList]
  cases rec c s with
  | none => rfl
  | some p =>
    obtain ⟨c', s1⟩ := p
    simp only
    cases walkList rec cs s1 <;> rfl

theorem walkSlots_ref (rec : Node → σ → Option (Node × σ)) (n : Node) (s : σ) :
    walkSlots rec (refSlots n.nk) n s =
      match walkList rec n.children s with
      | none => none
      | some (ks, s') => some (n.withChildren ks, s') := by
  cases n with
  | slice m x f t =>
    cases f <;> cases t <;>
      simp only [children, Option.toList, List.append_nil, List.nil_append, List.cons_append, walkList_cons_then] <;>
      rfl
  | _ => simp only [children, walkList_cons_then] <;> rfl

theorem walk_ref_eq_walkU (v : Visitor σ) (fuel : Nat) : walk refSlots v fuel = walkU v fuel := by
  induction fuel with
  | zero => funext n s; rfl
  | succ f ih =>
    funext n s
    simp only [walk, walkU, ih, walkSlots_ref]
    cases walkList (walkU v f) (v.enter n s).1.children (v.enter n s).2 <;> rfl

theorem height_eq (n : Node) : n.height = (n.children.map height).foldr max 0 + 1 := by
  show foldN _ n = _
  rw [foldN_eq]; rfl

theorem trace_eq (n : Node) : n.trace = .enter n :: ((n.children.map trace).flatten ++ [.exit n]) := by
  show foldN _ n = _
  rw [foldN_eq]; rfl

theorem preorder_eq (n : Node) : n.preorder = n :: (n.children.map preorder).flatten := by
  show foldN _ n = _
  rw [foldN_eq]; rfl

theorem postorder_eq (n : Node) : n.postorder = (n.children.map postorder).flatten ++ [n] := by
  show foldN _ n = _
  rw [foldN_eq]; rfl

theorem size_eq (n : Node) : n.size = (n.children.map size).sum + 1 := by
  show foldN _ n = _
  rw [foldN_eq]; rfl

theorem le_foldr_max {α : Type} (f : α → Nat) (c : α) (cs : List α) (h : c ∈ cs) :
    f c ≤ (cs.map f).foldr max 0 := by
  induction cs with
  | nil => cases h
  | cons d ds ih =>
    simp only [List.mem_cons] at h
    simp only [List.map_cons, List.foldr_cons]
    rcases h with rfl | h
    · omega
    · have := ih h; omega

theorem height_pos (n : Node) : 0 < n.height := by rw [height_eq]; omega

theorem height_lt_of_mem_children {c n : Node} (h : c ∈ n.children) : c.height < n.height := by
  rw [height_eq n]
  have := le_foldr_max height c _ h
  omega

/-- `P` is indexed by the fuel because `walkU v (f + 1)` runs `walkU v f` on the children: the hypothesis about a child
    is needed at exactly `f`, not at some sufficient fuel. -/
theorem Node.induction_fuel {P : Nat → Node → Prop}
    (step : ∀ f n, (∀ c ∈ n.children, P f c) → P (f + 1) n) : ∀ f n, n.height ≤ f → P f n := by
  intro f
  induction f with
  | zero => intro n h; have := height_pos n; omega
  | succ f ih =>
    intro n h
    refine step f n fun c hc => ih c ?_
    have := height_lt_of_mem_children hc
    omega

theorem Node.induction_children {P : Node → Prop} (step : ∀ n, (∀ c ∈ n.children, P c) → P n) (n : Node) : P n :=
  Node.induction_fuel (P := fun _ => P) (fun _ => step) n.height n (Nat.le_refl _)

theorem Node.fun_unique {β : Type} (step : Node → List β → β) {F G : Node → β}
    (hF : ∀ n, F n = step n (n.children.map F)) (hG : ∀ n, G n = step n (n.children.map G)) (n : Node) : F n = G n := by
  induction n using Node.induction_children with
  | step n ih => rw [hF, hG, List.map_congr_left ih]

theorem foldN_fusion {α β : Type} (h : α → β) {f : Node → List α → α} {f' : Node → List β → β}
    (hf : ∀ n rs, h (f n rs) = f' n (rs.map h)) : ∀ n, h (foldN f n) = foldN f' n :=
  Node.fun_unique f' (fun n => by rw [foldN_eq, hf, List.map_map]; rfl) (foldN_eq f')

theorem withChildren_children (n : Node) : n.withChildren n.children = n := by
  cases n with
  | slice m x f t => rcases f with _ | f <;> rcases t with _ | t <;> rfl
  | _ => rfl

theorem children_withChildren (n : Node) (ks : List Node) (h : ks.length = n.children.length) :
    (n.withChildren ks).children = ks := by
  cases n with
  | slice m x f t =>
    cases f <;> cases t <;>
      rcases ks with _ | ⟨a, _ | ⟨b, _ | ⟨c, _ | ⟨d, ks⟩⟩⟩⟩ <;> first | rfl | cases h
  | _ =>
    rcases ks with _ | ⟨a, _ | ⟨b, _ | ⟨c, _ | ⟨d, ks⟩⟩⟩⟩ <;> first | rfl | cases h

theorem withChildren_nk (n : Node) (ks : List Node) : (n.withChildren ks).nk = n.nk := by
  unfold withChildren
  split <;> rfl

theorem withChildren_getMeta (n : Node) (ks : List Node) : (n.withChildren ks).getMeta = n.getMeta := by
  unfold withChildren
  split <;> rfl

theorem bottomUpL_eq_map (g : Node → Node) (xs : List Node) : bottomUpL g xs = xs.map (bottomUp g) := by
  induction xs with
  | nil => rfl
  | cons c cs ih => exact congrArg (bottomUp g c :: ·) ih

theorem bottomUp_eq (g : Node → Node) (n : Node) :
    bottomUp g n = g (n.withChildren (n.children.map (bottomUp g))) := by
  cases n with
  | slice m x f t => cases f <;> cases t <;> rfl
  | method m x nm a s => exact congrArg (fun l => g (.method m (bottomUp g x) nm l s)) (bottomUpL_eq_map g a)
  | func m nm a f => exact congrArg (fun l => g (.func m nm l f)) (bottomUpL_eq_map g a)
  | builtin m nm a => exact congrArg (fun l => g (.builtin m nm l)) (bottomUpL_eq_map g a)
  | array m a => exact congrArg (fun l => g (.array m l)) (bottomUpL_eq_map g a)
  | map m a => exact congrArg (fun l => g (.map m l)) (bottomUpL_eq_map g a)
  | _ => rfl

theorem Node.getMeta_withMeta (n : Node) (m : Meta) : (n.withMeta m).getMeta = m := by
  cases n <;> rfl

theorem Node.nk_withMeta (n : Node) (m : Meta) : (n.withMeta m).nk = n.nk := by
  cases n <;> rfl

theorem Node.children_withMeta (n : Node) (m : Meta) : (n.withMeta m).children = n.children := by
  cases n <;> rfl

theorem Node.withMeta_withMeta (n : Node) (m m' : Meta) : (n.withMeta m).withMeta m' = n.withMeta m' := by
  cases n <;> rfl

theorem Node.withMeta_getMeta_self (n : Node) : n.withMeta n.getMeta = n := by
  cases n <;> rfl

theorem walkList_cons (rec : Node → σ → Option (Node × σ)) (c : Node) (cs : List Node) (s : σ) (r : List Node × σ) :
    walkList rec (c :: cs) s = some r ↔
      ∃ c' s1 cs' s2, rec c s = some (c', s1) ∧ walkList rec cs s1 = some (cs', s2) ∧ r = (c' :: cs', s2) := by
  constructor
  · intro h
    simp only [walkList] at h
    cases h1 : rec c s with
    | none => simp [h1] at h
    | some p =>
      obtain ⟨c', s1⟩ := p
      cases h2 : walkList rec cs s1 with
      | none => simp [h1, h2] at h
      | some q =>
        obtain ⟨cs', s2⟩ := q
        simp only [h1, h2, Option.some.injEq] at h
        exact ⟨c', s1, cs', s2, rfl, h2, h.symm⟩
  · rintro ⟨c', s1, cs', s2, h1, h2, rfl⟩
    simp only [walkList, h1, h2]

theorem walkList_length (rec : Node → σ → Option (Node × σ)) (cs : List Node) (s : σ) (ks : List Node) (s' : σ)
    (h : walkList rec cs s = some (ks, s')) : ks.length = cs.length := by
  induction cs generalizing s ks s' with
  | nil => simp [walkList] at h; simp [h.1]
  | cons c cs ih =>
    rw [walkList_cons] at h
    obtain ⟨c', s1, cs', s2, _, h2, h3⟩ := h
    cases h3
    simp [ih _ _ _ h2]

@[simp] theorem logged_enter (v : Visitor σ) (n : Node) (s : σ) (log : List Event) :
    v.logged.enter n (s, log) = ((v.enter n s).1, ((v.enter n s).2, log ++ [.enter n])) := rfl

@[simp] theorem logged_exit (v : Visitor σ) (n : Node) (s : σ) (log : List Event) :
    v.logged.exit n (s, log) = ((v.exit n s).1, ((v.exit n s).2, log ++ [.exit n])) := rfl

theorem walkU_succ (v : Visitor σ) (f : Nat) (n : Node) (s : σ) :
    walkU v (f + 1) n s =
      match walkList (walkU v f) (v.enter n s).1.children (v.enter n s).2 with
      | none => none
      | some (ks, s2) => some (v.exit ((v.enter n s).1.withChildren ks) s2) := rfl

end

end ExprModel
