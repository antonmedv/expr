import ExprModel.Proofs.SpecCong
/-
C02: the relation between an optimised and an unoptimised evaluation.  The optimizer removes allocations (constant sets,
ranges, folded literals), so the optimised evaluation has counted *less* against the memory budget.  `OutLe a b`
(optimised `a`, original `b`): either the original ran out of budget (nothing is claimed: known finding
`c02:budget-differs`), or both have the same result and the optimised counter is not above the original one.  The call
log is not compared (a ConstExpr call is made at compile time; purity of such functions is the user's promise).
-/
namespace ExprModel
namespace OptProofs
open Spec

def OutLe {α : Type} (a b : R α × SState) : Prop :=
  b.1 = .error .budget ∨ (a.1 = b.1 ∧ a.2.memory ≤ b.2.memory)

/-- `m'` (optimised) simulates `m` (original) from every pair of states ordered by the counter -/
def RelM {α : Type} (m' m : SM α) : Prop :=
  ∀ s' s : SState, s'.memory ≤ s.memory → OutLe (m' s') (m s)

theorem OutLe.trans {α : Type} {a b c : R α × SState} (h1 : OutLe a b) (h2 : OutLe b c) : OutLe a c := by
  rcases h2 with h2 | ⟨h2, h2m⟩
  · exact .inl h2
  · rcases h1 with h1 | ⟨h1, h1m⟩
    · exact .inl (by rw [← h2]; exact h1)
    · exact .inr ⟨h1.trans h2, Int.le_trans h1m h2m⟩

theorem RelM.trans {α : Type} {m₁ m₂ m₃ : SM α} (h1 : RelM m₁ m₂) (h2 : RelM m₂ m₃) : RelM m₁ m₃ :=
  fun s' s hs => (h1 s' s' (Int.le_refl _)).trans (h2 s' s hs)

/-- `RelM.bind` with the provenance of the bound value: it is a value the *original* computation produced -/
theorem RelM.bind_of {α β : Type} {m' m : SM α} {f' f : α → SM β}
    (h : RelM m' m) (hf : ∀ a, (∃ s t, m s = (.ok a, t)) → RelM (f' a) (f a)) : RelM (m' >>= f') (m >>= f) := by
  intro s' s hs
  have h0 := h s' s hs
  rw [Spec.SM.bind_apply, Spec.SM.bind_apply]
  rcases hm : m s with ⟨r, t⟩
  rcases hm' : m' s' with ⟨r', t'⟩
  rw [hm, hm'] at h0
  rcases h0 with h0 | ⟨h0, h0m⟩
  · simp only at h0; subst h0; exact .inl rfl
  · simp only at h0 h0m; subst h0
    cases r' with
    | ok a => exact hf a ⟨s, t, hm⟩ t' t h0m
    | error e => exact .inr ⟨rfl, h0m⟩

theorem RelM.bind {α β : Type} {m' m : SM α} {f' f : α → SM β}
    (h : RelM m' m) (hf : ∀ a, RelM (f' a) (f a)) : RelM (m' >>= f') (m >>= f) :=
  h.bind_of fun a _ => hf a

theorem RelM.pure {α : Type} (a : α) : RelM (pure a : SM α) (pure a) :=
  fun _ _ hs => .inr ⟨rfl, hs⟩

theorem RelM.fail {α : Type} (e : ErrClass) : RelM (SM.fail e : SM α) (SM.fail e) :=
  fun _ _ hs => .inr ⟨rfl, hs⟩

theorem RelM.lift {α : Type} (r : R α) : RelM (SM.lift r) (SM.lift r) := by
  cases r with
  | ok a => exact RelM.pure a
  | error e => exact RelM.fail e

theorem RelM.logCall (n : String) (as : List Val) : RelM (SM.logCall n as) (SM.logCall n as) :=
  fun _ _ hs => .inr ⟨rfl, hs⟩

theorem RelM.allocAfter (limit counted : Int) (built : Nat) :
    RelM (SM.allocAfter limit counted built) (SM.allocAfter limit counted built) := by
  intro s' s hs
  simp only [SM.allocAfter]
  by_cases h : s.memory + counted ≥ limit
  · exact .inl (by simp [h])
  · have h' : ¬ (s'.memory + counted ≥ limit) := by omega
    refine .inr ⟨by simp [h, h'], ?_⟩
    simp [h, h']; omega

theorem RelM.allocBefore (limit counted : Int) (built : Nat) :
    RelM (SM.allocBefore limit counted built) (SM.allocBefore limit counted built) := by
  intro s' s hs
  simp only [SM.allocBefore]
  by_cases h : s.memory + counted ≥ limit
  · exact .inl (by simp [h])
  · have h' : ¬ (s'.memory + counted ≥ limit) := by omega
    refine .inr ⟨by simp [h, h'], ?_⟩
    simp [h, h']; omega

theorem RelM.skip_allocAfter {α : Type} (limit counted : Int) (built : Nat) (hc : 0 ≤ counted) {m' m : SM α}
    (h : RelM m' m) : RelM m' (SM.allocAfter limit counted built >>= fun _ => m) := by
  intro s' s hs
  rw [Spec.SM.bind_apply]
  simp only [SM.allocAfter]
  by_cases hb : s.memory + counted ≥ limit
  · exact .inl (by simp [hb])
  · simp only [hb, if_false]
    exact h s' _ (by simp; omega)

theorem RelM.skip_allocBefore {α : Type} (limit counted : Int) (built : Nat) (hc : 0 ≤ counted) {m' m : SM α}
    (h : RelM m' m) : RelM m' (SM.allocBefore limit counted built >>= fun _ => m) := by
  intro s' s hs
  rw [Spec.SM.bind_apply]
  simp only [SM.allocBefore]
  by_cases hb : s.memory + counted ≥ limit
  · exact .inl (by simp [hb])
  · simp only [hb, if_false]
    exact h s' _ (by simp; omega)

/-- `noAlloc`: a computation that leaves the counter alone carries the order of the counters through -/
def relMRel : EvalRel where
  R := RelM
  noAlloc := fun h s' s hs => .inr ⟨h.result s' s, by rw [(h.counters s').1, (h.counters s).1]; exact hs⟩
  bind := RelM.bind

theorem relMRel_allocs (c : SCfg) : relMRel.Allocs c c.budget :=
  ⟨fun _ => RelM.allocAfter _ _ _, fun _ _ => RelM.allocBefore _ _ _⟩

end OptProofs
end ExprModel
