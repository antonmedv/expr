import ExprModel.Proofs.RefinePool
/-
C01: the `AliasFree` / `FloatsIn` hypotheses as one *computable* check on the tree.
`floatsOK n`: the only float constants of the tree are float literals (no float-typed integer literal, no
float `ConstantNode`), and no two literals with different bit patterns are `==` (i.e. not `0.0` with `-0.0`).
-/
namespace ExprModel.Refine
open ExprModel

mutual
def floatBits : Node → List UInt64
  | .float _ bits => [bits]
  | .nil _ | .ident .. | .int .. | .bool .. | .str .. | .const .. | .pointer _ => []
  | .unary _ _ x => floatBits x
  | .binary _ _ l r => floatBits l ++ floatBits r
  | .matches _ _ l r => floatBits l ++ floatBits r
  | .prop _ x _ _ => floatBits x
  | .index _ x i => floatBits x ++ floatBits i
  | .slice _ x f t => floatBits x ++ (floatBitsO f ++ floatBitsO t)
  | .method _ x _ args _ => floatBits x ++ floatBitsL args
  | .func _ _ args _ => floatBitsL args
  | .builtin _ _ args => floatBitsL args
  | .closure _ x => floatBits x
  | .cond _ c a b => floatBits c ++ (floatBits a ++ floatBits b)
  | .array _ xs => floatBitsL xs
  | .map _ ps => floatBitsL ps
  | .pair _ k v => floatBits k ++ floatBits v
def floatBitsO : Option Node → List UInt64
  | none => []
  | some n => floatBits n
def floatBitsL : List Node → List UInt64
  | [] => []
  | n :: ns => floatBits n ++ floatBitsL ns
end

mutual
def noOtherFloats : Node → Bool
  | .int m v => !isFloatVal (intConst m.kd v)
  | .const _ v => !isFloatVal v
  | .nil _ | .ident .. | .float .. | .bool .. | .str .. | .pointer _ => true
  | .unary _ _ x => noOtherFloats x
  | .binary _ _ l r => noOtherFloats l && noOtherFloats r
  | .matches _ _ l r => noOtherFloats l && noOtherFloats r
  | .prop _ x _ _ => noOtherFloats x
  | .index _ x i => noOtherFloats x && noOtherFloats i
  | .slice _ x f t => noOtherFloats x && (noOtherFloatsO f && noOtherFloatsO t)
  | .method _ x _ args _ => noOtherFloats x && noOtherFloatsL args
  | .func _ _ args _ => noOtherFloatsL args
  | .builtin _ _ args => noOtherFloatsL args
  | .closure _ x => noOtherFloats x
  | .cond _ c a b => noOtherFloats c && (noOtherFloats a && noOtherFloats b)
  | .array _ xs => noOtherFloatsL xs
  | .map _ ps => noOtherFloatsL ps
  | .pair _ k v => noOtherFloats k && noOtherFloats v
def noOtherFloatsO : Option Node → Bool
  | none => true
  | some n => noOtherFloats n
def noOtherFloatsL : List Node → Bool
  | [] => true
  | n :: ns => noOtherFloats n && noOtherFloatsL ns
end

def bitsAliasFree (bs : List UInt64) : Bool :=
  bs.all fun x => bs.all fun y => !(Float.ofBits x == Float.ofBits y) || x == y

def floatsOK (n : Node) : Bool := noOtherFloats n && bitsAliasFree (floatBits n)

def LitIn (L : List UInt64) (v : Val) : Prop := ∃ b ∈ L, v = .f64 (Float.ofBits b)

theorem aliasFree_of_bits {L : List UInt64} (h : bitsAliasFree L = true) : AliasFree (LitIn L) := by
  rintro a b ⟨x, hx, rfl⟩ ⟨y, hy, rfl⟩ hk
  simp only [bitsAliasFree, List.all_eq_true] at h
  have := h x hx y hy
  simp only [constKeyEq] at hk
  simp only [hk, Bool.not_true, Bool.false_or, beq_iff_eq] at this
  rw [this]

theorem floats_split {L : List UInt64} {a b : Bool} {xs ys : List UInt64} (h : (a && b) = true)
    (hb : ∀ x ∈ xs ++ ys, x ∈ L) : (a = true ∧ ∀ x ∈ xs, x ∈ L) ∧ (b = true ∧ ∀ x ∈ ys, x ∈ L) :=
  have h' := Bool.and_eq_true_iff.1 h
  ⟨⟨h'.1, fun x hx => hb x (List.mem_append_left _ hx)⟩, ⟨h'.2, fun x hx => hb x (List.mem_append_right _ hx)⟩⟩

mutual
theorem floatsIn_of (L : List UInt64) : ∀ (n : Node), noOtherFloats n = true → (∀ b ∈ floatBits n, b ∈ L) →
    FloatsIn (LitIn L) n
  | .nil _, _, _ | .ident .., _, _ | .bool .., _, _ | .str .., _, _ | .pointer _, _, _ => trivial
  | .int m v, h, _ => fun hf => by
      have : isFloatVal (intConst m.kd v) = false := by simpa [noOtherFloats] using h
      rw [this] at hf; cases hf
  | .const m v, h, _ => fun hf => by
      have : isFloatVal v = false := by simpa [noOtherFloats] using h
      rw [this] at hf; cases hf
  | .float _ bits, _, hb => ⟨bits, hb bits (List.mem_singleton.2 rfl), rfl⟩
  | .unary _ _ x, h, hb | .prop _ x _ _, h, hb | .closure _ x, h, hb => floatsIn_of L x h hb
  | .binary _ _ l r, h, hb | .matches _ _ l r, h, hb | .index _ l r, h, hb | .pair _ l r, h, hb =>
      have ⟨⟨h1, b1⟩, h2, b2⟩ := floats_split h hb
      ⟨floatsIn_of L l h1 b1, floatsIn_of L r h2 b2⟩
  | .slice _ x f t, h, hb =>
      have ⟨⟨h1, b1⟩, h', b'⟩ := floats_split h hb
      have ⟨⟨h2, b2⟩, h3, b3⟩ := floats_split h' b'
      ⟨floatsIn_of L x h1 b1, floatsInO_of L f h2 b2, floatsInO_of L t h3 b3⟩
  | .method _ x _ args _, h, hb =>
      have ⟨⟨h1, b1⟩, h2, b2⟩ := floats_split h hb
      ⟨floatsIn_of L x h1 b1, floatsInL_of L args h2 b2⟩
  | .func _ _ args _, h, hb | .builtin _ _ args, h, hb | .array _ args, h, hb | .map _ args, h, hb =>
      floatsInL_of L args h hb
  | .cond _ c a b, h, hb =>
      have ⟨⟨h1, b1⟩, h', b'⟩ := floats_split h hb
      have ⟨⟨h2, b2⟩, h3, b3⟩ := floats_split h' b'
      ⟨floatsIn_of L c h1 b1, floatsIn_of L a h2 b2, floatsIn_of L b h3 b3⟩
theorem floatsInO_of (L : List UInt64) : ∀ (n : Option Node), noOtherFloatsO n = true → (∀ b ∈ floatBitsO n, b ∈ L) →
    FloatsInO (LitIn L) n
  | none, _, _ => trivial
  | some n, h, hb => floatsIn_of L n h hb
theorem floatsInL_of (L : List UInt64) : ∀ (ns : List Node), noOtherFloatsL ns = true → (∀ b ∈ floatBitsL ns, b ∈ L) →
    FloatsInL (LitIn L) ns
  | [], _, _ => trivial
  | n :: ns, h, hb =>
      have ⟨⟨h1, b1⟩, h2, b2⟩ := floats_split h hb
      ⟨floatsIn_of L n h1 b1, floatsInL_of L ns h2 b2⟩
end

theorem floatsOK_spec {n : Node} (h : floatsOK n = true) :
    AliasFree (LitIn (floatBits n)) ∧ FloatsIn (LitIn (floatBits n)) n := by
  simp only [floatsOK, Bool.and_eq_true] at h
  exact ⟨aliasFree_of_bits h.2, floatsIn_of _ n h.1 (fun _ hb => hb)⟩

end ExprModel.Refine
