import ExprModel.Proofs.RefineLoopAll
import ExprModel.Proofs.RefineFloats
import ExprModel.Api.Pipeline
import ExprModel.Proofs.OptRules
/-
C01: three concrete instances of the hypotheses of the refinement theorems.  First
`all(1..3, {# > 0 and I == 1})`: a loop builtin over a range, a closure with the pointer `#`, a
short-circuit connective, an environment identifier, a specialised comparison; then a loop-free tree (`exTreeA`) and
a typed source that the optimizer rewrites (`exTyped`).
-/
namespace ExprModel.C01
open ExprModel ExprModel.Refine ExprModel.Spec

def m0 : Meta := {}
def exTree : Node :=
  .builtin m0 "all" [.binary m0 ".." (.int m0 1) (.int m0 3),
    .closure m0 (.binary m0 "and" (.binary m0 ">" (.pointer m0) (.int m0 0))
      (.binary m0 "==" (.ident m0 "I" false) (.int m0 1)))]

def exCompiled : Compiled :=
  match compileProgram {} exTree with
  | .ok cp => cp
  | .error _ => default

theorem ex_compiles : compileProgram {} exTree = .ok exCompiled := by
  unfold exCompiled
  rfl

instance (code : List LInstr) : Decidable (FitsU16 code) := by unfold FitsU16; exact inferInstance

theorem ex_fits : FitsU16 exCompiled.code := by decide

theorem eval_rng {sc : SCfg} {ctx : Ctx} {σ σ' : SState} {coll : Val}
    (h : eval sc ctx (.binary m0 ".." (.int m0 1) (.int m0 3)) σ = (.ok coll, σ')) :
    coll = .arr (.num .int) (rangeElems 1 3) := by
  rw [OptProofs.eval_range_lits ctx m0 m0 m0 1 3 ⟨rfl, by decide⟩ ⟨rfl, by decide⟩] at h
  rcases SM.bind_cases h with ⟨e, _, he⟩ | ⟨_, _, _, h2⟩
  · cases he
  · cases h2
    rfl

theorem ex_small (c : Cfg) : SmallColl c (.binary m0 ".." (.int m0 1) (.int m0 3)) := by
  intro ctx σ coll σ1 len hev hlen
  rw [eval_rng hev] at hlen
  cases hlen
  decide

theorem ex_good (c : Cfg) : Good (SmallColl c) exTree :=
  ⟨.inr (ex_small c), ⟨trivial, trivial⟩, ⟨⟨trivial, trivial⟩, ⟨trivial, trivial⟩⟩, trivial⟩

theorem ex_floats : FloatsIn (fun _ => False) exTree := by
  refine ⟨⟨?_, ?_⟩, ⟨⟨⟨trivial, ?_⟩, ⟨trivial, ?_⟩⟩, trivial⟩⟩ <;> (intro h; exact absurd h (by decide))

theorem ex_floatsOK : floatsOK exTree = true := by decide

/-! a loop-free instance (`compile_correct_stageA`, `run_conforms_stageA`): `I == 1 and (B ? "x" : [I, 2][0])` -/

def exTreeA : Node :=
  .binary m0 "and" (.binary m0 "==" (.ident m0 "I" false) (.int m0 1))
    (.cond m0 (.ident m0 "B" false) (.str m0 "x")
      (.index m0 (.array m0 [.ident m0 "I" false, .int m0 2]) (.int m0 0)))

def exCompiledA : Compiled :=
  match compileProgram {} exTreeA with
  | .ok cp => cp
  | .error _ => default

theorem exA_compiles : compileProgram {} exTreeA = .ok exCompiledA := by
  unfold exCompiledA
  rfl

theorem exA_fits : FitsU16 exCompiledA.code := by decide

theorem exA_good : Good (fun _ => False) exTreeA :=
  ⟨⟨trivial, trivial⟩, trivial, trivial, ⟨⟨trivial, trivial, trivial⟩, trivial⟩⟩

theorem exA_floats : FloatsIn (fun _ => False) exTreeA := by
  refine ⟨⟨trivial, ?_⟩, trivial, trivial, ⟨⟨trivial, ?_, trivial⟩, ?_⟩⟩ <;> (intro h; exact absurd h (by decide))

/-! a typed instance: environment `struct { I int; B bool }`, optimizer on, `AsBool`; the parse tree of
`I in 1..3 and not B` — accepted by the checker, rewritten by the optimizer (`in_range`), compiled -/

def exT : Api.TypedCfg :=
  { check := { types := some [("I", { ty := some (.num .int) }), ("B", { ty := some .bool })], strict := true, expect := .bool },
    mapEnv := false }

def mkAt (l c : Nat) : Meta := { loc := ⟨l, c⟩ }

def exParsed : Node :=
  .binary (mkAt 1 10) "and"
    (.binary (mkAt 1 2) "in" (.ident (mkAt 1 0) "I" false) (.binary (mkAt 1 6) ".." (.int (mkAt 1 5) 1) (.int (mkAt 1 8) 3)))
    (.unary (mkAt 1 14) "not" (.ident (mkAt 1 18) "B" false))

def exTyped (w : World) : Compiled × Node × Node :=
  match Api.middle exT w exParsed with
  | .ok cp ch fin => (cp, ch, fin)
  | _ => default

def w0 : World := { call := fun _ _ => .error .call, regexMatch := fun _ _ => none, pow := fun a _ => a }

theorem exTyped_ok : Api.middle exT w0 exParsed = .ok (exTyped w0).1 (exTyped w0).2.1 (exTyped w0).2.2 := by
  unfold exTyped
  rfl

theorem exTyped_fits : FitsU16 (exTyped w0).1.code := by decide

/-- the tree handed to the compiler: `I >= 1 and I <= 3 and not B`, annotated -/
def exFinal : Node :=
  .binary ⟨⟨1, 10⟩, .bool⟩ "and"
    (.binary ⟨⟨1, 2⟩, .bool⟩ "and"
      (.binary {} ">=" (.ident ⟨⟨1, 0⟩, .num .int⟩ "I" false) (.int ⟨⟨1, 5⟩, .num .int⟩ 1))
      (.binary {} "<=" (.ident ⟨⟨1, 0⟩, .num .int⟩ "I" false) (.int ⟨⟨1, 8⟩, .num .int⟩ 3)))
    (.unary ⟨⟨1, 14⟩, .bool⟩ "not" (.ident ⟨⟨1, 18⟩, .bool⟩ "B" false))

theorem exTyped_final : (exTyped w0).2.2 = exFinal := by rfl

theorem exTyped_floats : floatsOK (exTyped w0).2.2 = true := by
  rw [exTyped_final]
  decide

theorem exFinal_good (L : Node → Prop) : Good L exFinal :=
  ⟨⟨⟨trivial, trivial⟩, ⟨trivial, trivial⟩⟩, trivial⟩

/-- the optimizer did rewrite: the compiled tree is not the checked one -/
theorem exTyped_rewritten : (exTyped w0).2.2.kindName = "BinaryNode" ∧
    (match (exTyped w0).2.2 with | .binary _ "and" (.binary _ "and" _ _) _ => True | _ => False) := by
  rw [exTyped_final]
  exact ⟨rfl, trivial⟩

end ExprModel.C01
