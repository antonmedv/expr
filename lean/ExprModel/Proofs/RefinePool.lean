import ExprModel.Proofs.RefineCompiles
import ExprModel.Proofs.RefineCompileEqs
import ExprModel.Proofs.BcPool
/-
C01: the constant pool.  `mkConst` only appends or finds; an index it returns points at the expected constant
in every extension of the pool — *provided* the de-duplicating lookup, which compares float constants with `==`
(Go map-key equality: `+0 == -0`), never identifies two different floats of the tree (`AliasFree`).
`PoolT Inv p r Q`: if `r` succeeds from a pool `p` with `Inv`, the new pool has `Inv`, extends `p`, and `Q` holds of the
result in every constant array extending it — the rule for the compiler's pool-threading `Except` computations.
-/
namespace ExprModel.Refine
open ExprModel

def isFloatVal : Val → Bool
  | .f64 _ | .f32 _ => true
  | _ => false

def AliasFree (F : Val → Prop) : Prop := ∀ a b, F a → F b → constKeyEq a b = true → a = b

/-- `Bc.PoolExt p.consts K` by definition; each is passed where the other is asked for -/
def PoolExt (p : Pool) (K : Array Val) : Prop := ∀ (i : Nat) (v : Val), p.consts[i]? = some v → K[i]? = some v

theorem PoolExt.trans {p q : Pool} {K : Array Val} (h1 : PoolExt p q.consts) (h2 : PoolExt q K) : PoolExt p K :=
  Bc.PoolExt.trans h1 h2

theorem PoolExt.refl (p : Pool) : PoolExt p p.consts := Bc.PoolExt.refl _

theorem PoolExt.push (p : Pool) (v : Val) : PoolExt p (p.consts.push v) := Bc.PoolExt.push _ v

/-- `floats`: every float in the pool is one the tree may mention, so that `AliasFree F` applies to what the lookup of
    `makeConstant` can find.  `re`: a `*regexp.Regexp` is a pointer key of `c.index`, found again only by the MatchesNode
    that made it (`reOwner`, by location and pattern); its entry still points at the constant appended for it. -/
structure PoolInv (F : Val → Prop) (p : Pool) : Prop where
  floats : ∀ (i : Nat) (w : Val), p.consts[i]? = some w → isFloatVal w = true → F w
  re : ∀ o ∈ p.reOwner, p.consts[o.2.2]? = some (.regexp o.2.1)

theorem PoolInv.empty (F : Val → Prop) : PoolInv F {} := ⟨fun i w h => by simp at h, fun o h => by cases h⟩

/-- the conclusion of `PoolT (PoolInv F)` as a structure -/
structure CompOK (F : Val → Prop) (p p' : Pool) (Q : Array Val → Prop) : Prop where
  inv : PoolInv F p'
  ext : PoolExt p p'.consts
  comp : ∀ K, PoolExt p' K → Q K

theorem bind_ok {α β ε : Type} {x : Except ε α} {f : α → Except ε β} {b : β} :
    (x >>= f) = .ok b ↔ ∃ a, x = .ok a ∧ f a = .ok b := by
  cases x <;> simp [bind, Except.bind]

def PoolT (Inv : Pool → Prop) {α : Type} (p : Pool) (r : CR (α × Pool)) (Q : α → Array Val → Prop) : Prop :=
  ∀ a p', r = .ok (a, p') → Inv p → Inv p' ∧ PoolExt p p'.consts ∧ ∀ K, PoolExt p' K → Q a K

section
variable {Inv : Pool → Prop} {F : Val → Prop} {α β : Type} {p : Pool}

theorem PoolT.pure {a : α} {Q : α → Array Val → Prop} (h : ∀ K, Q a K) : PoolT Inv p (pure (a, p)) Q := by
  intro b p' e hinv
  cases e
  exact ⟨hinv, PoolExt.refl _, fun K _ => h K⟩

/-- the second computation may assume `Q a`, which holds in every later constant array; in a chain of binds these
    hypotheses reach the final `pure` innermost first -/
theorem PoolT.bind {x : CR (α × Pool)} {f : α × Pool → CR (β × Pool)} {Q : α → Array Val → Prop}
    {R : β → Array Val → Prop} (hx : PoolT Inv p x Q)
    (hf : ∀ a p1, PoolT Inv p1 (f (a, p1)) (fun b K => Q a K → R b K)) : PoolT Inv p (x >>= f) R := by
  intro b p2 e hinv
  obtain ⟨⟨a, p1⟩, e1, e2⟩ := bind_ok.1 e
  obtain ⟨i1, x1, c1⟩ := hx a p1 e1 hinv
  obtain ⟨i2, x2, c2⟩ := hf a p1 b p2 e2 i1
  exact ⟨i2, x1.trans x2, fun K hK => c2 K hK (c1 K (x2.trans hK))⟩

theorem PoolT.of_ok {x : CR (α × Pool)} {Q : α → Array Val → Prop} (h : ∀ r, x = .ok r → PoolT Inv p x Q) :
    PoolT Inv p x Q := fun a p' e => h _ e a p' e

theorem PoolT.mono {x : CR (α × Pool)} {Q R : α → Array Val → Prop} (h : PoolT Inv p x Q)
    (hq : ∀ a K, Q a K → R a K) : PoolT Inv p x R := fun a p' e hinv =>
  let ⟨i, x, c⟩ := h a p' e hinv
  ⟨i, x, fun K hK => hq a K (c K hK)⟩

theorem constKeyEq_exact {w v : Val} (h : constKeyEq w v = true) :
    (isFloatVal v = false → w = v) ∧ (isFloatVal v = true → isFloatVal w = true) := by
  -- per clause of `constKeyEq`: `==` on floats, equality elsewhere
  unfold constKeyEq at h
  split at h
  · exact ⟨fun _ => rfl, nofun⟩
  · exact ⟨fun _ => by rw [eq_of_beq h], nofun⟩
  · rw [Bool.and_eq_true] at h
    exact ⟨fun _ => by rw [eq_of_beq h.1, eq_of_beq h.2], nofun⟩
  · exact ⟨nofun, fun _ => rfl⟩
  · exact ⟨nofun, fun _ => rfl⟩
  · exact ⟨fun _ => by rw [eq_of_beq h], nofun⟩
  · rw [Bool.and_eq_true] at h
    exact ⟨fun _ => by rw [eq_of_beq h.1, eq_of_beq h.2], nofun⟩
  · cases h

theorem mkConst_exact (hF : AliasFree F) {v : Val} (hv : isFloatVal v = true → F v) :
    PoolT (PoolInv F) p (mkConst v p) (fun k K => K[k]? = some v) := by
  intro k p' h hinv
  rcases Bc.mkConst_cases h with ⟨rfl, w, hw, hk⟩ | ⟨rfl, rfl, _⟩
  · refine ⟨hinv, PoolExt.refl _, fun K hK => hK _ _ ?_⟩
    -- the constant found is `v` itself: outright when `v` is no float, by `AliasFree` when it is
    have hx := constKeyEq_exact hk
    cases hfv : isFloatVal v with
    | false => rw [hw, hx.1 hfv]
    | true => rw [hw, hF _ _ (hinv.floats k w hw (hx.2 hfv)) (hv hfv) hk]
  · have hext := PoolExt.push p v
    refine ⟨⟨fun i w hw hfw => ?_, fun o ho => hext _ _ (hinv.re o ho)⟩, hext, fun K hK => hK _ _ (by simp)⟩
    rw [Array.getElem?_push] at hw
    split at hw
    · cases hw; exact hv hfw
    · exact hinv.floats i w hw hfw

theorem mkRegexConst_exact (hF : AliasFree F) {owner : Loc} {pat : String} :
    PoolT (PoolInv F) p (mkRegexConst owner pat p) (fun k K => K[k]? = some (.regexp pat)) := by
  intro k p' h hinv
  rcases Bc.mkRegexConst_cases h with ⟨rfl, o, ho, rfl, rfl⟩ | ⟨p1, hm, rfl⟩
  · exact ⟨hinv, PoolExt.refl _, fun K hK => hK _ _ (hinv.re o ho)⟩
  · obtain ⟨inv, ext, hk⟩ := mkConst_exact (v := .regexp pat) hF nofun k p1 hm hinv
    have hk' := hk _ (PoolExt.refl _)
    refine ⟨⟨inv.floats, fun o ho => ?_⟩, ext, fun K hK => hK _ _ hk'⟩
    rcases List.mem_cons.1 ho with rfl | ho
    · exact hk'
    · exact inv.re o ho

end

structure PoolSpec (Inv : Pool → Prop) (F : Val → Prop) (C : Array Val → Nat → Val → Prop) : Prop where
  const : ∀ {v p}, (isFloatVal v = true → F v) → PoolT Inv p (mkConst v p) (fun k K => C K k v)
  re : ∀ {l pat p}, PoolT Inv p (mkRegexConst l pat p) (fun k K => C K k (.regexp pat))

theorem poolSpec_exact {F : Val → Prop} (hF : AliasFree F) : PoolSpec (PoolInv F) F (fun K k v => K[k]? = some v) :=
  ⟨mkConst_exact hF, mkRegexConst_exact hF⟩

/-- for facts about the shape of the code alone -/
theorem poolSpec_none : PoolSpec (fun _ => True) (fun _ => True) (fun _ _ _ => True) where
  const _ := fun _ _ e _ => ⟨trivial, Bc.mkConst_preserves e, fun _ _ => trivial⟩
  re := fun k p' e _ => by
    refine ⟨trivial, ?_, fun _ _ => trivial⟩
    rcases Bc.mkRegexConst_cases e with ⟨rfl, _⟩ | ⟨p1, hm, rfl⟩
    · exact PoolExt.refl _
    · exact fun i v hi => Bc.mkConst_preserves hm i v hi

mutual
/-- every float constant the compiler pools for the tree satisfies `F`.  Pooled is `intConst m.kd v`: an `.int` literal
    annotated with a float kind is pooled as a float, hence the `.int` clause. -/
def FloatsIn (F : Val → Prop) : Node → Prop
  | .nil _ | .ident .. | .bool .. | .str .. | .pointer _ => True
  | .int m v => isFloatVal (intConst m.kd v) = true → F (intConst m.kd v)
  | .float _ bits => F (.f64 (Float.ofBits bits))
  | .const _ v => isFloatVal v = true → F v
  | .unary _ _ x => FloatsIn F x
  | .binary _ _ l r => FloatsIn F l ∧ FloatsIn F r
  | .matches _ _ l r => FloatsIn F l ∧ FloatsIn F r
  | .prop _ x _ _ => FloatsIn F x
  | .index _ x i => FloatsIn F x ∧ FloatsIn F i
  | .slice _ x f t => FloatsIn F x ∧ FloatsInO F f ∧ FloatsInO F t
  | .method _ x _ args _ => FloatsIn F x ∧ FloatsInL F args
  | .func _ _ args _ => FloatsInL F args
  | .builtin _ _ args => FloatsInL F args
  | .closure _ x => FloatsIn F x
  | .cond _ c a b => FloatsIn F c ∧ FloatsIn F a ∧ FloatsIn F b
  | .array _ xs => FloatsInL F xs
  | .map _ ps => FloatsInL F ps
  | .pair _ k v => FloatsIn F k ∧ FloatsIn F v
def FloatsInO (F : Val → Prop) : Option Node → Prop
  | none => True
  | some n => FloatsIn F n
def FloatsInL (F : Val → Prop) : List Node → Prop
  | [] => True
  | n :: ns => FloatsIn F n ∧ FloatsInL F ns
end

theorem FloatsInL_cons (F : Val → Prop) (n : Node) (ns : List Node) : FloatsInL F (n :: ns) = (FloatsIn F n ∧ FloatsInL F ns) := rfl
theorem FloatsInO_some (F : Val → Prop) (n : Node) : FloatsInO F (some n) = FloatsIn F n := rfl

mutual
theorem FloatsIn.top : ∀ n : Node, FloatsIn (fun _ => True) n
  | .nil _ | .ident .. | .bool .. | .str .. | .pointer _ | .float .. => trivial
  | .int .. | .const .. => fun _ => trivial
  | .unary _ _ x | .prop _ x _ _ | .closure _ x => FloatsIn.top x
  | .binary _ _ l r | .matches _ _ l r | .index _ l r | .pair _ l r => ⟨FloatsIn.top l, FloatsIn.top r⟩
  | .slice _ x f t => ⟨FloatsIn.top x, FloatsInO.top f, FloatsInO.top t⟩
  | .method _ x _ args _ => ⟨FloatsIn.top x, FloatsInL.top args⟩
  | .func _ _ args _ | .builtin _ _ args | .array _ args | .map _ args => FloatsInL.top args
  | .cond _ c a b => ⟨FloatsIn.top c, FloatsIn.top a, FloatsIn.top b⟩
theorem FloatsInO.top : ∀ o : Option Node, FloatsInO (fun _ => True) o
  | none => trivial
  | some n => FloatsIn.top n
theorem FloatsInL.top : ∀ ns : List Node, FloatsInL (fun _ => True) ns
  | [] => trivial
  | n :: ns => ⟨FloatsIn.top n, FloatsInL.top ns⟩
end

end ExprModel.Refine
