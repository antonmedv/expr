import ExprModel.Proofs.VMHelpers
import ExprModel.Proofs.VMInv
/-
The postconditions of one `step`, which Proofs/VMStep.lean establishes: the budget accounting against `pending`
(Proofs/VMInv.lean; C06), the next `ip` against the operand bytes as they stand in the code (`Landed`, C13).
-/
namespace ExprModel

theorem pending_none {p : Prog} {s : VM} {op : Op} (hop : Op.ofCode? (p.code[s.ip]?.getD 255) = some op)
    (h1 : op ≠ .range) (h2 : op ≠ .array) (h3 : op ≠ .map) : pending p s = none := by
  unfold pending
  rw [hop]
  split
  · next h _ => exact absurd (Option.some.inj h) h1
  · next h _ => exact absurd (Option.some.inj h) h2
  · next h _ => exact absurd (Option.some.inj h) h3
  · rfl

theorem pending_in_range {p : Prog} {s : VM} {k : Nat} (h : pending p s = some k) : s.ip < p.code.size := by
  refine Nat.lt_of_not_ge fun hge => ?_
  unfold pending at h
  rw [opcode_oob hge] at h
  cases h

/-- what one successful step does to the accounting; `step` establishes it under `rangeSizeSigned = false` (`Done.acct`) -/
structure StepOk (p : Prog) (s s' : VM) : Prop where
  limit : s'.limit = s.limit
  delta : s'.memory - s.memory = (s'.created : Int) - (s.created : Int)
  /-- an allocating step has passed the budget test, any other creates nothing; of the latter `memory < limit` need
      not hold (a budget ≤ 0), hence the disjunction (it keeps C06's run invariant `created = 0 ∨ memory < limit`) -/
  below : s'.created = s.created ∨ s'.memory < s'.limit
  alloc : ∀ k, pending p s = some k → s'.created = s.created + k ∧ s'.memory < s'.limit

structure StepErr (p : Prog) (s : VM) (e : ErrClass) (s' : VM) : Prop where
  limit : s'.limit = s.limit
  delta : s'.memory - s.memory = (s'.created : Int) - (s.created : Int)
  mono : s.created ≤ s'.created
  budget : e = .budget → Refusal p s s'

theorem StepOk.ofFrame {p : Prog} {s s' : VM} (h : Frame s s') (hp : pending p s = none) : StepOk p s s' :=
  ⟨h.limit, by rw [h.memory, h.created]; omega, .inl h.created, fun k hk => by rw [hp] at hk; cases hk⟩

theorem StepOk.ofAlloc {p : Prog} {s s' : VM} {k : Nat} (hp : pending p s = some k) (hl : s'.limit = s.limit)
    (hm : s'.memory = s.memory + k) (hc : s'.created = s.created + k) (hlt : s'.memory < s'.limit) : StepOk p s s' :=
  ⟨hl, by rw [hm, hc]; omega, .inr hlt,
   fun k' hk' => by rw [hp] at hk'; injection hk' with hk'; subst hk'; exact ⟨hc, hlt⟩⟩

theorem StepErr.ofFrame {p : Prog} {s s' : VM} {e} (h : Frame s s') (he : e ≠ .budget) : StepErr p s e s' :=
  ⟨h.limit, by rw [h.memory, h.created]; omega, by rw [h.created]; exact Nat.le_refl _, fun hb => absurd hb he⟩

theorem StepErr.ofRefusal {p : Prog} {s s' : VM} {e} (hl : s'.limit = s.limit) (h : Refusal p s s') : StepErr p s e s' := by
  refine ⟨hl, ?_, ?_, fun _ => h⟩
  · cases h with
    | before k _ hm hc _ => rw [hm, hc]; omega
    | after k _ hm hc _ => rw [hm, hc]; omega
  · cases h with
    | before k _ _ hc _ => rw [hc]; exact Nat.le_refl _
    | after k _ _ hc _ => rw [hc]; omega

/-- where the step of `op` at `s` leaves `ip`, in terms of the code bytes: behind the instruction, whose size is the one
    `op` declares, or at the target of a jump -/
def Landed (p : Prog) (s : VM) (op : Op) (t : VM) : Prop :=
  t.ip = s.ip + 1 + cond op.hasArg 2 0 ∨
  (op.argClass = .jumpFwd ∧ t.ip = s.ip + 3 + argAt p (s.ip + 1)) ∨
  (op.argClass = .jumpBack ∧ argAt p (s.ip + 1) ≤ s.ip + 3 ∧ t.ip = s.ip + 3 - argAt p (s.ip + 1))

/-- `Done` for an opcode that does not allocate: the accounting fields do not move, whatever the variant of `OpRange` -/
structure Plain (p : Prog) (s : VM) (op : Op) (t : VM) : Prop where
  pp : t.pp = s.ip
  frame : Frame s t
  ip : Landed p s op t

/-- what a successful step of `op` at `s` leaves: the one postcondition of the walk over `step` (`step_done`) -/
structure Done (c : Cfg) (p : Prog) (s : VM) (op : Op) (t : VM) : Prop where
  pp : t.pp = s.ip
  ip : Landed p s op t
  /-- guarded for the reason given at `Reports.refused` -/
  acct : c.defects.rangeSizeSigned = false → StepOk p s t

theorem Plain.done {c : Cfg} {p : Prog} {s t : VM} {op : Op} (h : Plain p s op t) (hp : pending p s = none) :
    Done c p s op t :=
  ⟨h.pp, h.ip, fun _ => StepOk.ofFrame h.frame hp⟩

end ExprModel
