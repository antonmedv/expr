import ExprModel.Lex.Number
import ExprModel.Lex.Unescape
/-
The digit characters the spellings are written with, and what the standard tables, `digitOf`, `unhex`, `digitVal` and
an ASCII-exact classification say about single runes.
-/
namespace ExprModel.Lex

def decChar (d : Nat) : Char := Char.ofNat (48 + d)

def hexChar (d : Nat) (up : Bool) : Char :=
  Char.ofNat (if d < 10 then 48 + d else if up then 55 + d else 87 + d)

theorem digitOf_decChar : ∀ d, d < 10 → digitOf (decChar d) = some d := by decide
theorem digitOf_hexChar : ∀ d, d < 16 → ∀ up, digitOf (hexChar d up) = some d := by decide
theorem decChar_props : ∀ d, d < 10 → decChar d ≠ '_' ∧ decChar d ≠ '+' ∧ decChar d ≠ '-' ∧
    decChar d ≠ '.' ∧ decChar d ≠ 'e' ∧ decChar d ≠ 'E' ∧ decChar d ≠ 'x' ∧ decChar d ≠ 'X' := by decide
theorem hexChar_props : ∀ d, d < 16 → ∀ up, hexChar d up ≠ '_' ∧ hexChar d up ≠ '.' ∧
    hexChar d up ≠ 'x' ∧ hexChar d up ≠ 'X' := by decide
/-- the hexadecimal digit 14 is the letter the float test looks for -/
theorem hexChar_e : ∀ d, d < 16 → ∀ up, (hexChar d up = 'e' ∨ hexChar d up = 'E') ↔ d = 14 := by decide

theorem hexChar_facts : ∀ d, d < 16 → ∀ up,
    unhex (hexChar d up) = some d ∧ digitVal (hexChar d up) < 16 ∧
    hexChar d up ≠ '\r' ∧ hexChar d up ≠ '\n' := by decide

/-- An octal digit, for each of the three readers of a string literal: `scanString`, `unescapeChar`,
`normalizeNewlines` -/
theorem octChar_scan : ∀ d, d < 8 →
    digitVal (decChar d) < 8 ∧ decChar d ≠ '"' ∧ decChar d ≠ '\'' ∧
    LexTables.std.escSimple.contains (decChar d) = false ∧ LexTables.std.escOct.contains (decChar d) = true := by
  decide

theorem octChar_unesc : ∀ d, d < 8 →
    ('0' ≤ decChar d ∧ decChar d ≤ '7') ∧ (decChar d).toNat - 48 = d ∧
    lookup (decChar d) LexTables.std.unescSimple = none ∧ lookup (decChar d) LexTables.std.unescHex = none := by
  decide

theorem octChar_plain : ∀ d, d < 8 → decChar d ≠ '\r' ∧ decChar d ≠ '\n' := by decide

theorem octChar_lead : ∀ d, d < 4 → LexTables.std.unescOct.contains (decChar d) = true := by decide

theorem ascii_digit_cases {c : Char} (h : '0' ≤ c ∧ c ≤ '9') :
    c = '0' ∨ c = '1' ∨ c = '2' ∨ c = '3' ∨ c = '4' ∨ c = '5' ∨ c = '6' ∨ c = '7' ∨ c = '8' ∨ c = '9' := by
  have h1 : 48 ≤ c.toNat := by have := Char.le_def.mp h.1; exact this
  have h2 : c.toNat ≤ 57 := by have := Char.le_def.mp h.2; exact this
  have hc : c = Char.ofNat c.toNat := (Char.ofNat_toNat c).symm
  have : c.toNat = 48 ∨ c.toNat = 49 ∨ c.toNat = 50 ∨ c.toNat = 51 ∨ c.toNat = 52 ∨ c.toNat = 53 ∨
      c.toNat = 54 ∨ c.toNat = 55 ∨ c.toNat = 56 ∨ c.toNat = 57 := by omega
  rcases this with e | e | e | e | e | e | e | e | e | e <;> rw [hc, e] <;> decide

theorem decDigits_contains {c : Char} (h : '0' ≤ c ∧ c ≤ '9') : LexTables.std.decDigits.contains c = true := by
  rcases ascii_digit_cases h with rfl | rfl | rfl | rfl | rfl | rfl | rfl | rfl | rfl | rfl <;> decide

theorem decChar_digit : ∀ d, d < 10 → ('0' ≤ decChar d ∧ decChar d ≤ '9') := by decide
theorem hexChar_in_hexDigits : ∀ d, d < 16 → ∀ up, LexTables.std.hexDigits.contains (hexChar d up) = true := by decide

theorem dec_not_marks {c : Char} (h : LexTables.std.decDigits.contains c = true) :
    LexTables.std.hexMark.contains c = false ∧ LexTables.std.octMark.contains c = false ∧
    LexTables.std.binMark.contains c = false :=
  (by decide : ∀ y ∈ LexTables.std.decDigits, LexTables.std.hexMark.contains y = false ∧
    LexTables.std.octMark.contains y = false ∧ LexTables.std.binMark.contains y = false) c
    (List.contains_iff_mem.mp h)

/-- Below 128 an ASCII-exact classification agrees with `CharClass.ascii`, which evaluates on a given rune. -/
theorem space_ascii_eq {cc : CharClass} (hcc : cc.AsciiExact) {c : Char} (h : c.toNat < 128) :
    cc.isSpace c = CharClass.ascii.isSpace c :=
  (hcc.space c h).trans ((CharClass.ofRanges_asciiExact [] [] []).space c h).symm

theorem alnum_ascii_eq {cc : CharClass} (hcc : cc.AsciiExact) {c : Char} (h : c.toNat < 128) :
    cc.isAlphaNumeric c = CharClass.ascii.isAlphaNumeric c := by
  have ha := CharClass.ofRanges_asciiExact [] [] []
  simp only [CharClass.isAlphaNumeric, CharClass.isAlphabetic, hcc.letter c h, hcc.digit c h, CharClass.ascii,
    ha.letter c h, ha.digit c h]

theorem numberRunes_alnum {cc : CharClass} (hcc : cc.AsciiExact) {x : Char}
    (h : x ∈ LexTables.std.hexDigits ++ LexTables.std.decDigits ++ LexTables.std.hexMark ++ LexTables.std.octMark ++
      LexTables.std.binMark ++ LexTables.std.expMark) : cc.isAlphaNumeric x = true := by
  have := (by decide : ∀ y ∈ LexTables.std.hexDigits ++ LexTables.std.decDigits ++ LexTables.std.hexMark ++
    LexTables.std.octMark ++ LexTables.std.binMark ++ LexTables.std.expMark,
    y.toNat < 128 ∧ CharClass.ascii.isAlphaNumeric y = true) x h
  exact (alnum_ascii_eq hcc this.1).trans this.2

theorem marks_alnum {cc : CharClass} (hcc : cc.AsciiExact) {x : Char}
    (h : LexTables.std.hexMark.contains x = true ∨ LexTables.std.octMark.contains x = true ∨
      LexTables.std.binMark.contains x = true ∨ LexTables.std.expMark.contains x = true) :
    cc.isAlphaNumeric x = true := by
  refine numberRunes_alnum hcc ?_
  simp only [List.contains_iff_mem] at h
  simp only [List.mem_append]
  rcases h with h | h | h | h
  · exact Or.inl (Or.inl (Or.inl (Or.inr h)))
  · exact Or.inl (Or.inl (Or.inr h))
  · exact Or.inl (Or.inr h)
  · exact Or.inr h

theorem hexDigits_alnum {cc : CharClass} (hcc : cc.AsciiExact) (x : Char) (hx : x ∈ LexTables.std.hexDigits) :
    cc.isAlphaNumeric x = true :=
  numberRunes_alnum hcc (by simp only [List.mem_append]; exact Or.inl (Or.inl (Or.inl (Or.inl (Or.inl hx)))))

theorem decDigits_alnum {cc : CharClass} (hcc : cc.AsciiExact) {x : Char}
    (h : LexTables.std.decDigits.contains x = true) : cc.isAlphaNumeric x = true :=
  numberRunes_alnum hcc (by
    simp only [List.mem_append]
    exact Or.inl (Or.inl (Or.inl (Or.inl (Or.inr (List.contains_iff_mem.mp h))))))

end ExprModel.Lex
