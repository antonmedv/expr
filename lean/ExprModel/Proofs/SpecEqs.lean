import ExprModel.Spec.Eval
/-
Every clause of the reference evaluator `Spec.eval` / `Spec.evalList` as a stated equation: a node evaluates its
children in order and then applies a non-recursive tail to their values, so what one operator or builtin does is a
fact about its tail.  Mind the namespace: `binTail`, `patOf` and the equations of `binTail` at single operators
(`binTail_<op>`, `binTail_arith`) are in `Refine`; everything else here is in `Spec`.
The clauses of the seven loop builtins (`eval_builtin_all` … `eval_builtin_map`) share the shape "collection, its
length, `loopIdx` over the closure body, a conclusion": the shape the rules `smok_loop`, `EvalRel.loop` and
`erase_loopL` speak of.
-/
namespace ExprModel.Spec

/-- `==` on the operand values; the static kinds select the instruction (`OpEqualInt`, `OpEqualString`, `OpEqual`) -/
def eqTail (lk rk : RKind) (a b : Val) : SM Val :=
  if (lk == rk && lk == .num .int) = true then
    match a, b with
    | .int .int x, .int .int y => pure (.bool (x == y))
    | _, _ => SM.fail .type_
  else if (lk == rk && lk == .string) = true then
    match a, b with
    | .str x, .str y => pure (.bool (x == y))
    | _, _ => SM.fail .type_
  else pure (.bool (equalV a b))

/-- what `lo..hi` is charged; `rangeSizeSigned`: a source in which `OpRange` does not clamp `size` at 0
    (/repo's does: `C06.source_clamps_range`) -/
def rangeCharge (c : SCfg) (lo hi : Int) : Int :=
  if c.rangeSizeSigned = true then hi - lo + 1 else if hi - lo + 1 < 0 then 0 else hi - lo + 1

def isLogicOp (op : String) : Bool := op == "and" || op == "&&" || op == "or" || op == "||"

/-- `matches` with a constant pattern (`OpMatchesConst`) -/
def matchRe (c : SCfg) (pat : String) (a : Val) : SM Val :=
  match a with
  | .str subj => match c.world.regexMatch pat subj with
    | some m => pure (.bool m)
    | none => SM.fail .type_
  | _ => SM.fail .type_

def matchDyn (c : SCfg) (a b : Val) : SM Val :=
  match a, b with
  | .str subj, .str pat => match c.world.regexMatch pat subj with
    | some m => pure (.bool m)
    | none => SM.fail .type_
  | _, _ => SM.fail .type_

def callTail (w : World) (obj : Val) (name : String) (vs : List Val) : SM Val := do
  let r := callMember w obj name vs
  if callHappened r then SM.logCall name vs
  SM.lift r

theorem binArith_ne {op : String} {h : Helper} (hop : binArith op = some h) (s : String) (hs : binArith s = none) :
    (op == s) = false := by
  rw [beq_eq_false_iff_ne]
  rintro rfl
  rw [hs] at hop
  cases hop

end ExprModel.Spec

namespace ExprModel.Refine

/-- the pattern of a `matches` node with a constant regexp -/
def patOf : Node → String
  | .str _ s => s
  | _ => ""

open ExprModel.Spec

def binTail (c : SCfg) (op : String) (l r : Node) (a b : Val) : SM Val :=
  if op == "==" then
    if l.kd == r.kd && l.kd == .num .int then
      match a, b with
      | .int .int x, .int .int y => pure (.bool (x == y))
      | _, _ => SM.fail .type_
    else if l.kd == r.kd && l.kd == .string then
      match a, b with
      | .str x, .str y => pure (.bool (x == y))
      | _, _ => SM.fail .type_
    else pure (.bool (equalV a b))
  else if op == "!=" then pure (.bool (!equalV a b))
  else if op == "in" then do pure (.bool (← SM.lift (inV a b)))
  else if op == "not in" then do pure (.bool (!(← SM.lift (inV a b))))
  else if op == "**" then
    match toFloat64Val a, toFloat64Val b with
    | some x, some y => pure (.f64 (c.world.pow x y))
    | _, _ => SM.fail .type_
  else if op == ".." then do
    let lo ← SM.lift (toIntR a)
    let hi ← SM.lift (toIntR b)
    let size : Int := hi - lo + 1
    let counted : Int := if c.rangeSizeSigned then size else (if size < 0 then 0 else size)
    let elems := rangeElems lo hi
    SM.allocBefore c.budget counted elems.length
    pure (.arr (.num .int) elems)
  else if op == "contains" then SM.lift (strOp strContains a b)
  else if op == "startsWith" then SM.lift (strOp strHasPrefix a b)
  else if op == "endsWith" then SM.lift (strOp strHasSuffix a b)
  else match binArith op with
    | some h => SM.lift (binHelper h a b)
    | none => SM.fail .badop

theorem binTail_eqTail (sc : SCfg) (l r : Node) (a b : Val) : binTail sc "==" l r a b = eqTail l.kd r.kd a b := rfl
theorem binTail_rangeCharge (sc : SCfg) (l r : Node) (a b : Val) :
    binTail sc ".." l r a b = (do
      let lo ← SM.lift (toIntR a)
      let hi ← SM.lift (toIntR b)
      SM.allocBefore sc.budget (rangeCharge sc lo hi) (rangeElems lo hi).length
      pure (.arr (.num .int) (rangeElems lo hi))) := rfl
theorem binTail_ne (sc : SCfg) (l r : Node) (a b : Val) : binTail sc "!=" l r a b = pure (.bool (!equalV a b)) := rfl
theorem binTail_in (sc : SCfg) (l r : Node) (a b : Val) :
    binTail sc "in" l r a b = (do pure (.bool (← SM.lift (inV a b)))) := rfl
theorem binTail_notin (sc : SCfg) (l r : Node) (a b : Val) :
    binTail sc "not in" l r a b = (do pure (.bool (!(← SM.lift (inV a b))))) := rfl
theorem binTail_contains (sc : SCfg) (l r : Node) (a b : Val) :
    binTail sc "contains" l r a b = SM.lift (strOp strContains a b) := rfl
theorem binTail_startsWith (sc : SCfg) (l r : Node) (a b : Val) :
    binTail sc "startsWith" l r a b = SM.lift (strOp strHasPrefix a b) := rfl
theorem binTail_endsWith (sc : SCfg) (l r : Node) (a b : Val) :
    binTail sc "endsWith" l r a b = SM.lift (strOp strHasSuffix a b) := rfl
theorem binTail_powMatch (sc : SCfg) (l r : Node) (a b : Val) :
    binTail sc "**" l r a b =
      (match toFloat64Val a, toFloat64Val b with
        | some x, some y => pure (.f64 (sc.world.pow x y))
        | _, _ => SM.fail .type_) := rfl

theorem binTail_arith (sc : SCfg) (l r : Node) (a b : Val) {op : String} {h : Helper} (hop : binArith op = some h) :
    binTail sc op l r a b = SM.lift (binHelper h a b) := by
  have hne := binArith_ne hop
  simp only [binTail, hne "==" rfl, hne "!=" rfl, hne "in" rfl, hne "not in" rfl, hne "**" rfl, hne ".." rfl,
    hne "contains" rfl, hne "startsWith" rfl, hne "endsWith" rfl, Bool.false_eq_true, if_false, hop]

end ExprModel.Refine

namespace ExprModel.Spec
open Refine (patOf binTail)


theorem SM.bind_apply {α β : Type} (m : SM α) (f : α → SM β) (σ : SState) :
    (m >>= f) σ = match m σ with
      | (.ok a, σ1) => f a σ1
      | (.error e, σ1) => (.error e, σ1) := rfl

theorem SM.bind_cases {α β : Type} {m : SM α} {f : α → SM β} {σ σ' : SState} {r : R β} (h : (m >>= f) σ = (r, σ')) :
    (∃ e, m σ = (.error e, σ') ∧ r = .error e) ∨ (∃ a σ1, m σ = (.ok a, σ1) ∧ f a σ1 = (r, σ')) := by
  rw [SM.bind_apply] at h
  cases hm : m σ with
  | mk r1 σ1 =>
    cases r1 with
    | error e =>
      rw [hm] at h
      simp only [Prod.mk.injEq] at h
      obtain ⟨rfl, rfl⟩ := h
      exact .inl ⟨e, rfl, rfl⟩
    | ok a =>
      rw [hm] at h
      exact .inr ⟨a, σ1, rfl, h⟩

@[simp] theorem SM.lift_apply {α : Type} (r : R α) (σ : SState) : (SM.lift r) σ = (r, σ) := by cases r <;> rfl

theorem SM.pure_bind {α β : Type} (a : α) (f : α → SM β) : (pure a >>= f) = f a := rfl

theorem SM.bind_assoc {α β γ : Type} (m : SM α) (f : α → SM β) (g : β → SM γ) :
    (m >>= f >>= g) = (m >>= fun a => f a >>= g) := by
  funext σ
  rw [SM.bind_apply, SM.bind_apply, SM.bind_apply]
  cases m σ with
  | mk r σ1 => cases r <;> rfl

theorem SM.bind_def {α β} (m : SM α) (f : α → SM β) : (m >>= f) = SM.bind' m f := rfl
theorem SM.pure_def {α} (a : α) : (pure a : SM α) = SM.pure' a := rfl

@[simp] theorem SM.pure_apply {α} (a : α) (s : SState) : (pure a : SM α) s = (.ok a, s) := rfl
@[simp] theorem SM.fail_apply {α} (e : ErrClass) (s : SState) : (SM.fail e : SM α) s = (.error e, s) := rfl

@[simp] theorem SM.lift_ok {α} (a : α) : SM.lift (.ok a : R α) = pure a := rfl
@[simp] theorem SM.lift_error {α} (e : ErrClass) : (SM.lift (.error e : R α)) = SM.fail e := rfl

instance : LawfulMonad SM := LawfulMonad.mk'
  (id_map := by
    intro α x; funext s
    show (x >>= fun a => pure (id a)) s = x s
    rw [SM.bind_apply]
    cases x s with
    | mk r s' => cases r <;> rfl)
  (pure_bind := Spec.SM.pure_bind)
  (bind_assoc := Spec.SM.bind_assoc)

theorem SM.bind_ok {α β : Type} {m : SM α} {f : α → SM β} {σ σ' : SState} {b : β}
    (h : (m >>= f) σ = (.ok b, σ')) : ∃ a σ1, m σ = (.ok a, σ1) ∧ f a σ1 = (.ok b, σ') := by
  rcases SM.bind_cases h with ⟨e, _, he⟩ | hok
  · cases he
  · exact hok

theorem asBool_bool (b : Bool) : asBool (.bool b) = pure b := rfl
theorem asBool_other {v : Val} (h : ∀ b, v ≠ .bool b) : asBool v = SM.fail .type_ := by
  cases v
  case bool b => exact absurd rfl (h b)
  all_goals rfl

variable (c : SCfg) (ctx : Ctx)

theorem eval_nil (m) : eval c ctx (.nil m) = pure .nil := rfl
theorem eval_ident (m name nilsafe) : eval c ctx (.ident m name nilsafe) = SM.lift (fetchV c.env (.str name) nilsafe) := rfl
theorem eval_int (m v) : eval c ctx (.int m v) = pure (intConst m.kd v) := rfl
theorem eval_float (m bits) : eval c ctx (.float m bits) = pure (.f64 (Float.ofBits bits)) := rfl
theorem eval_bool (m b) : eval c ctx (.bool m b) = pure (.bool b) := rfl
theorem eval_str (m s) : eval c ctx (.str m s) = pure (.str s) := rfl
theorem eval_const (m v) : eval c ctx (.const m v) = pure v := rfl

theorem eval_unary (m op x) : eval c ctx (.unary m op x) = (do
    let v ← eval c ctx x
    if op == "!" || op == "not" then SM.lift (notV v)
    else if op == "-" then SM.lift (negV v)
    else if op == "+" then pure v
    else SM.fail .badop) := rfl

theorem eval_matches (m hasRe l r) : eval c ctx (.matches m hasRe l r) = (do
    let a ← eval c ctx l
    if hasRe = true then matchRe c (patOf r) a
    else do
      let b ← eval c ctx r
      matchDyn c a b) := rfl

theorem eval_prop (m x name nilsafe) : eval c ctx (.prop m x name nilsafe) = (do
    let v ← eval c ctx x
    SM.lift (fetchV v (.str name) nilsafe)) := rfl

theorem eval_index (m x i) : eval c ctx (.index m x i) = (do
    let a ← eval c ctx x
    let b ← eval c ctx i
    SM.lift (fetchV a b false)) := rfl

def boundOr (c : SCfg) (ctx : Ctx) (d : SM Val) : Option Node → SM Val
  | some n => eval c ctx n
  | none => d

theorem eval_slice (c : SCfg) (ctx : Ctx) (m : Meta) (x : Node) (f t : Option Node) :
    eval c ctx (.slice m x f t) = (do
      let a ← eval c ctx x
      if c.sliceToFirst = true then do
        let tv ← boundOr c ctx (do pure (.int .int (← SM.lift (lengthV a)))) t
        let fv ← boundOr c ctx (pure (.int .int 0)) f
        SM.lift (sliceV a fv tv)
      else do
        let fv ← boundOr c ctx (pure (.int .int 0)) f
        let tv ← boundOr c ctx (do pure (.int .int (← SM.lift (lengthV a)))) t
        SM.lift (sliceV a fv tv)) := by
  cases f <;> cases t <;> simp only [boundOr, bind_assoc, pure_bind] <;> rfl

theorem eval_method (m x name args nilsafe) : eval c ctx (.method m x name args nilsafe) = (do
    let obj ← eval c ctx x
    let vs ← evalList c ctx args
    if (nilsafe && obj.isNilLike) = true then pure .nil else callTail c.world obj name vs) := rfl

theorem eval_func (m name args fast) : eval c ctx (.func m name args fast) = (do
    let vs ← evalList c ctx args
    callTail c.world c.env name vs) := rfl

theorem eval_len (m a) : eval c ctx (.builtin m "len" [a]) = (do
    let v ← eval c ctx a
    pure (.int .int (← SM.lift (lengthV v)))) := rfl


theorem eval_builtin_all (m a b) : eval c ctx (.builtin m "all" [a, b]) = (do
    let coll ← eval c ctx a
    let n ← SM.lift (lengthV coll)
    match ← loopIdx (fun i (_ : Unit) => do
        if ← asBool (← eval c ((coll, (i : Int)) :: ctx) b) then pure (.inl ()) else pure (.inr (.bool false)))
      n.toNat 0 () with
    | .inl _ => pure (.bool true)
    | .inr v => pure v) := rfl

theorem eval_builtin_none (m a b) : eval c ctx (.builtin m "none" [a, b]) = (do
    let coll ← eval c ctx a
    let n ← SM.lift (lengthV coll)
    match ← loopIdx (fun i (_ : Unit) => do
        if ← asBool (← eval c ((coll, (i : Int)) :: ctx) b) then pure (.inr (.bool false)) else pure (.inl ()))
      n.toNat 0 () with
    | .inl _ => pure (.bool true)
    | .inr v => pure v) := rfl

theorem eval_builtin_any (m a b) : eval c ctx (.builtin m "any" [a, b]) = (do
    let coll ← eval c ctx a
    let n ← SM.lift (lengthV coll)
    match ← loopIdx (fun i (_ : Unit) => do
        if ← asBool (← eval c ((coll, (i : Int)) :: ctx) b) then pure (.inr (.bool true)) else pure (.inl ()))
      n.toNat 0 () with
    | .inl _ => pure (.bool false)
    | .inr v => pure v) := rfl

theorem eval_builtin_one (m a b) : eval c ctx (.builtin m "one" [a, b]) = (do
    let coll ← eval c ctx a
    let n ← SM.lift (lengthV coll)
    match ← loopIdx (fun i (k : Int) => do
        if ← asBool (← eval c ((coll, (i : Int)) :: ctx) b) then pure (.inl (k + 1)) else pure (.inl k))
      n.toNat 0 (0 : Int) with
    | .inl k => pure (.bool (k == 1))
    | .inr v => pure v) := rfl

theorem eval_builtin_count (m a b) : eval c ctx (.builtin m "count" [a, b]) = (do
    let coll ← eval c ctx a
    let n ← SM.lift (lengthV coll)
    match ← loopIdx (fun i (k : Int) => do
        if ← asBool (← eval c ((coll, (i : Int)) :: ctx) b) then pure (.inl (k + 1)) else pure (.inl k))
      n.toNat 0 (0 : Int) with
    | .inl k => pure (.int .int k)
    | .inr v => pure v) := rfl

theorem eval_builtin_filter (m a b) : eval c ctx (.builtin m "filter" [a, b]) = (do
    let coll ← eval c ctx a
    let n ← SM.lift (lengthV coll)
    match ← loopIdx (fun i (acc : List Val) => do
        if ← asBool (← eval c ((coll, (i : Int)) :: ctx) b) then do
          let el ← SM.lift (fetchV coll (.int .int i) false)
          pure (.inl (el :: acc))
        else pure (.inl acc))
      n.toNat 0 ([] : List Val) with
    | .inl acc => do
      SM.allocAfter c.budget acc.length acc.length
      pure (.arr .iface acc.reverse)
    | .inr v => pure v) := rfl

theorem eval_builtin_map (m a b) : eval c ctx (.builtin m "map" [a, b]) = (do
    let coll ← eval c ctx a
    let n ← SM.lift (lengthV coll)
    match ← loopIdx (fun i (acc : List Val) => do
        let r ← eval c ((coll, (i : Int)) :: ctx) b
        pure (.inl (r :: acc)))
      n.toNat 0 ([] : List Val) with
    | .inl acc => do
      SM.allocAfter c.budget n acc.length
      pure (.arr .iface acc.reverse)
    | .inr v => pure v) := rfl

theorem eval_closure (m x) : eval c ctx (.closure m x) = eval c ctx x := rfl

theorem eval_pointer (m) : eval c ctx (.pointer m) = (match ctx with
    | (coll, i) :: _ => SM.lift (fetchV coll (.int .int i) false)
    | [] => SM.fail .type_) := rfl

theorem eval_cond (m cnd a b) : eval c ctx (.cond m cnd a b) = (do
    let v ← eval c ctx cnd
    if ← asBool v then eval c ctx a else eval c ctx b) := rfl

theorem eval_array (m xs) : eval c ctx (.array m xs) = (do
    let vs ← evalList c ctx xs
    SM.allocAfter c.budget vs.length vs.length
    pure (.arr .iface vs)) := rfl

theorem eval_mapLit (m ps) : eval c ctx (.map m ps) = (do
    let flat ← evalList c ctx ps
    let mp ← SM.lift (buildMap flat)
    SM.allocAfter c.budget ps.length ps.length
    pure (.map mp)) := rfl

/-- pairs only occur inside map literals, where `evalList_pair` evaluates them -/
theorem eval_pair (m k v) : eval c ctx (.pair m k v) = SM.fail .badop := rfl

theorem evalList_nil : evalList c ctx [] = pure [] := rfl

theorem evalList_pair (m k v rest) : evalList c ctx (.pair m k v :: rest) = (do
    let kv ← eval c ctx k
    let vv ← eval c ctx v
    let vs ← evalList c ctx rest
    pure (kv :: vv :: vs)) := rfl

def _root_.ExprModel.Node.isPair : Node → Bool
  | .pair _ _ _ => true
  | _ => false

theorem evalList_cons (n rest) (h : n.isPair = false) : evalList c ctx (n :: rest) = (do
    let v ← eval c ctx n
    let vs ← evalList c ctx rest
    pure (v :: vs)) := by
  cases n
  case pair => cases h
  all_goals rfl


theorem eval_binary (m : Meta) (op : String) (l r : Node) :
    eval c ctx (.binary m op l r) =
      if (op == "and" || op == "&&") = true then (do
        let a ← eval c ctx l
        if ← asBool a then eval c ctx r else pure (.bool false))
      else if (op == "or" || op == "||") = true then (do
        let a ← eval c ctx l
        if ← asBool a then pure (.bool true) else eval c ctx r)
      else (do
        let a ← eval c ctx l
        let b ← eval c ctx r
        binTail c op l r a b) := rfl

theorem eval_andOp (m : Meta) {op : String} (h : (op == "and" || op == "&&") = true) (l r : Node) :
    eval c ctx (.binary m op l r) = (do
      let a ← eval c ctx l
      if ← asBool a then eval c ctx r else pure (.bool false)) := by
  rw [eval_binary, if_pos h]

theorem eval_orOp (m : Meta) {op : String} (h : (op == "or" || op == "||") = true) (l r : Node) :
    eval c ctx (.binary m op l r) = (do
      let a ← eval c ctx l
      if ← asBool a then pure (.bool true) else eval c ctx r) := by
  have hand : ¬ (op == "and" || op == "&&") = true := by
    intro ha
    simp only [Bool.or_eq_true, beq_iff_eq] at h ha
    rcases ha with rfl | rfl
    · exact absurd h (by decide)
    · exact absurd h (by decide)
  rw [eval_binary, if_neg hand, if_pos h]

theorem eval_strict (m : Meta) {op : String} (h : isLogicOp op = false) (l r : Node) :
    eval c ctx (.binary m op l r) = (do
      let a ← eval c ctx l
      let b ← eval c ctx r
      binTail c op l r a b) := by
  simp only [isLogicOp, Bool.or_eq_false_iff] at h
  rw [eval_binary, h.1.1.1, h.1.1.2, h.1.2, h.2]
  rfl

theorem binArith_strict {op : String} {h : Helper} (hop : binArith op = some h) : isLogicOp op = false := by
  have hne := binArith_ne hop
  simp only [isLogicOp, hne "and" rfl, hne "&&" rfl, hne "or" rfl, hne "||" rfl, Bool.or_self]

def bodyAt (c : SCfg) (ctx : Ctx) (coll : Val) (b : Node) (i : Nat) : SM Val :=
  eval c ((coll, (i : Int)) :: ctx) b

theorem builtinNames_cases {name : String} (h : builtinNames.contains name = true) :
    name = "all" ∨ name = "none" ∨ name = "any" ∨ name = "one" ∨ name = "filter" ∨ name = "map" ∨ name = "count" := by
  simpa only [builtinNames, List.contains_cons, List.contains_nil, Bool.or_false, Bool.or_eq_true, beq_iff_eq] using h

theorem eval_builtin_unknown (c : SCfg) (ctx : Ctx) (m : Meta) (name : String) (a b : Node)
    (h : builtinNames.contains name = false) : eval c ctx (.builtin m name [a, b]) = SM.fail .badop := by
  rw [eval]
  simp only [h]
  rfl

theorem eval_builtin_bad (c : SCfg) (ctx : Ctx) (m : Meta) (name : String) (args : List Node)
    (h2 : args.length ≠ 2) (h1 : name = "len" → args.length ≠ 1) :
    eval c ctx (.builtin m name args) = SM.fail .badop := by
  conv => lhs; unfold eval
  split
  · exact absurd rfl (h1 rfl)
  · exact absurd rfl h2
  · rfl

theorem run_eq (c : SCfg) (cast : Option Nat) (n : Node) :
    run c cast n = ((eval c [] n {}).1.bind fun v => cast.elim (.ok v) (castV · v), (eval c [] n {}).2) := by
  unfold run
  rcases eval c [] n {} with ⟨r, s⟩
  cases r <;> cases cast <;> rfl

theorem run_state (c : SCfg) (cast : Option Nat) (n : Node) : (run c cast n).2 = (eval c [] n {}).2 := by
  rw [run_eq]

theorem run_none (c : SCfg) (n : Node) : run c none n = eval c [] n {} := by
  rw [run_eq]
  rcases eval c [] n {} with ⟨r, s⟩
  cases r <;> rfl

theorem run_eq_ok {c : SCfg} {cast : Option Nat} {n : Node} {v' : Val} {s : SState} (h : run c cast n = (.ok v', s)) :
    ∃ v, eval c [] n {} = (.ok v, s) ∧ cast.elim (.ok v) (castV · v) = .ok v' := by
  rw [run_eq] at h
  rcases he : eval c [] n {} with ⟨r, σ⟩
  rw [he] at h
  cases r with
  | error e => cases h
  | ok v => exact ⟨v, congrArg _ (Prod.mk.inj h).2, (Prod.mk.inj h).1⟩

theorem run_ok (c : SCfg) (cast : Option Nat) (n : Node) {v : Val} (h : (run c cast n).1 = .ok v) :
    ∃ w, (eval c [] n {}).1 = .ok w :=
  let ⟨w, hw, _⟩ := run_eq_ok (Prod.ext h rfl : run c cast n = (.ok v, _))
  ⟨w, congrArg Prod.fst hw⟩

theorem run_error_of_eval_error (c : SCfg) (cast : Option Nat) (n : Node) {e : ErrClass}
    (h : (eval c [] n {}).1 = .error e) : (run c cast n).1 = .error e := by
  rw [run_eq, h]
  rfl

end ExprModel.Spec
