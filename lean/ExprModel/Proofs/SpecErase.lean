import ExprModel.Proofs.SpecCong
/-
For C15: erasing the checker's annotations from a tree (`Node.eraseKd`: what the untyped pipeline / `expr.Eval`
compiles), reflexive relations between state-monad computations closed under `bind` (`SMRel`: `Le` = "a success of
the left is the same success, value and state, of the right", `Agree` = "two successes are the same success"), and
the traversal of `Spec.eval` for trees without literal retyping: the only places `eval` reads an annotation are
`intConst` and the `==` specialisation (`eqTail`).
-/
namespace ExprModel
namespace Spec
open Refine (patOf)

def eraseMeta (m : Meta) : Meta := { m with kd := .invalid }

mutual
def eraseKd : Node → Node
  | .nil m => .nil (eraseMeta m)
  | .ident m name ns => .ident (eraseMeta m) name ns
  | .int m v => .int (eraseMeta m) v
  | .float m b => .float (eraseMeta m) b
  | .bool m b => .bool (eraseMeta m) b
  | .str m s => .str (eraseMeta m) s
  | .const m v => .const (eraseMeta m) v
  | .unary m op x => .unary (eraseMeta m) op (eraseKd x)
  | .binary m op l r => .binary (eraseMeta m) op (eraseKd l) (eraseKd r)
  | .matches m h l r => .matches (eraseMeta m) h (eraseKd l) (eraseKd r)
  | .prop m x name ns => .prop (eraseMeta m) (eraseKd x) name ns
  | .index m x i => .index (eraseMeta m) (eraseKd x) (eraseKd i)
  | .slice m x f t => .slice (eraseMeta m) (eraseKd x) (eraseKdO f) (eraseKdO t)
  | .method m x name args ns => .method (eraseMeta m) (eraseKd x) name (eraseKdL args) ns
  | .func m name args fast => .func (eraseMeta m) name (eraseKdL args) fast
  | .builtin m name args => .builtin (eraseMeta m) name (eraseKdL args)
  | .closure m x => .closure (eraseMeta m) (eraseKd x)
  | .pointer m => .pointer (eraseMeta m)
  | .cond m c a b => .cond (eraseMeta m) (eraseKd c) (eraseKd a) (eraseKd b)
  | .array m xs => .array (eraseMeta m) (eraseKdL xs)
  | .map m ps => .map (eraseMeta m) (eraseKdL ps)
  | .pair m k v => .pair (eraseMeta m) (eraseKd k) (eraseKd v)
def eraseKdO : Option Node → Option Node
  | none => none
  | some n => some (eraseKd n)
def eraseKdL : List Node → List Node
  | [] => []
  | n :: ns => eraseKd n :: eraseKdL ns
end

theorem kd_eraseKd (n : Node) : (eraseKd n).kd = .invalid := by
  cases n <;> simp [eraseKd, Node.kd, Node.getMeta, eraseMeta]

/-- an `EvalRel` (`toEvalRel`) that holds between *every* computation and itself, not only the counter-neutral
    ones: with the same budget on both sides the accounting primitives are then related for free (`SMRel.allocs`) -/
structure SMRel where
  R : ∀ {α : Type}, SM α → SM α → Prop
  refl : ∀ {α : Type} (m : SM α), R m m
  bind : ∀ {α β : Type} {m1 m2 : SM α} {f1 f2 : α → SM β}, R m1 m2 → (∀ a, R (f1 a) (f2 a)) → R (m1 >>= f1) (m2 >>= f2)

def SMRel.toEvalRel (Q : SMRel) : EvalRel where
  R := Q.R
  noAlloc := fun _ => Q.refl _
  bind := Q.bind

theorem SMRel.allocs (Q : SMRel) (c : SCfg) : Q.toEvalRel.Allocs c c.budget :=
  ⟨fun _ => Q.refl _, fun _ _ => Q.refl _⟩

def Le {α : Type} (m1 m2 : SM α) : Prop := ∀ σ v σ', m1 σ = (.ok v, σ') → m2 σ = (.ok v, σ')

def LeRel : SMRel where
  R := Le
  refl := fun _ _ _ _ h => h
  bind := by
    intro α β m1 m2 f1 f2 hm hf σ v σ' h
    obtain ⟨a, σ1, h1, h2⟩ := SM.bind_ok h
    rw [SM.bind_apply, hm σ a σ1 h1]
    exact hf a σ1 v σ' h2

def Agree {α : Type} (m1 m2 : SM α) : Prop :=
  ∀ σ v w σ1 σ2, m1 σ = (.ok v, σ1) → m2 σ = (.ok w, σ2) → v = w ∧ σ1 = σ2

def AgreeRel : SMRel where
  R := Agree
  refl := by
    intro α m σ v w σ1 σ2 h1 h2
    rw [h1] at h2
    simp only [Prod.mk.injEq, Except.ok.injEq] at h2
    exact h2
  bind := by
    intro α β m1 m2 f1 f2 hm hf σ v w σ1 σ2 h1 h2
    obtain ⟨a, τ1, ha, hfa⟩ := SM.bind_ok h1
    obtain ⟨b, τ2, hb, hfb⟩ := SM.bind_ok h2
    obtain ⟨hab, hτ⟩ := hm σ a b τ1 τ2 ha hb
    subst hab; subst hτ
    exact hf a τ1 v w σ1 σ2 hfa hfb

theorem Le.agree {α : Type} {m1 m2 : SM α} (h : Le m1 m2) : Agree m1 m2 := by
  intro σ v w σ1 σ2 h1 h2
  rw [h σ v σ1 h1] at h2
  simp only [Prod.mk.injEq, Except.ok.injEq] at h2
  exact h2

theorem eqTail_invalid (a b : Val) : eqTail .invalid .invalid a b = pure (.bool (equalV a b)) := by
  simp [eqTail]

theorem eqTail_le (lk rk : RKind) (a b : Val) : Le (eqTail lk rk a b) (eqTail .invalid .invalid a b) := by
  rw [eqTail_invalid]
  intro σ v σ' h
  unfold eqTail at h
  split at h
  · split at h
    · rw [equalV_int_int]; exact h
    · simp at h
  · split at h
    · split at h
      · rw [equalV_str_str]; exact h
      · simp at h
    · exact h

theorem eval_int_erase (c : SCfg) (ctx : Ctx) {m : Meta} {v : Int} (h : intConst m.kd v = .int .int v) :
    eval c ctx (eraseKd (.int m v)) = eval c ctx (.int m v) :=
  congrArg pure (Eq.symm h)

mutual
/-- no literal retyping: every integer literal is annotated `.invalid`, a non-numeric kind, or `int` with its
    value in range -/
def PlainInts : Node → Prop
  | .int m v => intConst m.kd v = .int .int v
  | .nil _ | .ident .. | .float .. | .bool .. | .str .. | .const .. | .pointer _ => True
  | .unary _ _ x => PlainInts x
  | .binary _ _ l r => PlainInts l ∧ PlainInts r
  | .matches _ _ l r => PlainInts l ∧ PlainInts r
  | .prop _ x _ _ => PlainInts x
  | .index _ x i => PlainInts x ∧ PlainInts i
  | .slice _ x f t => PlainInts x ∧ PlainIntsO f ∧ PlainIntsO t
  | .method _ x _ args _ => PlainInts x ∧ PlainIntsL args
  | .func _ _ args _ => PlainIntsL args
  | .builtin _ _ args => PlainIntsL args
  | .closure _ x => PlainInts x
  | .cond _ c a b => PlainInts c ∧ PlainInts a ∧ PlainInts b
  | .array _ xs => PlainIntsL xs
  | .map _ ps => PlainIntsL ps
  | .pair _ k v => PlainInts k ∧ PlainInts v
def PlainIntsO : Option Node → Prop
  | none => True
  | some n => PlainInts n
def PlainIntsL : List Node → Prop
  | [] => True
  | n :: ns => PlainInts n ∧ PlainIntsL ns
end

theorem patOf_eraseKd (r : Node) : patOf (eraseKd r) = patOf r := by
  cases r <;> simp [eraseKd, patOf]

theorem length_eraseKdL : ∀ (ns : List Node), (eraseKdL ns).length = ns.length
  | [] => rfl
  | _ :: ns => by simp [eraseKdL, length_eraseKdL ns]

mutual
theorem eval_rel_erase (Q : SMRel) (heq : ∀ lk rk a b, Q.R (eqTail lk rk a b) (eqTail .invalid .invalid a b))
    (c : SCfg) : (n : Node) → PlainInts n → ∀ ctx, Q.R (eval c ctx n) (eval c ctx (eraseKd n))
  | .nil _, _, _ => Q.refl _
  | .ident .., _, _ => Q.refl _
  | .int .., h, ctx => eval_int_erase c ctx h ▸ Q.refl _
  | .float .., _, _ => Q.refl _
  | .bool .., _, _ => Q.refl _
  | .str .., _, _ => Q.refl _
  | .const .., _, _ => Q.refl _
  | .pointer _, _, _ => cong_pointer (B' := c.budget) Q.toEvalRel rfl
  | .unary _ _ x, h, ctx => cong_unary (B' := c.budget) Q.toEvalRel (eval_rel_erase Q heq c x h ctx)
  | .binary _ _ l r, h, ctx =>
    cong_binary (B' := c.budget) Q.toEvalRel (eval_rel_erase Q heq c l h.1 ctx) (eval_rel_erase Q heq c r h.2 ctx)
      (fun a b => by rw [kd_eraseKd, kd_eraseKd]; exact heq _ _ a b) (Q.allocs c)
  | .matches _ _ l r, h, ctx =>
    cong_matches (B' := c.budget) Q.toEvalRel (eval_rel_erase Q heq c l h.1 ctx) (eval_rel_erase Q heq c r h.2 ctx)
      fun _ => (patOf_eraseKd r).symm
  | .prop _ x _ _, h, ctx => cong_prop (B' := c.budget) Q.toEvalRel (eval_rel_erase Q heq c x h ctx)
  | .index _ x i, h, ctx =>
    cong_index (B' := c.budget) Q.toEvalRel (eval_rel_erase Q heq c x h.1 ctx) (eval_rel_erase Q heq c i h.2 ctx)
  | .slice _ x f t, h, ctx =>
    cong_slice (B' := c.budget) Q.toEvalRel (eval_rel_erase Q heq c x h.1 ctx) (bound_rel_erase Q heq c f h.2.1 ctx)
      (bound_rel_erase Q heq c t h.2.2 ctx)
  | .method _ x _ args _, h, ctx =>
    cong_method (B' := c.budget) Q.toEvalRel (eval_rel_erase Q heq c x h.1 ctx)
      (evalList_rel_erase Q heq c args h.2 ctx)
  | .func _ _ args _, h, ctx => cong_func (B' := c.budget) Q.toEvalRel (evalList_rel_erase Q heq c args h ctx)
  | .builtin _ _ args, h, ctx =>
    cong_builtin (B' := c.budget) Q.toEvalRel (Q.allocs c) (args_rel_erase Q heq c args h ctx)
  | .closure _ x, h, ctx => eval_rel_erase Q heq c x h ctx
  | .cond _ cnd a b, h, ctx =>
    cong_cond (B' := c.budget) Q.toEvalRel (eval_rel_erase Q heq c cnd h.1 ctx) (eval_rel_erase Q heq c a h.2.1 ctx)
      (eval_rel_erase Q heq c b h.2.2 ctx)
  | .array _ xs, h, ctx =>
    cong_array (B' := c.budget) Q.toEvalRel (Q.allocs c) (evalList_rel_erase Q heq c xs h ctx)
  | .map _ ps, h, ctx =>
    cong_mapLit (B' := c.budget) Q.toEvalRel (Q.allocs c) (length_eraseKdL ps).symm
      (evalList_rel_erase Q heq c ps h ctx)
  | .pair .., _, _ => Q.refl _
theorem bound_rel_erase (Q : SMRel) (heq : ∀ lk rk a b, Q.R (eqTail lk rk a b) (eqTail .invalid .invalid a b))
    (c : SCfg) : (o : Option Node) → PlainIntsO o → ∀ ctx, Q.toEvalRel.Bound c c.budget ctx ctx o (eraseKdO o)
  | none, _, _ => trivial
  | some n, h, ctx => eval_rel_erase Q heq c n h ctx
theorem args_rel_erase (Q : SMRel) (heq : ∀ lk rk a b, Q.R (eqTail lk rk a b) (eqTail .invalid .invalid a b))
    (c : SCfg) : (ns : List Node) → PlainIntsL ns → ∀ ctx, Q.toEvalRel.Args c c.budget ctx ctx ns (eraseKdL ns)
  | [], _, _ => .nil
  | n :: ns, h, ctx =>
    .cons (eval_rel_erase Q heq c n h.1 ctx) (fun _ _ => eval_rel_erase Q heq c n h.1 _) (args_rel_erase Q heq c ns h.2 ctx)
theorem evalList_rel_erase (Q : SMRel) (heq : ∀ lk rk a b, Q.R (eqTail lk rk a b) (eqTail .invalid .invalid a b))
    (c : SCfg) : (ns : List Node) → PlainIntsL ns → ∀ ctx, Q.R (evalList c ctx ns) (evalList c ctx (eraseKdL ns))
  | [], _, _ => Q.refl _
  | n :: rest, h, ctx => by
    have hn := eval_rel_erase Q heq c n h.1 ctx
    have hr := evalList_rel_erase Q heq c rest h.2 ctx
    cases n
    case pair m k v =>
      exact cong_list_pair (B' := c.budget) Q.toEvalRel (eval_rel_erase Q heq c k h.1.1 ctx)
        (eval_rel_erase Q heq c v h.1.2 ctx) hr
    all_goals exact cong_list_cons (B' := c.budget) Q.toEvalRel rfl rfl hn hr
end

theorem eval_le_erase (c : SCfg) : (n : Node) → PlainInts n → ∀ ctx, LeRel.R (eval c ctx n) (eval c ctx (eraseKd n)) :=
  eval_rel_erase LeRel eqTail_le c

theorem evalList_le_erase (c : SCfg) : (ns : List Node) → PlainIntsL ns → ∀ ctx, LeRel.R (evalList c ctx ns) (evalList c ctx (eraseKdL ns)) :=
  evalList_rel_erase LeRel eqTail_le c

end Spec

abbrev Node.eraseKd (n : Node) : Node := Spec.eraseKd n

end ExprModel
