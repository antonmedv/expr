import ExprModel.Proofs.VMStep
import ExprModel.Proofs.RefineBytes
/-
C13: where a successful `step` leaves `ip`: just after the instruction it executed, or at the target of
the jump it executed.  `Landed` (Proofs/VMStepDefs.lean) says it for arbitrary bytecode; here it is read for an
instruction `i` encoded in place.
-/
namespace ExprModel

theorem Instr.size_of_jump {i : Instr} (h : i.op.argClass = .jumpFwd ∨ i.op.argClass = .jumpBack) : i.size = 3 := by
  unfold Instr.size
  rw [Bc.hasArg_of_jump h]
  rfl

theorem argAt_of_bytes {P : Prog} {k : Nat} {i : Instr} (hb : Refine.BytesAt P k i) (ha : i.op.hasArg = true) :
    argAt P (k + 1) = i.arg := by
  unfold argAt
  rw [hb.lo ha, hb.hi ha]
  exact Refine.arg_recompose _ hb.fits

/-- `Landed` for the instruction `i` encoded at offset `k` (a jump occupies 3 bytes and its offset counts from the byte
    after it) -/
def IpPost (k : Nat) (i : Instr) (s' : VM) : Prop :=
  s'.ip = k + i.size ∨ (i.op.argClass = .jumpFwd ∧ s'.ip = k + 3 + i.arg) ∨
    (i.op.argClass = .jumpBack ∧ i.arg ≤ k + 3 ∧ s'.ip = k + 3 - i.arg)

theorem step_ok_ip {c : Cfg} {P : Prog} {s s' : VM} {k : Nat} {i : Instr} (hb : Refine.BytesAt P k i) (hs : s.ip = k)
    (h : step c P s = .ok s') : IpPost k i s' := by
  subst hs
  have hop : Op.ofCode? (P.code[s.ip]?.getD 255) = some i.op := by rw [hb.op, Option.getD_some, Op.ofCode_code]
  have H : Reports c P s (fun _ _ => True) := ⟨fun _ _ => True.intro, fun _ _ => True.intro, fun _ _ _ => True.intro⟩
  obtain ⟨op, hop', hd⟩ := (step_done H).ok h
  cases hop.symm.trans hop'
  rcases hd.ip with hd | ⟨hc, hd⟩ | ⟨hc, hle, hd⟩
  · refine .inl ?_
    rw [hd]
    unfold Instr.size
    cases i.op.hasArg <;> rfl
  · rw [argAt_of_bytes hb (Bc.hasArg_of_jump (.inl hc))] at hd
    exact .inr (.inl ⟨hc, hd⟩)
  · rw [argAt_of_bytes hb (Bc.hasArg_of_jump (.inr hc))] at hd hle
    exact .inr (.inr ⟨hc, hle, hd⟩)

end ExprModel
