import ExprModel.Code.Compile
/-
`mkConst` finds or appends, `mkRegexConst` finds its owner's entry or records a new constant (`mkConst_cases`,
`mkRegexConst_cases`: where the two are taken apart).  Hence the constant pool only grows (`mkConst_preserves`), the index
`mkConst` returns is in range (`mkConst_index_lt`) and names the value asked for or one equal to it as a Go map key
(`mkConst_spec`), hence a string, call or regexp constant when one was asked for (`StrAt`, `CallAt`, `ReAt`; read off in
`poolSpec_any`, Proofs/BcCompile.lean).  No assumption on the tree: the pool side of C01 (Proofs/RefinePool.lean) needs
`AliasFree` to say WHICH constant the index names.
-/
namespace ExprModel.Bc

def PoolExt (c c' : Array Val) : Prop := ∀ (k : Nat) (v : Val), c[k]? = some v → c'[k]? = some v

theorem PoolExt.refl (c : Array Val) : PoolExt c c := fun _ _ h => h
theorem PoolExt.trans {a b c : Array Val} (h1 : PoolExt a b) (h2 : PoolExt b c) : PoolExt a c := fun k v h => h2 k v (h1 k v h)

theorem PoolExt.push (c : Array Val) (v : Val) : PoolExt c (c.push v) := by
  intro k w h
  have hk : k < c.size := by
    rcases Nat.lt_or_ge k c.size with h' | h'
    · exact h'
    · simp [Array.getElem?_eq_none h'] at h
  rw [Array.getElem?_push_lt hk]
  simpa [Array.getElem?_eq_getElem hk] using h

def StrAt (c : Array Val) (k : Nat) : Prop := ∃ s, c[k]? = some (.str s)
def CallAt (c : Array Val) (k : Nat) : Prop := ∃ n s, c[k]? = some (.call n s)
def ReAt (c : Array Val) (k : Nat) : Prop := ∃ p, c[k]? = some (.regexp p)
def AnyAt (c : Array Val) (k : Nat) : Prop := ∃ v, c[k]? = some v

theorem CallAt.mono {c c' : Array Val} {k : Nat} (h : CallAt c k) (e : PoolExt c c') : CallAt c' k := by
  obtain ⟨n, s, hs⟩ := h; exact ⟨n, s, e _ _ hs⟩
theorem ReAt.mono {c c' : Array Val} {k : Nat} (h : ReAt c k) (e : PoolExt c c') : ReAt c' k := by
  obtain ⟨s, hs⟩ := h; exact ⟨s, e _ _ hs⟩
theorem StrAt.any {c : Array Val} {k : Nat} (h : StrAt c k) : AnyAt c k := by obtain ⟨s, hs⟩ := h; exact ⟨_, hs⟩

/-- what `makeConstant` keeps true of the compiler's state: it panics when `len(c.constants) > math.MaxUint16`, and the
    `c.index` entry of a `*regexp.Regexp` (a pointer key, modelled by `reOwner`) points at a regexp constant -/
structure PoolOk (p : Pool) : Prop where
  size_le : p.consts.size ≤ 65535
  re : ∀ o ∈ p.reOwner, ReAt p.consts o.2.2

theorem PoolOk.empty : PoolOk {} := ⟨by simp, by intro o ho; cases ho⟩

theorem findIdx_some {p : Pool} {v : Val} {i : Nat} (h : p.findIdx v = some i) :
    ∃ w, p.consts[i]? = some w ∧ constKeyEq w v = true := by
  unfold Pool.findIdx at h
  have hm := List.mem_of_find?_eq_some h
  have hp := List.find?_some h
  simp only [List.mem_range] at hm
  refine ⟨p.consts[i], Array.getElem?_eq_getElem hm, ?_⟩
  simpa [Array.getElem?_eq_getElem hm] using hp

theorem mkConst_cases {v : Val} {p p' : Pool} {k : Nat} (h : mkConst v p = .ok (k, p')) :
    (p' = p ∧ ∃ w, p.consts[k]? = some w ∧ constKeyEq w v = true) ∨
    (p' = { p with consts := p.consts.push v } ∧ k = p.consts.size ∧ p.consts.size < 65535) := by
  unfold mkConst at h
  split at h
  · rename_i i hi
    cases h
    have hf : p.findIdx v = some k := by
      split at hi
      · exact hi
      · cases hi
    exact .inl ⟨rfl, findIdx_some hf⟩
  · dsimp only at h
    split at h
    · cases h
    · rename_i hsz
      cases h
      rw [Array.size_push] at hsz
      exact .inr ⟨rfl, by rw [Array.size_push]; rfl, by omega⟩

theorem mkConst_preserves {v : Val} {p p' : Pool} {k : Nat} (h : mkConst v p = .ok (k, p')) : PoolExt p.consts p'.consts := by
  rcases mkConst_cases h with ⟨rfl, _⟩ | ⟨rfl, _⟩
  · exact PoolExt.refl _
  · exact PoolExt.push _ v

theorem mkConst_spec {v : Val} {p p' : Pool} {k : Nat} (hp : PoolOk p) (h : mkConst v p = .ok (k, p')) :
    PoolOk p' ∧ PoolExt p.consts p'.consts ∧ p'.reOwner = p.reOwner ∧
    ∃ w, p'.consts[k]? = some w ∧ (w = v ∨ constKeyEq w v = true) := by
  rcases mkConst_cases h with ⟨rfl, w, hw, hk⟩ | ⟨rfl, rfl, hsz⟩
  · exact ⟨hp, PoolExt.refl _, rfl, w, hw, .inr hk⟩
  · refine ⟨⟨by simp; omega, fun o ho => (hp.re o ho).mono (PoolExt.push _ _)⟩, PoolExt.push _ _, rfl, v, by simp, .inl rfl⟩

theorem mkConst_index_lt {v : Val} {p p' : Pool} {k : Nat} (hp : PoolOk p) (h : mkConst v p = .ok (k, p')) :
    k < p'.consts.size ∧ p'.consts.size ≤ 65535 := by
  obtain ⟨hp', _, _, w, hw, _⟩ := mkConst_spec hp h
  refine ⟨?_, hp'.size_le⟩
  rcases Nat.lt_or_ge k p'.consts.size with h' | h'
  · exact h'
  · simp [Array.getElem?_eq_none h'] at hw

theorem constKeyEq_str {w : Val} {s : String} (h : constKeyEq w (.str s) = true) : ∃ s', w = .str s' := by
  cases w <;> simp [constKeyEq] at h; exact ⟨_, rfl⟩
theorem constKeyEq_call {w : Val} {n : String} {s : Nat} (h : constKeyEq w (.call n s) = true) : ∃ n' s', w = .call n' s' := by
  cases w <;> simp [constKeyEq] at h; exact ⟨_, _, rfl⟩

theorem mkRegexConst_cases {owner : Loc} {pat : String} {p p' : Pool} {k : Nat}
    (h : mkRegexConst owner pat p = .ok (k, p')) :
    (p' = p ∧ ∃ o ∈ p.reOwner, o.2.1 = pat ∧ o.2.2 = k) ∨
    (∃ p1, mkConst (.regexp pat) p = .ok (k, p1) ∧ p' = { p1 with reOwner := (owner, pat, k) :: p1.reOwner }) := by
  unfold mkRegexConst at h
  split at h
  · rename_i o ho
    cases h
    have hp := List.find?_some ho
    simp only [Bool.and_eq_true, beq_iff_eq] at hp
    exact .inl ⟨rfl, o, List.mem_of_find?_eq_some ho, hp.2, rfl⟩
  · cases hm : mkConst (.regexp pat) p with
    | error e => rw [hm] at h; cases h
    | ok r =>
      rw [hm] at h
      cases h
      exact .inr ⟨r.2, rfl, rfl⟩

theorem mkRegexConst_spec {owner : Loc} {pat : String} {p p' : Pool} {k : Nat} (hp : PoolOk p)
    (h : mkRegexConst owner pat p = .ok (k, p')) : PoolOk p' ∧ PoolExt p.consts p'.consts ∧ ReAt p'.consts k := by
  rcases mkRegexConst_cases h with ⟨rfl, o, ho, _, rfl⟩ | ⟨p1, hm, rfl⟩
  · exact ⟨hp, PoolExt.refl _, hp.re o ho⟩
  · obtain ⟨hp1, he, hre, w, hw, hc⟩ := mkConst_spec hp hm
    have hk : ReAt p1.consts k := by
      rcases hc with rfl | hc
      · exact ⟨pat, hw⟩
      · cases w <;> simp [constKeyEq] at hc
    refine ⟨⟨hp1.size_le, fun o ho => ?_⟩, he, hk⟩
    rcases List.mem_cons.1 ho with rfl | ho
    · exact hk
    · exact hp1.re o ho

end ExprModel.Bc
