import ExprModel.Proofs.ParserConv
import ExprModel.Proofs.ParsePrintBody
/-
Round trip `parse (print t) = t`: the statements proved by recursion over the tree (`EStmt` / `EbStmt`: parsing the printed
text of `t` in a context behaves like the operator loop continuing from `t`), the tokens that end an expression (`Closer`),
parentheses, and the first token of an accepted text (`headOK_of_conv`).
-/
namespace ExprModel.Parser

variable {cfg : Cfg} {sh : NumShow} {pc : ParenChoice}

/-- what the round trip needs to know about the tables (all decidable: `tbCheck`; `C11.tables_ok` for the generated
    tables).  `coherent` is `C11.Coherent` phrased with `lookup`.  Stronger than needed in two places: the last
    conjunct of `bin_follow` repeats `no_quest`, and no proof uses `o ≠ "."` of `un_val`. -/
structure TbOK (tb : Tables) : Prop where
  coherent : ∀ o o' q a a', tb.binary.lookup o = some (q, a) → tb.binary.lookup o' = some (q, a') → a = a'
  un_pos : ∀ o pu a, tb.unary.lookup o = some (pu, a) → 0 < pu
  bin_pos : ∀ o q a, tb.binary.lookup o = some (q, a) → 0 < q
  bin_follow : ∀ o qa, tb.binary.lookup o = some qa → o ≠ "." ∧ o ≠ "?." ∧ o ≠ "[" ∧ o ≠ "(" ∧ o ≠ "?"
  un_val : ∀ o x, tb.unary.lookup o = some x → o ≠ "#" ∧ o ≠ "." ∧ o ≠ ":" ∧ o ≠ ","
  bi_names : ∀ n ar, tb.builtins.lookup n = some ar → reserved n = false
  no_quest : tb.binary.lookup "?" = none
  no_colon : tb.binary.lookup ":" = none
  no_comma : tb.binary.lookup "," = none

/-- `C11.Setting` is this with the tables fixed to the generated ones -/
structure Hyp (cfg : Cfg) (sh : NumShow) : Prop where
  tb : TbOK cfg.tb
  int_rt : ∀ n : Nat, n < 2 ^ 63 → cfg.num (sh.showInt n) = some (.int n)
  float_rt : ∀ b : UInt64, floatLit b = true → cfg.num (sh.showFloat b) = some (.float b)

section
variable (π : List Nat) (m : Nat) (fw : Token) (mt : Meta) (T : List Token)

theorem body_unary {op : String} {pu : Nat} {au : Assoc} (hop : cfg.tb.unary.lookup op = some (pu, au)) (x : Node) :
    body cfg sh pc π m fw (.unary mt op x) ++ T = tok .operator op mt.loc :: (pr cfg sh pc (0 :: π) pu fw x ++ T) := by
  simp [body, hop, pr]

theorem body_binary {op : String} {q : Nat} {a : Assoc} (hop : cfg.tb.binary.lookup op = some (q, a)) (l r : Node) :
    body cfg sh pc π m fw (.binary mt op l r) ++ T =
      pr cfg sh pc (0 :: π) (lprec q a) (tok .operator op mt.loc) l ++
        tok .operator op mt.loc :: (pr cfg sh pc (1 :: π) (rprec q a) fw r ++ T) := by
  simp [body, hop, pr]

theorem body_matches {q : Nat} {a : Assoc} (hop : cfg.tb.binary.lookup "matches" = some (q, a)) (h : Bool) (l r : Node) :
    body cfg sh pc π m fw (.matches mt h l r) ++ T =
      pr cfg sh pc (0 :: π) (lprec q a) (tok .operator "matches" mt.loc) l ++
        tok .operator "matches" mt.loc :: (pr cfg sh pc (1 :: π) (rprec q a) fw r ++ T) := by
  simp [body, hop, pr]

theorem body_cond (c a b : Node) :
    body cfg sh pc π m fw (.cond mt c a b) ++ T =
      pr cfg sh pc (0 :: π) 0 (questAt mt.loc) c ++ questAt mt.loc :: (pr cfg sh pc (1 :: π) 0 colon a ++
        colon :: (pr cfg sh pc (2 :: π) 0 fw b ++ T)) := by
  simp [body, pr]

theorem body_prop (x : Node) (name : String) (s : Bool) :
    body cfg sh pc π m fw (.prop mt x name s) ++ T =
      prBase cfg sh pc (0 :: π) true s x ++
        tok .operator (if s then "?." else ".") :: tok .identifier name mt.loc :: T := by
  simp [body, prBase]

theorem body_method (x : Node) (name : String) (args : List Node) (s : Bool) :
    body cfg sh pc π m fw (.method mt x name args s) ++ T =
      prBase cfg sh pc (0 :: π) true s x ++
        tok .operator (if s then "?." else ".") :: tok .identifier name mt.loc :: lparen ::
          (listP cfg sh pc π 1 rparen args ++ rparen :: T) := by
  simp [body, prBase]

theorem body_index (x i : Node) :
    body cfg sh pc π m fw (.index mt x i) ++ T =
      prBase cfg sh pc (0 :: π) false false x ++ lbr mt.loc :: (pr cfg sh pc (1 :: π) 0 rbr i ++ rbr :: T) := by
  simp [body, prBase, pr, lbr, rbr]

theorem body_slice (x : Node) (fr to : Option Node) :
    body cfg sh pc π m fw (.slice mt x fr to) ++ T =
      prBase cfg sh pc (0 :: π) false false x ++
        lbr mt.loc :: (optP cfg sh pc π 1 colon fr ++ colon :: (optP cfg sh pc π 2 rbr to ++ rbr :: T)) := by
  simp [body, prBase, lbr, rbr]

theorem body_func (name : String) (args : List Node) (fast : Bool) :
    body cfg sh pc π m fw (.func mt name args fast) ++ T =
      tok .identifier name mt.loc :: lparen :: (listP cfg sh pc π 0 rparen args ++ rparen :: T) := by
  simp [body]

theorem body_builtin1 (name : String) (a : Node) :
    body cfg sh pc π m fw (.builtin mt name [a]) ++ T =
      tok .identifier name mt.loc :: lparen :: (pr cfg sh pc (0 :: π) 0 rparen a ++ rparen :: T) := by
  simp [body, builtinP, pr]

theorem body_builtin2 (name : String) (a c : Node) :
    body cfg sh pc π m fw (.builtin mt name [a, c]) ++ T =
      tok .identifier name mt.loc :: lparen :: (pr cfg sh pc (0 :: π) 0 comma a ++
        comma :: (body cfg sh pc (1 :: π) 0 rparen c ++ rparen :: T)) := by
  simp [body, builtinP, pr]

theorem body_closure (b : Node) :
    body cfg sh pc π m fw (.closure mt b) ++ T =
      lbrace mt.loc :: (pr cfg sh pc (0 :: π) 0 rbrace b ++ rbrace :: T) := by
  simp [body, pr, lbrace, rbrace]

theorem body_array (xs : List Node) :
    body cfg sh pc π m fw (.array mt xs) ++ T = lbr mt.loc :: (listP cfg sh pc π 0 rbr xs ++ rbr :: T) := by
  simp [body, lbr, rbr]

theorem body_map (ps : List Node) :
    body cfg sh pc π m fw (.map mt ps) ++ T = lbrace mt.loc :: (pairsP cfg sh pc π 0 mt.loc ps ++ rbrace :: T) := by
  simp [body, lbrace, rbrace]

end

variable (cfg sh pc) in
/-- context invariant: a binary operator that follows the text binds no tighter on its left than `m`, the level
    the text was printed for (it may be read at a lower level, see `EStmt`) -/
def Inv (m : Nat) (fw : Token) : Prop := ∀ q a, binOp cfg fw = some (q, a) → lprec q a ≤ m

variable (cfg sh pc) in
/-- round trip of `t` in an expression context: reading the text of `t` and going on behaves like `cont` from `t`.
    Two levels: `m` is what the text was printed for (it decides the parentheses), `p ≤ m` what it is read at.
    They differ for the left operand of an infix, printed for `lprec q a` and read by the enclosing call at its
    own `p` (`conv_infix`).  Reading lower is harmless: an operator that the text shows outside parentheses has
    power at least `m ≥ p`, so the loop at `p` takes it as the loop at `m` would, and what follows the text is
    left to `cont … p`. -/
def EStmt (t : Node) : Prop :=
  ∀ (π : List Nat) (m p : Nat) (fw : Token) (tl : List Token) (d : Nat) (res : Res Node),
    canon cfg d t = true → p ≤ m → FollowTok fw → Inv cfg m fw →
    Conv (fun f => cont cfg f d p t (fw :: tl)) res →
    Conv (fun f => parseExpression cfg f d p (pr cfg sh pc π m fw t ++ fw :: tl)) res

variable (cfg sh pc) in
/-- the same for the bare text, where the omission rule allows it -/
def EbStmt (t : Node) : Prop :=
  ∀ (π : List Nat) (m p : Nat) (fw : Token) (tl : List Token) (d : Nat) (res : Res Node),
    canon cfg d t = true → p ≤ m → needParens cfg m fw t = false → FollowTok fw → Inv cfg m fw →
    Conv (fun f => cont cfg f d p t (fw :: tl)) res →
    Conv (fun f => parseExpression cfg f d p (body cfg sh pc π m fw t ++ fw :: tl)) res

theorem binOp_bracket (v : String) (l : Loc) : binOp cfg (tok .bracket v l) = none := by
  simp [binOp, tok]

theorem binOp_quest (hy : TbOK cfg.tb) (l : Loc) : binOp cfg (questAt l) = none := by
  simp [binOp, questAt, tok, hy.no_quest]

theorem followTok_quest (l : Loc) : FollowTok (questAt l) := by simp [FollowTok, questAt, tok]

theorem inv_of_none {fw : Token} (h : binOp cfg fw = none) (m : Nat) : Inv cfg m fw := by
  intro q a hb; rw [h] at hb; cases hb

/-- a token that closes the context of an expression: after a complete operand the postfix loop, the operator
    loop and the conditional all stop at it, at every level -/
structure Closer (cfg : Cfg) (t : Token) : Prop where
  follow : FollowTok t
  bin : binOp cfg t = none
  quest : t.is .operator "?" = false

theorem Closer.stops {t : Token} (h : Closer cfg t) (p : Nat) : Stops cfg p t :=
  ⟨fun q a hb => (by rw [h.bin] at hb; cases hb), fun _ => h.quest⟩

theorem Closer.inv {t : Token} (h : Closer cfg t) (m : Nat) : Inv cfg m t := inv_of_none h.bin m

theorem closer_bracket {v : String} (hv : v = ")" ∨ v = "]" ∨ v = "}") : Closer cfg (tok .bracket v) := by
  refine ⟨?_, binOp_bracket v {}, by simp [tok, Token.is]⟩
  rcases hv with rfl | rfl | rfl <;> simp [FollowTok, tok]

theorem closer_rparen : Closer cfg rparen := closer_bracket (.inl rfl)

theorem closer_colon (hy : TbOK cfg.tb) : Closer cfg colon :=
  ⟨by simp [FollowTok, colon, tok], by simp [binOp, colon, tok, hy.no_colon], by simp [colon, tok, Token.is]⟩

theorem closer_comma (hy : TbOK cfg.tb) : Closer cfg comma :=
  ⟨by simp [FollowTok, comma, tok], by simp [binOp, comma, tok, hy.no_comma], by simp [comma, tok, Token.is]⟩

variable (cfg sh pc) in
theorem stops_comma (hy : TbOK cfg.tb) (p : Nat) : Stops cfg p comma :=
  (closer_comma hy).stops p

theorem closer_rbr : Closer cfg rbr := closer_bracket (.inr (.inl rfl))

variable (cfg sh pc) in
theorem stops_rbr (p : Nat) : Stops cfg p rbr :=
  closer_rbr.stops p

theorem closer_rbrace : Closer cfg rbrace := closer_bracket (.inr (.inr rfl))

theorem needParens_zero_rparen (t : Node) : needParens cfg 0 rparen t = false := by
  have hb : binOp cfg rparen = none := binOp_bracket ")" {}
  cases t <;> simp only [needParens, hb] <;> try rfl
  all_goals first
    | (split <;> simp_all)
    | simp [rparen, tok, Token.is]

theorem expect_rparen (t2 : Token) (tl : List Token) :
    expect .bracket ")" (rparen :: t2 :: tl) = .ok () (t2 :: tl) := by
  simp [expect, rparen, tok, Token.is, next]

theorem expect_colon (R : List Token) (h : R ≠ []) : expect .operator ":" (colon :: R) = .ok () R := by
  simp [expect, colon, tok, Token.is, next_cons_of_ne _ _ h]

theorem expect_comma (R : List Token) (h : R ≠ []) : expect .operator "," (comma :: R) = .ok () R := by
  simp [expect, comma, tok, Token.is, next_cons_of_ne _ _ h]

theorem expect_rbr (t2 : Token) (tl : List Token) :
    expect .bracket "]" (rbr :: t2 :: tl) = .ok () (t2 :: tl) := by
  simp [expect, rbr, tok, Token.is, next]

theorem expect_rbrace (t2 : Token) (tl : List Token) :
    expect .bracket "}" (rbrace :: t2 :: tl) = .ok () (t2 :: tl) := by
  simp [expect, rbrace, tok, Token.is, next]

theorem conv_primary_paren {d : Nat} {t : Node} {T : List Token} {fw : Token} {tl : List Token} {res : Res Node}
    (h1 : Conv (fun f => parseExpression cfg f d 0 (T ++ rparen :: fw :: tl)) (.ok t (rparen :: fw :: tl)))
    (hp : Conv (fun f => parsePostfix cfg f d t false (fw :: tl)) res) :
    Conv (fun f => parsePrimary cfg f d (lparen :: (T ++ [rparen]) ++ fw :: tl)) res := by
  refine Conv.step (fun f => by
    show parsePrimary cfg (f+1) d (lparen :: (T ++ [rparen] ++ fw :: tl)) = _
    exact parsePrimary_lparen cfg f d _ (by simp)) ?_
  simp only [List.append_assoc, List.singleton_append]
  refine Conv.bind h1 ?_
  simp only [expect_rparen, Res.bind_ok]
  exact hp

theorem conv_wrap {d : Nat} {b : List Token} {t : Node}
    (hb : ∀ tl', Conv (fun f => parseExpression cfg f d 0 (b ++ rparen :: tl')) (.ok t (rparen :: tl'))) :
    ∀ (k : Nat) (tl' : List Token),
      Conv (fun f => parseExpression cfg f d 0 (wrap k b ++ rparen :: tl')) (.ok t (rparen :: tl'))
  | 0, tl' => hb tl'
  | k+1, tl' => conv_parseExpression cfg
      (conv_primary_paren (conv_wrap hb k (rparen :: tl')) (conv_postfix_stop cfg (closer_rparen (cfg := cfg)).follow d t false _))
      (conv_cont_stop cfg (closer_rparen.stops 0) d t _)

theorem wrap_max (k : Nat) (b : List Token) : ∃ k', wrap (max k 1) b = lparen :: (wrap k' b ++ [rparen]) :=
  ⟨max k 1 - 1, by rw [← wrap, show (max k 1 - 1).succ = max k 1 by omega]⟩

theorem conv_primary_wrap {t : Node} (h : EbStmt cfg sh pc t) {d : Nat} (hc : canon cfg d t = true) (π : List Nat)
    (k : Nat) {fw : Token} {tl : List Token} {res : Res Node}
    (hp : Conv (fun f => parsePostfix cfg f d t false (fw :: tl)) res) :
    Conv (fun f => parsePrimary cfg f d (wrap (max k 1) (body cfg sh pc π 0 rparen t) ++ fw :: tl)) res := by
  have hr : Closer cfg rparen := closer_rparen
  obtain ⟨k', hk'⟩ := wrap_max k (body cfg sh pc π 0 rparen t)
  rw [hk']
  exact conv_primary_paren
    (conv_wrap (fun tl' => h π 0 0 rparen tl' d _ hc (Nat.le_refl _) (needParens_zero_rparen t) hr.follow
      (hr.inv 0) (conv_cont_stop cfg (hr.stops 0) d t _)) k' (fw :: tl)) hp

theorem conv_expr_wrap {t : Node} (h : EbStmt cfg sh pc t) {d : Nat} (hc : canon cfg d t = true) (π : List Nat)
    (k : Nat) {p : Nat} {fw : Token} {tl : List Token} {res : Res Node} (hfw : FollowTok fw)
    (hcont : Conv (fun f => cont cfg f d p t (fw :: tl)) res) :
    Conv (fun f => parseExpression cfg f d p (wrap (max k 1) (body cfg sh pc π 0 rparen t) ++ fw :: tl)) res :=
  conv_parseExpression cfg (conv_primary_wrap h hc π k (conv_postfix_stop cfg hfw d t false tl)) hcont

theorem E_of_Ebare {t : Node} (h : EbStmt cfg sh pc t) : EStmt cfg sh pc t := by
  intro π m p fw tl d res hc hpm hfw hinv hcont
  unfold pr parenthesize
  split
  · next hk => exact h π m p fw tl d res hc hpm hk.2 hfw hinv hcont
  · exact conv_expr_wrap h hc π (pc π) hfw hcont

theorem E_closed {t : Node} (ih : EStmt cfg sh pc t) {d : Nat} (hc : canon cfg d t = true) (π : List Nat)
    {close : Token} (h : Closer cfg close) (tl : List Token) :
    Conv (fun f => parseExpression cfg f d 0 (pr cfg sh pc π 0 close t ++ close :: tl)) (.ok t (close :: tl)) :=
  ih π 0 0 close tl d _ hc (Nat.le_refl _) h.follow (h.inv 0) (conv_cont_stop cfg (h.stops 0) d t tl)

/-- `t` is none of `: , ) ] }`, the tokens the parser tests for before it parses an element (slice bound, argument,
    array element, map entry).  `HeadOK ts`: `ts` is not empty (so `next` steps: `next_cons_of_ne`) and starts
    with such a token, so those tests fail and the element is parsed; for the printed text of a subtree this comes
    from the subtree's induction hypothesis (`headOK_of_conv`), not from the printer. -/
def StartTok (t : Token) : Prop :=
  t.is .operator ":" = false ∧ t.is .operator "," = false ∧ t.is .bracket ")" = false ∧
  t.is .bracket "]" = false ∧ t.is .bracket "}" = false

def HeadOK (ts : List Token) : Prop := ∃ t0 rest, ts = t0 :: rest ∧ StartTok t0

theorem HeadOK.append {a : List Token} (h : HeadOK a) (b : List Token) : HeadOK (a ++ b) := by
  obtain ⟨t0, rest, rfl, h⟩ := h
  exact ⟨t0, rest ++ b, rfl, h⟩

theorem HeadOK.cons {t : Token} (h : StartTok t) (b : List Token) : HeadOK (t :: b) := ⟨t, b, rfl, h⟩

theorem HeadOK.start {R : List Token} (h : HeadOK R) : StartTok (cur R) := by
  obtain ⟨t0, rest, rfl, h0⟩ := h; exact h0
theorem headOK_ne_nil {R : List Token} (h : HeadOK R) : R ≠ [] := by
  obtain ⟨t0, rest, rfl, _⟩ := h; simp

theorem headOK_not_rbrace {R : List Token} (h : HeadOK R) : (cur R).is .bracket "}" = false := h.start.2.2.2.2
theorem headOK_not_comma {R : List Token} (h : HeadOK R) : (cur R).is .operator "," = false := h.start.2.1

theorem noStart_or_startTok (T : Token) : NoStart T ∨ StartTok T := by
  have is_false : ∀ k v, (T.kind = k → T.value ≠ v) → T.is k v = false := by
    intro k v h
    unfold Token.is
    by_cases hk : T.kind = k
    · simp [h hk]
    · simp [hk]
  by_cases h1 : T.kind = .operator ∧ (T.value = ":" ∨ T.value = ",")
  · exact .inl (.inl h1)
  by_cases h2 : T.kind = .bracket ∧ (T.value = ")" ∨ T.value = "]" ∨ T.value = "}")
  · exact .inl (.inr (.inl h2))
  exact .inr ⟨is_false _ _ fun hk hv => h1 ⟨hk, .inl hv⟩, is_false _ _ fun hk hv => h1 ⟨hk, .inr hv⟩,
    is_false _ _ fun hk hv => h2 ⟨hk, .inl hv⟩, is_false _ _ fun hk hv => h2 ⟨hk, .inr (.inl hv)⟩,
    is_false _ _ fun hk hv => h2 ⟨hk, .inr (.inr hv)⟩⟩

/-- `TbOK.un_val` is taken apart here only -/
theorem unOp_punct (hy : TbOK cfg.tb) {T : Token} (h : T.value = "#" ∨ T.value = ":" ∨ T.value = ",") :
    unOp cfg T = none := by
  unfold unOp
  split
  · rw [Option.map_eq_none_iff]
    cases hl : cfg.tb.unary.lookup T.value with
    | none => rfl
    | some x =>
      obtain ⟨h1, _, h3, h4⟩ := hy.un_val _ x hl
      rcases h with h | h | h
      · exact absurd h h1
      · exact absurd h h3
      · exact absurd h h4
  · rfl

theorem unOp_noStart (hy : TbOK cfg.tb) {T : Token} (h : NoStart T) : unOp cfg T = none := by
  rcases h with ⟨_, hv⟩ | ⟨hk, _⟩ | hk
  · exact unOp_punct hy (.inr hv)
  · simp [unOp, hk]
  · simp [unOp, hk]

theorem headOK_of_conv (hy : TbOK cfg.tb) {d p : Nat} {ts ts' : List Token} {n : Node}
    (h : Conv (fun f => parseExpression cfg f d p ts) (.ok n ts')) : HeadOK ts := by
  obtain ⟨f0, h⟩ := h
  have h1 : parseExpression cfg (f0 + 1) d p ts = .ok n ts' := h (f0 + 1) (Nat.le_succ _)
  rw [parseExpression_succ] at h1
  cases hp : parsePrimary cfg f0 d ts with
  | ok a ts1 =>
    have hstart : ¬ NoStart (cur ts) := fun hn => parsePrimary_noStart cfg hn (unOp_noStart hy hn) _ _ _ _ hp
    cases ts with
    | nil => exact absurd (.inr (.inr rfl)) hstart
    | cons t0 rest =>
      rcases noStart_or_startTok t0 with hn | hs
      · exact absurd hn hstart
      · exact ⟨t0, rest, rfl, hs⟩
  | err e => rw [hp] at h1; cases h1
  | fuel => rw [hp] at h1; cases h1

theorem startTok_kind {t : Token} (h : t.kind ≠ .operator ∧ t.kind ≠ .bracket) : StartTok t := by
  unfold StartTok Token.is
  obtain ⟨h1, h2⟩ := h
  cases hk : t.kind <;> simp_all

theorem startTok_lparen : StartTok lparen := by simp [StartTok, lparen, tok, Token.is]

theorem headOK_wrap (k : Nat) (b : List Token) : HeadOK (wrap (max k 1) b) := by
  obtain ⟨k', hk'⟩ := wrap_max k b
  rw [hk']
  exact HeadOK.cons startTok_lparen _

end ExprModel.Parser
