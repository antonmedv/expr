import ExprModel.Syntax.Printer
import ExprModel.Proofs.ParserPost
/-
For the print/parse round trip (C11, ParsePrint*): `Conv g r` — `g` answers `r` for all sufficiently large fuel;
`parseExpression` as primary-then-`cont`; where the operator, conditional and postfix loops stop; one step of the
functions that dispatch on an opening bracket.
-/
namespace ExprModel.Parser

/-- For all sufficiently large fuel, not at one fuel value: two such facts hold together above the larger
    threshold, so `Conv.bind` composes a call with its continuation without appeal to monotonicity of the parser
    in its fuel (`monoAt`: needed once, in `cont_shift`, ParsePrintExpr). -/
def Conv {α : Type} (g : Nat → Res α) (r : Res α) : Prop := ∃ f0, ∀ f, f0 ≤ f → g f = r

theorem Conv.const {α : Type} (r : Res α) : Conv (fun _ => r) r := ⟨0, fun _ _ => rfl⟩

theorem Conv.of_succ {α : Type} {g : Nat → Res α} {r : Res α} (h : Conv (fun f => g (f+1)) r) : Conv g r := by
  obtain ⟨f0, h⟩ := h
  refine ⟨f0 + 1, fun f hf => ?_⟩
  obtain ⟨f', rfl⟩ : ∃ f', f = f' + 1 := ⟨f - 1, by omega⟩
  exact h f' (by omega)

theorem Conv.congr {α : Type} {g g' : Nat → Res α} {r : Res α} (h : ∀ f, g f = g' f) (h' : Conv g' r) : Conv g r := by
  obtain ⟨f0, h'⟩ := h'
  exact ⟨f0, fun f hf => (h f).trans (h' f hf)⟩

theorem Conv.step {α : Type} {g g' : Nat → Res α} {r : Res α} (h : ∀ f, g (f+1) = g' f) (h' : Conv g' r) : Conv g r :=
  Conv.of_succ (Conv.congr h h')

theorem Conv.bind {α β : Type} {A : Nat → Res α} {K : Nat → α → List Token → Res β} {a : α} {ts : List Token}
    {r : Res β} (h1 : Conv A (.ok a ts)) (h2 : Conv (fun f => K f a ts) r) :
    Conv (fun f => (A f).bind (K f)) r := by
  obtain ⟨f1, h1⟩ := h1
  obtain ⟨f2, h2⟩ := h2
  refine ⟨max f1 f2, fun f hf => ?_⟩
  show (A f).bind (K f) = r
  rw [h1 f (by omega)]
  exact h2 f (by omega)

theorem Conv.unique {α : Type} {g : Nat → Res α} {r r' : Res α} (h : Conv g r) (h' : Conv g r') : r = r' := by
  obtain ⟨f1, h1⟩ := h
  obtain ⟨f2, h2⟩ := h'
  rw [← h1 (max f1 f2) (by omega), ← h2 (max f1 f2) (by omega)]

theorem Conv.of_eq {α : Type} {g : Nat → Res α} {r : Res α} (h : ∀ f, g (f+1) = r) : Conv g r :=
  Conv.of_succ ⟨0, fun f _ => h f⟩

theorem Conv.shift {α : Type} {g : Nat → Res α} {r : Res α} (h : Conv g r) (k : Nat) :
    Conv (fun f => g (f+k)) r := by
  obtain ⟨f0, h⟩ := h
  exact ⟨f0, fun f hf => h (f+k) (by omega)⟩

theorem Res.bind_assoc {α β γ : Type} (a : Res α) (k : α → List Token → Res β) (k' : β → List Token → Res γ) :
    (a.bind k).bind k' = a.bind (fun x ts => (k x ts).bind k') := by
  cases a <;> rfl

variable (cfg : Cfg)

/-- what `parseExpression (f+1)` does after its primary (`parseExpression_succ`): the operator loop from `l`, then
    at level 0 the conditional -/
def cont (f d p : Nat) (l : Node) (ts : List Token) : Res Node :=
  (exprLoop cfg f d p l ts).bind fun e ts2 =>
    if p = 0 then parseConditional cfg f d e ts2 else .ok e ts2

theorem parseExpression_succ (f d p : Nat) (ts : List Token) :
    parseExpression cfg (f+1) d p ts = (parsePrimary cfg f d ts).bind (cont cfg f d p) := by
  rw [parseExpression]; rfl

/-- a token that ends a primary: it starts neither a postfix operator nor a call -/
def FollowTok (t : Token) : Prop :=
  t.value ≠ "." ∧ t.value ≠ "?." ∧ t.value ≠ "[" ∧ t.value ≠ "("

/-- a token at which `parseExpression(p)` stops after a complete operand -/
def Stops (p : Nat) (t : Token) : Prop :=
  (∀ q a, binOp cfg t = some (q, a) → q < p) ∧ (p = 0 → t.is .operator "?" = false)

theorem mk_of_inv {m : Meta} (h : inv m = true) : mk m.loc = m := by
  cases m with
  | mk l k =>
    simp only [inv, beq_iff_eq] at h
    simp only [mk]
    subst h; rfl

theorem next_cons_of_ne (t : Token) (xs : List Token) (h : xs ≠ []) : next (t :: xs) = .ok () xs := by
  cases xs with
  | nil => exact absurd rfl h
  | cons _ _ => rfl

theorem next_cons_cons (t t2 : Token) (tl : List Token) : next (t :: t2 :: tl) = .ok () (t2 :: tl) :=
  next_cons_of_ne t _ (List.cons_ne_nil _ _)

theorem next_cons_append (t : Token) (xs : List Token) (t2 : Token) (tl : List Token) :
    next (t :: (xs ++ t2 :: tl)) = .ok () (xs ++ t2 :: tl) :=
  next_cons_of_ne t _ (by simp)

@[simp] theorem cur_cons (t : Token) (tl : List Token) : cur (t :: tl) = t := rfl

theorem exprLoop_stop {p : Nat} {t : Token} (h : ∀ q a, binOp cfg t = some (q, a) → q < p)
    (f d : Nat) (l : Node) (tl : List Token) :
    exprLoop cfg (f+1) d p l (t :: tl) = .ok l (t :: tl) := by
  rw [exprLoop]
  split
  · next q a hb => exact if_neg (Nat.not_le.mpr (h q a hb))
  · rfl

theorem parseConditional_stop {t : Token} (h : t.is .operator "?" = false) (f d : Nat) (n : Node) (tl : List Token) :
    parseConditional cfg (f+1) d n (t :: tl) = .ok n (t :: tl) := by
  rw [parseConditional]
  simp [h]

theorem cont_stop {p : Nat} {t : Token} (h : Stops cfg p t) (f d : Nat) (l : Node) (tl : List Token) :
    cont cfg (f+1) d p l (t :: tl) = .ok l (t :: tl) := by
  unfold cont
  rw [exprLoop_stop cfg h.1]
  simp only [Res.bind_ok]
  split
  · next hp => exact parseConditional_stop cfg (h.2 hp) f d l tl
  · rfl

theorem conv_cont_stop {p : Nat} {t : Token} (h : Stops cfg p t) (d : Nat) (l : Node) (tl : List Token) :
    Conv (fun f => cont cfg f d p l (t :: tl)) (.ok l (t :: tl)) :=
  Conv.of_eq (fun f => cont_stop cfg h f d l tl)

theorem parsePostfix_stop {t : Token} (h : FollowTok t) (f d : Nat) (n : Node) (ns : Bool) (tl : List Token) :
    parsePostfix cfg (f+1) d n ns (t :: tl) = .ok n (t :: tl) := by
  rw [parsePostfix]
  obtain ⟨h1, h2, h3, _⟩ := h
  simp [h1, h2, h3]

theorem conv_postfix_stop {t : Token} (h : FollowTok t) (d : Nat) (n : Node) (ns : Bool) (tl : List Token) :
    Conv (fun f => parsePostfix cfg f d n ns (t :: tl)) (.ok n (t :: tl)) :=
  Conv.of_eq (fun f => parsePostfix_stop cfg h f d n ns tl)

theorem parsePrimary_other {T : Token} (h1 : T.kind ≠ .operator) (h2 : T.is .bracket "(" = false) (f d : Nat)
    (ts : List Token) : parsePrimary cfg (f+1) d (T :: ts) = parsePrimaryExpression cfg f d (T :: ts) := by
  have hu : unOp cfg T = none := by simp [unOp, h1]
  have hop : ∀ v, T.is .operator v = false := fun v => by simp [Token.is, h1]
  rw [parsePrimary]
  simp only [cur_cons, hu, h2, hop, Bool.false_eq_true, if_false]

theorem parsePrimary_lparen (f d : Nat) (ts : List Token) (h : ts ≠ []) :
    parsePrimary cfg (f+1) d (lparen :: ts) =
      (parseExpression cfg f d 0 ts).bind fun e ts2 =>
      (expect .bracket ")" ts2).bind fun _ ts3 => parsePostfix cfg f d e false ts3 := by
  rw [parsePrimary]
  simp [lparen, tok, unOp, Token.is, next_cons_of_ne _ _ h]

theorem parsePrimaryExpression_array {T : Token} (h : T.is .bracket "[" = true) (f d : Nat) (R : List Token) :
    parsePrimaryExpression cfg (f+1) d (T :: R) =
      (parseArray cfg f d (T :: R)).bind fun n ts1 => parsePostfix cfg f d n false ts1 := by
  rw [parsePrimaryExpression]
  simp [(kind_of_is h).1, h]

theorem parsePrimaryExpression_map {T : Token} (h : T.is .bracket "{" = true) (f d : Nat) (R : List Token) :
    parsePrimaryExpression cfg (f+1) d (T :: R) =
      (parseMap cfg f d (T :: R)).bind fun n ts1 => parsePostfix cfg f d n false ts1 := by
  rw [parsePrimaryExpression]
  simp [(kind_of_is h).1, Token.is, (kind_of_is h).2]

theorem parseArray_open {T : Token} (h : T.is .bracket "[" = true) (f d : Nat) {R : List Token} (hR : R ≠ []) :
    parseArray cfg (f+1) d (T :: R) =
      (arrayLoop cfg f d true R).bind fun ns ts2 =>
        (expect .bracket "]" ts2).bind fun _ ts3 => .ok (.array (mk T.loc) ns) ts3 := by
  rw [parseArray]
  simp [expect, h, next_cons_of_ne _ _ hR]

theorem parseMap_open {T : Token} (h : T.is .bracket "{" = true) (f d : Nat) {R : List Token} (hR : R ≠ []) :
    parseMap cfg (f+1) d (T :: R) =
      (mapLoop cfg f d T.loc true R).bind fun ps ts2 =>
        (expect .bracket "}" ts2).bind fun _ ts3 => .ok (.map (mk T.loc) ps) ts3 := by
  rw [parseMap]
  simp [expect, h, next_cons_of_ne _ _ hR]

theorem parseClosure_open {T : Token} (h : T.is .bracket "{" = true) (f d : Nat) {R : List Token} (hR : R ≠ []) :
    parseClosure cfg (f+1) d (T :: R) =
      (parseExpression cfg f (d+1) 0 R).bind fun n ts2 =>
        (expect .bracket "}" ts2).bind fun _ ts3 => .ok (.closure (mk T.loc) n) ts3 := by
  rw [parseClosure]
  simp [expect, h, next_cons_of_ne _ _ hR]

theorem parseArguments_open {T : Token} (h : T.is .bracket "(" = true) (f d : Nat) {R : List Token} (hR : R ≠ []) :
    parseArguments cfg (f+1) d (T :: R) =
      (argsLoop cfg f d true R).bind fun ns ts2 => (expect .bracket ")" ts2).bind fun _ ts3 => .ok ns ts3 := by
  rw [parseArguments]
  simp [expect, h, next_cons_of_ne _ _ hR]

theorem parseIdentifierExpression_func {tok T : Token} (h : T.is .bracket "(" = true)
    (hn : cfg.tb.builtins.lookup tok.value = none) (f d : Nat) (R : List Token) :
    parseIdentifierExpression cfg (f+1) d tok (T :: R) =
      (parseArguments cfg f d (T :: R)).bind fun args ts1 => .ok (.func (mk tok.loc) tok.value args false) ts1 := by
  rw [parseIdentifierExpression]
  simp [h, hn]

/-- a separator, a closing bracket or the end of input: the tokens no primary starts with -/
def NoStart (T : Token) : Prop :=
  (T.kind = .operator ∧ (T.value = ":" ∨ T.value = ",")) ∨
  (T.kind = .bracket ∧ (T.value = ")" ∨ T.value = "]" ∨ T.value = "}")) ∨ T.kind = .eof

theorem parsePrimary_noStart {ts : List Token} (h : NoStart (cur ts)) (hun : unOp cfg (cur ts) = none) (f d : Nat)
    (n : Node) (ts' : List Token) : parsePrimary cfg f d ts ≠ .ok n ts' := by
  have hkind : (cur ts).kind = .operator ∨ (cur ts).kind = .bracket ∨ (cur ts).kind = .eof := by
    rcases h with ⟨hk, _⟩ | ⟨hk, _⟩ | hk
    · exact .inl hk
    · exact .inr (.inl hk)
    · exact .inr (.inr hk)
  have hop : ∀ v, v = "#" ∨ v = "." → (cur ts).is .operator v = false := by
    intro v hv
    unfold Token.is
    rcases h with ⟨_, hc⟩ | ⟨hk, _⟩ | hk
    · rcases hc with hc | hc <;> rcases hv with rfl | rfl <;> simp [hc]
    · simp [hk]
    · simp [hk]
  have hbr : ∀ v, v = "(" ∨ v = "[" ∨ v = "{" → (cur ts).is .bracket v = false := by
    intro v hv
    unfold Token.is
    rcases h with ⟨hk, _⟩ | ⟨_, hc⟩ | hk
    · simp [hk]
    · rcases hc with hc | hc | hc <;> rcases hv with rfl | rfl | rfl <;> simp [hc]
    · simp [hk]
  cases f with
  | zero => simp [parsePrimary]
  | succ f =>
    rw [parsePrimary]
    simp only [hun, hbr "(" (.inl rfl), hop "#" (.inl rfl), hop "." (.inr rfl), Bool.false_eq_true, if_false]
    -- what is left is `parsePrimaryExpression`, which knows literals, identifiers, `[` and `{`
    cases f with
    | zero => simp [parsePrimaryExpression]
    | succ f =>
      rw [parsePrimaryExpression]
      rcases hkind with hk | hk | hk <;>
        simp [hk, hbr "[" (.inr (.inl rfl)), hbr "{" (.inr (.inr rfl))]

theorem conv_parseExpression {d p : Nat} {ts ts' : List Token} {a : Node} {r : Res Node}
    (h1 : Conv (fun f => parsePrimary cfg f d ts) (.ok a ts'))
    (h2 : Conv (fun f => cont cfg f d p a ts') r) :
    Conv (fun f => parseExpression cfg f d p ts) r := by
  exact Conv.step (fun f => parseExpression_succ cfg f d p ts) (Conv.bind h1 h2)

end ExprModel.Parser
