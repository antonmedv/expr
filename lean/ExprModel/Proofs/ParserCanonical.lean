import ExprModel.Proofs.ParserCanon
import ExprModel.Proofs.ParserLocs
import ExprModel.Gen.ParserTables
/-
The image of the parser is canonical: by induction on the fuel, what each of the fourteen parser
functions returns is canonical at its level, up to a pending right-edge identifier (`CanAt`).
-/
namespace ExprModel.Parser

variable (cfg : Cfg)

abbrev PendCanon (d : Nat) : Node → List Token → Prop := fun n ts' => canonX cfg (pendB ts') d n = true

/-- `arrL`, `mapL`, `argsL`: the second conjunct speaks of the loop's INPUT `ts`, not of its rest.  A turn that is
    not the first starts at `,` or at the closing bracket, so no `?.` is pending there; the turn before, whose
    element ended at `ts`, learns from it that the element is canonical outright (`canon_of_pendCanon hn (hns.2 rfl)`). -/
structure CanAt (f : Nat) : Prop where
  expr : ∀ {d p ts}, Post (PendCanon cfg d) (parseExpression cfg f d p ts)
  loop : ∀ {d p l ts}, PendCanon cfg d l ts → Post (PendCanon cfg d) (exprLoop cfg f d p l ts)
  prim : ∀ {d ts}, Post (PendCanon cfg d) (parsePrimary cfg f d ts)
  cond : ∀ {d nd ts}, PendCanon cfg d nd ts → Post (PendCanon cfg d) (parseConditional cfg f d nd ts)
  pexp : ∀ {d ts}, Post (PendCanon cfg d) (parsePrimaryExpression cfg f d ts)
  ident : ∀ {d tok ts}, reserved tok.value = false →
    Post (fun n ts' => baseOK cfg d n ts' = true) (parseIdentifierExpression cfg f d tok ts)
  clos : ∀ {d ts}, Post (fun n _ => ∃ mc b, n = .closure mc b ∧ inv mc = true ∧ canon cfg (d+1) b = true)
    (parseClosure cfg f d ts)
  arr : ∀ {d ts}, Post (fun n _ => canon cfg d n = true) (parseArray cfg f d ts)
  arrL : ∀ {d b ts}, Post (fun ns _ => canonList cfg d ns = true ∧ (b = false → pendB ts = false))
    (arrayLoop cfg f d b ts)
  map : ∀ {d ts}, Post (fun n _ => canon cfg d n = true) (parseMap cfg f d ts)
  mapL : ∀ {d l b ts}, Post (fun ps _ => canonPairs cfg d l ps = true ∧ (b = false → pendB ts = false))
    (mapLoop cfg f d l b ts)
  post : ∀ {d nd b ts}, baseOK cfg d nd ts = true → Post (PendCanon cfg d) (parsePostfix cfg f d nd b ts)
  args : ∀ {d ts}, Post (fun as _ => canonList cfg d as = true) (parseArguments cfg f d ts)
  argsL : ∀ {d b ts}, Post (fun ns _ => canonList cfg d ns = true ∧ (b = false → pendB ts = false))
    (argsLoop cfg f d b ts)

variable {cfg}

theorem canon_of_pendCanon {d : Nat} {n : Node} {ts : List Token} (h : canonX cfg (pendB ts) d n = true)
    (hp : pendB ts = false) : canon cfg d n = true := by
  rw [hp] at h
  exact canon_of_canonX_false h

theorem canon_of_pendCanon_is {d : Nat} {n : Node} {ts : List Token} {k : TokKind} {v : String}
    (h : canonX cfg (pendB ts) d n = true) (his : (cur ts).is k v = true) (hk : k = .operator ∨ k = .bracket) :
    canon cfg d n = true :=
  canon_of_pendCanon h (pend_false_of_is his hk)

theorem can_bound {f d : Nat} (hE : ∀ {ts}, Post (PendCanon cfg d) (parseExpression cfg f d 0 ts)) {ts : List Token} :
    Post (fun (to : Option Node) ts' => (cur ts').is .bracket "]" = true → canonOpt cfg d to = true)
      (if (cur ts).is .bracket "]" = true then Res.ok none ts
       else (parseExpression cfg f d 0 ts).bind fun e ts' => .ok (some e) ts') := by
  refine Post.ite (Post.ok (fun _ => rfl)) (Post.bind hE ?_)
  intro e ts' he
  exact Post.ok (fun hrb => canon_of_pendCanon_is he hrb (Or.inr rfl))

variable (cfg)

theorem canAt (hy : ImgHyp cfg) : ∀ f, CanAt cfg f
  | 0 => by
    constructor <;> intros <;> simp only [parser_zero] <;> exact Post.fuel
  | f+1 => by
    have ih := canAt hy f
    constructor
    · intro d p ts
      rw [parseExpression]
      refine Post.bind (ih.prim) ?_
      intro l ts1 hl
      refine Post.bind (ih.loop hl) ?_
      intro e ts2 he
      exact Post.ite (ih.cond he) (Post.ok he)
    · intro d p l ts hl
      rw [exprLoop]
      split
      · next q a hb =>
        obtain ⟨hk, hlk⟩ := binOp_lookup hb
        have hlc : canon cfg d l = true := canon_of_pendCanon hl (pend_false_of_kind_eq hk)
        have hsome : (cfg.tb.binary.lookup (cur ts).value).isSome = true := by rw [hlk]; rfl
        refine Post.ite ?_ (Post.ok hl)
        refine Post.bind post_next ?_
        intro _ ts1 _
        refine Post.bind (ih.expr) ?_
        intro r ts2 hr
        refine Post.ite' (fun hm => ?_) (fun hm => ?_)
        · have hv : (cur ts).value = "matches" := by simpa using hm
          rw [hv] at hsome
          -- the node built is `.matches _ (strLit? r).isSome l r`, provided a literal pattern compiles
          have hmat : (∀ s, strLit? r = some s → cfg.badRegex s = false) →
              canonX cfg (pendB ts2) d (.matches (mk (cur ts).loc) (strLit? r).isSome l r) = true :=
            fun hbad => canonX_matches (inv_mk _) hsome hbad hlc hr
          split
          · next s hs =>
            refine Post.ite' (fun _ => Post.err) (fun hbad => ih.loop ?_)
            rw [hs] at hmat
            exact hmat (fun s' hs' => by cases hs'; simpa using hbad)
          · next hs =>
            rw [hs] at hmat
            exact ih.loop (hmat (fun s' hs' => by cases hs'))
        · exact ih.loop (canonX_binary (inv_mk _) hsome (by simpa using hm) hlc hr)
      · exact Post.ok hl
    · intro d ts
      rw [parsePrimary]
      have hptr : 0 < d → canon cfg d (.pointer (mk (cur ts).loc)) = true := fun hd => by
        simp [canon, inv_mk, hd]
      split
      · next pu hu =>
        obtain ⟨_, hop⟩ := unOp_lookup hu
        refine Post.bind post_next ?_
        intro _ ts1 _
        refine Post.bind (ih.expr) ?_
        intro e ts2 he
        exact ih.post (baseOK_of_canonX (canonX_unary (inv_mk _) hop he) (by intros; simp))
      · refine Post.ite ?_ (Post.ite ?_ (Post.ite ?_ ?_))
        · refine Post.bind post_next ?_
          intro _ ts1 _
          refine Post.bind (ih.expr) ?_
          intro e ts2 he
          refine Post.bind post_expect ?_
          intro _ ts3 ⟨_, hrp⟩
          exact ih.post (baseOK_of_canon ts3 (canon_of_pendCanon_is he hrp (Or.inr rfl)))
        · refine Post.ite' (fun hd => Post.bind post_next ?_) (fun _ => Post.err)
          intro _ ts1 _
          exact ih.post (baseOK_of_canon ts1 (hptr hd))
        · exact Post.ite' (fun hd => ih.post (baseOK_of_canon ts (hptr hd))) (fun _ => Post.err)
        · exact ih.pexp
    · intro d nd ts hnd
      rw [parseConditional]
      refine Post.ite' (fun hq => ?_) (fun _ => Post.ok hnd)
      have hc := canon_of_pendCanon_is hnd hq (Or.inl rfl)
      refine Post.bind post_next ?_
      intro _ ts1 _
      refine Post.ite ?_ ?_
      · refine Post.bind post_next ?_
        intro _ ts2 _
        refine Post.bind (ih.expr) ?_
        intro e2 ts3 h2
        exact ih.cond (canonX_cond (inv_mk _) hc hc h2)
      · refine Post.bind (ih.expr) ?_
        intro e1 ts2 h1
        refine Post.bind post_expect ?_
        intro _ ts3 ⟨_, hcol⟩
        have hc1 := canon_of_pendCanon_is h1 hcol (Or.inl rfl)
        refine Post.bind (ih.expr) ?_
        intro e2 ts4 h2
        exact ih.cond (canonX_cond (inv_mk _) hc hc1 h2)
    · intro d ts
      rw [parsePrimaryExpression]
      have lit : ∀ {n : Node} (ts1 : List Token), canon cfg d n = true → Post (PendCanon cfg d) (.ok n ts1) :=
        fun ts1 hn => Post.ok (canonX_of_canon hn _)
      split
      · refine Post.bind post_next ?_
        intro _ ts1 _
        refine Post.ite' (fun _ => lit ts1 (inv_mk _)) (fun h1 => ?_)
        refine Post.ite' (fun _ => lit ts1 (inv_mk _)) (fun h2 => ?_)
        refine Post.ite' (fun _ => lit ts1 (inv_mk _)) (fun h3 => ?_)
        have hres : reserved (cur ts).value = false := by
          simp only [reserved, Bool.or_eq_false_iff]
          exact ⟨⟨by simpa using h1, by simpa using h2⟩, by simpa using h3⟩
        refine Post.bind (ih.ident hres) ?_
        intro n ts2 hb
        exact ih.post hb
      · refine Post.bind post_next ?_
        intro _ ts1 _
        split
        · next v hv =>
          have := hy.num_ok _ v hv
          exact lit ts1 (by simp [canon, inv_mk, this.1, this.2])
        · next b hb =>
          have := hy.float_ok _ b hb
          exact lit ts1 (by simp [canon, inv_mk, this])
        · exact Post.err
      · refine Post.bind post_next ?_
        intro _ ts1 _
        exact lit ts1 (inv_mk _)
      · refine Post.ite ?_ (Post.ite ?_ Post.err)
        · refine Post.bind (ih.arr) ?_
          intro n ts1 hn
          exact ih.post (baseOK_of_canon ts1 hn)
        · refine Post.bind (ih.map) ?_
          intro n ts1 hn
          exact ih.post (baseOK_of_canon ts1 hn)
    · intro d tok ts hres
      rw [parseIdentifierExpression]
      refine Post.ite ?_ (Post.ok ?_)
      · split
        · next ar hl =>
          refine Post.bind post_expect ?_
          intro _ ts1 _
          -- the arguments, canonical once the closing parenthesis has been seen
          refine Post.bind (Q1 := fun args ts5 => (cur ts5).is .bracket ")" = true →
            canon cfg d (.builtin (mk tok.loc) tok.value args) = true) ?_ ?_
          · refine Post.ite' (fun h1 => ?_) (fun h1 => Post.ite' (fun h2 => ?_) (fun h2 => ?_))
            · refine Post.bind (ih.expr) ?_
              intro a ts2 ha
              refine Post.ok (fun hrp => ?_)
              simp [canon, inv_mk, hl, h1, canon_of_pendCanon_is ha hrp (Or.inr rfl)]
            · refine Post.bind (ih.expr) ?_
              intro a ts2 ha
              refine Post.bind post_expect ?_
              intro _ ts3 ⟨_, hcm⟩
              refine Post.bind (ih.clos) ?_
              intro c ts4 ⟨mc, b, hc, hmc, hb⟩
              refine Post.ok (fun _ => ?_)
              simp [hc, canon, inv_mk, hl, h2, canon_of_pendCanon_is ha hcm (Or.inl rfl), hmc, hb]
            · rcases hy.arity _ ar hl with h | h
              · exact absurd h h1
              · exact absurd h h2
          · intro args ts5 hargs
            refine Post.bind post_expect ?_
            intro _ ts6 ⟨_, hrp⟩
            exact Post.ok (baseOK_of_canon ts6 (hargs hrp))
        · next hl =>
          refine Post.bind (ih.args) ?_
          intro args ts1 ha
          refine Post.ok (baseOK_of_canon ts1 ?_)
          simp [canon, inv_mk, hres, hl, ha]
      · simp [baseOK, canonBaseWith, inv_mk, hres]
    · intro d ts
      rw [parseClosure]
      refine Post.bind post_expect ?_
      intro _ ts1 _
      refine Post.bind (ih.expr) ?_
      intro n ts2 hn
      refine Post.bind post_expect ?_
      intro _ ts3 ⟨_, hrb⟩
      exact Post.ok ⟨_, _, rfl, inv_mk _, canon_of_pendCanon_is hn hrb (Or.inr rfl)⟩
    · intro d ts
      rw [parseArray]
      refine Post.bind post_expect ?_
      intro _ ts1 _
      refine Post.bind (ih.arrL) ?_
      intro ns ts2 hns
      refine Post.bind post_expect ?_
      intro _ ts3 _
      exact Post.ok (by simp [canon, inv_mk, hns.1])
    · intro d b ts
      rw [arrayLoop]
      refine Post.ite' (fun hrb => Post.ok ⟨rfl, fun _ => pend_false_of_is hrb (Or.inr rfl)⟩) (fun _ => ?_)
      refine Post.bind post_sep ?_
      intro _ ts1 hsep
      have hpend : b = false → pendB ts = false := pend_false_of_sep hsep
      refine Post.ite (Post.ok ⟨rfl, hpend⟩) ?_
      refine Post.bind (ih.expr) ?_
      intro n ts2 hn
      refine Post.bind (ih.arrL) ?_
      intro ns ts3 hns
      refine Post.ok ⟨?_, hpend⟩
      simp only [canonList, canon_of_pendCanon hn (hns.2 rfl), hns.1, Bool.and_self]
    · intro d ts
      rw [parseMap]
      refine Post.bind post_expect ?_
      intro _ ts1 _
      refine Post.bind (ih.mapL) ?_
      intro ps ts2 hps
      refine Post.bind post_expect ?_
      intro _ ts3 _
      refine Post.ok ?_
      have : (mk (cur ts).loc).loc = (cur ts).loc := rfl
      simp [canon, inv_mk, this, hps.1]
    · intro d l b ts
      rw [mapLoop]
      refine Post.ite' (fun hrb => Post.ok ⟨rfl, fun _ => pend_false_of_is hrb (Or.inr rfl)⟩) (fun _ => ?_)
      refine Post.bind post_sep ?_
      intro _ ts1 hsep
      have hpend : b = false → pendB ts = false := pend_false_of_sep hsep
      refine Post.ite (Post.ok ⟨rfl, hpend⟩) (Post.ite Post.err ?_)
      refine Post.bind (Q1 := PendCanon cfg d) ?_ ?_
      · refine Post.ite (Post.bind post_next ?_) (Post.ite (ih.expr) Post.err)
        intro _ ts2 _
        exact Post.ok (canonX_of_canon (n := .str _ _) (inv_mk _) _)
      · intro key ts2 hkey
        refine Post.bind post_expect ?_
        intro _ ts3 ⟨_, hcol⟩
        refine Post.bind (ih.expr) ?_
        intro v ts4 hv
        refine Post.bind (ih.mapL) ?_
        intro ps ts5 hps
        refine Post.ok ⟨?_, hpend⟩
        simp only [canonPairs, canon_of_pendCanon_is hkey hcol (Or.inl rfl), canon_of_pendCanon hv (hps.2 rfl), hps.1,
          decide_true, Bool.and_self]
    · intro d nd b ts hb
      rw [parsePostfix]
      refine Post.ite' (fun hk => ?_) (fun hk => Post.ok (base_stop hb (fun hk' => absurd hk' hk)))
      refine Post.ite' (fun hv => ?_) (fun hv => ?_)
      · have hbase := base_link b hb hk
        refine Post.bind post_next ?_
        intro _ ts1 _
        refine Post.bind post_next ?_
        intro _ ts2 _
        refine Post.ite Post.err ?_
        refine Post.ite ?_ ?_
        · refine Post.bind (ih.args) ?_
          intro args ts3 ha
          refine ih.post (baseOK_of_canon ts3 ?_)
          simp only [canon, inv_mk, Bool.true_and, Bool.and_eq_true]
          exact ⟨hbase, ha⟩
        · refine ih.post (baseOK_of_canon ts2 ?_)
          simp only [canon, inv_mk, Bool.true_and]
          exact hbase
      · refine Post.ite' (fun hlb => ?_) (fun _ => ?_)
        · have hbase := base_index hb hk hlb
          refine Post.bind post_next ?_
          intro _ ts1 _
          refine Post.ite ?_ ?_
          · refine Post.bind post_next ?_
            intro _ ts2 _
            refine Post.bind (can_bound ih.expr) ?_
            intro to ts3 hto
            refine Post.bind post_expect ?_
            intro _ ts4 ⟨_, hrb⟩
            refine ih.post (baseOK_of_canon ts4 ?_)
            simp only [canon, inv_mk, Bool.true_and, Bool.and_eq_true]
            exact ⟨⟨hbase, rfl⟩, hto hrb⟩
          · refine Post.bind (ih.expr) ?_
            intro fr ts2 hfr
            refine Post.ite' (fun hcol => ?_) (fun _ => ?_)
            · have hcfr := canon_of_pendCanon_is hfr hcol (Or.inl rfl)
              refine Post.bind post_next ?_
              intro _ ts3 _
              refine Post.bind (can_bound ih.expr) ?_
              intro to ts4 hto
              refine Post.bind post_expect ?_
              intro _ ts5 ⟨_, hrb⟩
              refine ih.post (baseOK_of_canon ts5 ?_)
              simp only [canon, inv_mk, Bool.true_and, Bool.and_eq_true]
              exact ⟨⟨hbase, hcfr⟩, hto hrb⟩
            · refine Post.bind post_expect ?_
              intro _ ts3 ⟨_, hrb⟩
              have hcfr := canon_of_pendCanon_is hfr hrb (Or.inr rfl)
              refine ih.post (baseOK_of_canon ts3 ?_)
              simp only [canon, inv_mk, Bool.true_and, Bool.and_eq_true]
              exact ⟨hbase, hcfr⟩
        · refine Post.ok (base_stop hb (fun _ => ?_))
          simp only [Bool.or_eq_true, not_or, Bool.not_eq_true] at hv
          exact hv.2
    · intro d ts
      rw [parseArguments]
      refine Post.bind post_expect ?_
      intro _ ts1 _
      refine Post.bind (ih.argsL) ?_
      intro ns ts2 hns
      refine Post.bind post_expect ?_
      intro _ ts3 _
      exact Post.ok hns.1
    · intro d b ts
      rw [argsLoop]
      refine Post.ite' (fun hrb => Post.ok ⟨rfl, fun _ => pend_false_of_is hrb (Or.inr rfl)⟩) (fun _ => ?_)
      refine Post.bind post_sep ?_
      intro _ ts1 hsep
      have hpend : b = false → pendB ts = false := pend_false_of_sep hsep
      refine Post.bind (ih.expr) ?_
      intro n ts2 hn
      refine Post.bind (ih.argsL) ?_
      intro ns ts3 hns
      refine Post.ok ⟨?_, hpend⟩
      simp only [canonList, canon_of_pendCanon hn (hns.2 rfl), hns.1, Bool.and_self]

/-- met by the lexer's output: its EOF token has the empty value -/
def EofPlain (ts : List Token) : Prop := ∀ t ∈ ts, t.kind = .eof → t.value ≠ "?."

theorem parseFuel_canonical (hy : ImgHyp cfg) (f : Nat) (ts : List Token) (hE : EofPlain ts) (t : Node)
    (h : parseFuel cfg f ts = .ok t) : canon cfg 0 t = true := by
  obtain ⟨rest, hr, hk⟩ := (parseFuel_eq_ok cfg).1 h
  have hx : canonX cfg (pendB rest) 0 t = true := (canAt cfg hy f).expr t rest hr
  have hsuf : rest <:+ ts := parseExpression_suffix cfg hr
  have hp : pendB rest = false := by
    unfold pendB
    have hk' : (cur rest).kind = .eof := by simpa using hk
    cases rest with
    | nil => simp [cur, eofTok]
    | cons t0 tl =>
      have hmem : t0 ∈ ts := hsuf.subset (by simp)
      have := hE t0 hmem hk'
      simp [cur, this]
  rw [hp] at hx
  exact canon_of_canonX_false hx

theorem gen_builtin_entry (n : String) (ar : Nat) (h : Gen.parserTables.builtins.lookup n = some ar) :
    (ar = 1 ∧ n = "len") ∨ ar = 2 := by
  have hall : Gen.parserTables.builtins.all (fun x => (x.2 == 1 && x.1 == "len") || x.2 == 2) = true := by
    decide +kernel
  obtain ⟨l₁, l₂, he, _⟩ := List.lookup_eq_some_iff.mp h
  have := List.all_eq_true.mp hall (n, ar) (by rw [he]; simp)
  simpa using this

end ExprModel.Parser
