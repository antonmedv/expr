import ExprModel.Proofs.CheckerElab
/-
The stateful visitor of checker/checker.go (first error kept, early returns, collection stack) computes
exactly the compositional rules `synth`:  starting from a clean state, `visit` ends in a clean state with
type `τ` iff `synth = some τ`; and once the state is not clean (an error or a panic has been recorded)
nothing ever cleans it again.  Hence a violation of a rule *anywhere* in the expression is rejected.
The induction (`visit_tracks`) is stated in `Tracks`, which composes along the visitor's steps (`Tracks.seq`); `VSpec`, the
statement above, follows from it and `visit_of_synth` (`visit_spec`).
-/
namespace ExprModel

/-- a step of the visitor from `st` to `st'` delivering `got`, against the rules' verdict `o`.  An early exit ends unclean, so
nothing is asked of what it delivers; that a verdict `some` ends clean needs no induction of its own (`visit_of_synth`). -/
def Tracks {α : Type} (st st' : CState) (o : Option α) (got : α) : Prop :=
  st'.colls = st.colls ∧ (CkGood st' → CkGood st ∧ o = some got)

/-- For a slice bound, a list of elements and the arguments of a call the rules answer with a Boolean; `okWhen` makes it a
verdict (`some true` or `none`), so that at a clean end the visitor's own flag cannot be `false` (`Tracks.flag_false`). -/
def okWhen (b : Bool) : Option Bool := if b then some true else none

theorem okWhen_eq_some {b a : Bool} (h : okWhen b = some a) : b = true ∧ a = true := by
  cases b
  · cases h
  · cases h; exact ⟨rfl, rfl⟩

namespace Tracks
variable {α β : Type} {st st' st1 st2 : CState}

theorem pure (st : CState) (a : α) : Tracks st st (some a) a := ⟨rfl, fun h => ⟨h, rfl⟩⟩

theorem bad {got : α} (hc : st1.colls = st.colls) (hb : ¬ CkGood st1) : Tracks st st1 none got :=
  ⟨hc, fun h => absurd h hb⟩

theorem fail (st : CState) (loc : Loc) (c : CheckErrClass) (got : α) : Tracks st (st.fail loc c) none got :=
  bad (fail_colls st loc c) (fail_not_good st loc c)

theorem setPanic (st : CState) (msg : String) (got : α) : Tracks st (st.setPanic msg) none got :=
  bad (setPanic_colls st msg) (setPanic_not_good st msg)

theorem orFail (r : Rule) (loc : Loc) (st : CState) :
    Tracks st (orFail r loc st).2 (Except.toOption' r) (orFail r loc st).1 := by
  cases r with
  | ok t => exact pure st t
  | error c => exact fail st loc c _

/-- `o` is the rules' verdict on the whole, `o2` their verdict on what remains once the first step has delivered `g1`.  The
cases leave `o2` open: a closing step `h2` (`.orFail`, `.pure`, an induction hypothesis) fixes it, and where more steps follow
it is what `rw [h]` in `hs` leaves of `o`, to be simplified in the goal that remains. -/
theorem seq {o1 : Option α} {g1 : α} {o2 o : Option β} {g2 : β} (h1 : Tracks st st1 o1 g1)
    (hs : o1 = some g1 → o = o2) (h2 : st1.colls = st.colls → Tracks st1 st2 o2 g2) : Tracks st st2 o g2 := by
  obtain ⟨c1, a1⟩ := h1
  obtain ⟨c2, a2⟩ := h2 c1
  refine ⟨c2.trans c1, fun hg => ?_⟩
  obtain ⟨hg1, e2⟩ := a2 hg
  obtain ⟨hg0, e1⟩ := a1 hg1
  exact ⟨hg0, (hs e1).trans e2⟩

theorem flag_false {b : Bool} (h : Tracks st st' (okWhen b) false) : ¬ CkGood st' := fun hg => by
  have := (okWhen_eq_some (h.2 hg).2).2
  cases this

theorem exit {o : Option α} {g : α} {o' : Option β} {g' : β} (h : Tracks st st' o g) (hb : ¬ CkGood st') :
    Tracks st st' o' g' :=
  ⟨h.1, fun hg => absurd hg hb⟩

theorem inScope {o : Option α} {g : α} {coll : OTy}
    (h : Tracks { st with colls := coll :: st.colls } st' o g) : Tracks st { st' with colls := st'.colls.tail } o g :=
  ⟨by show st'.colls.tail = st.colls; rw [h.1]; rfl, h.2⟩
end Tracks

def VTracks (cfg : CheckCfg) (n : Node) : Prop :=
  ∀ st : CState, Tracks st (visit cfg n st).2.2 (synth cfg st.colls n) (visit cfg n st).2.1

def BSpec (cfg : CheckCfg) (b : Option Node) : Prop :=
  ∀ st : CState, Tracks st (visitBound cfg b st).2.2 (okWhen (synthBound cfg st.colls b)) (visitBound cfg b st).2.1

def LSpec (cfg : CheckCfg) (ns : List Node) : Prop :=
  ∀ st : CState, Tracks st (visitList cfg ns st).2 (okWhen (synthList cfg st.colls ns)) true

def ASpec (cfg : CheckCfg) (ins : List Ty) (variadic : Bool) (numIn offset : Nat) (args : List Node) : Prop :=
  ∀ (i : Nat) (st : CState),
    Tracks st (checkArgs cfg ins variadic numIn offset i args st).2.2
      (okWhen (synthArgs cfg st.colls ins variadic numIn offset i args))
      (checkArgs cfg ins variadic numIn offset i args st).2.1

theorem rule2_tracks {cfg : CheckCfg} {l r : Node} (ihl : VTracks cfg l) (ihr : VTracks cfg r) (rule : OTy → OTy → Rule)
    (loc : Loc) (st : CState) :
    Tracks st
      (orFail (rule (visit cfg l st).2.1 (visit cfg r (visit cfg l st).2.2).2.1) loc (visit cfg r (visit cfg l st).2.2).2.2).2
      (match synth cfg st.colls l, synth cfg st.colls r with
        | some lt, some rt => Except.toOption' (rule lt rt)
        | _, _ => none)
      (orFail (rule (visit cfg l st).2.1 (visit cfg r (visit cfg l st).2.2).2.1) loc (visit cfg r (visit cfg l st).2.2).2.2).1 :=
  (ihl st).seq (fun h => by rw [h]) fun hc =>
    (hc ▸ ihr _).seq (fun h => by rw [h]) fun _ => .orFail _ _ _

theorem visit_leaf_tracks (cfg : CheckCfg) (n : Node) (τ : OTy)
    (hv : ∀ st, visit cfg n st = (setKd n τ, τ, st)) (hs : ∀ cs, synth cfg cs n = some τ) : VTracks cfg n := by
  intro st
  rw [hv st, hs]
  exact .pure st τ

/-- `mk` stands for the node the case builds (`method` or `func`); state and type do not depend on it. -/
theorem plan_tracks {cfg : CheckCfg} {args : List Node}
    (iha : ∀ ins variadic numIn offset, ASpec cfg ins variadic numIn offset args) (fn : Ty) (isMethod : Bool)
    (loc : Loc) (st : CState) (mk : List Node → OTy → Node) :
    Tracks st
      (match funcPlan fn isMethod args.length with
        | .inl rule => (mk args (orFail rule loc st).1, orFail rule loc st)
        | .inr (ins, variadic, numIn, offset, out) =>
          let r := checkArgs cfg ins variadic numIn offset 0 args st
          (mk r.1 (if r.2.1 then some out else ifaceTy), (if r.2.1 then some out else ifaceTy), r.2.2)).2.2
      (match funcPlan fn isMethod args.length with
        | .inl rule => Except.toOption' rule
        | .inr (ins, variadic, numIn, offset, out) =>
          if synthArgs cfg st.colls ins variadic numIn offset 0 args then some (some out) else none)
      (match funcPlan fn isMethod args.length with
        | .inl rule => (mk args (orFail rule loc st).1, orFail rule loc st)
        | .inr (ins, variadic, numIn, offset, out) =>
          let r := checkArgs cfg ins variadic numIn offset 0 args st
          (mk r.1 (if r.2.1 then some out else ifaceTy), (if r.2.1 then some out else ifaceTy), r.2.2)).2.1 := by
  cases funcPlan fn isMethod args.length with
  | inl rule => exact .orFail rule loc st
  | inr q =>
    obtain ⟨ins, variadic, numIn, offset, out⟩ := q
    dsimp only
    exact (iha ins variadic numIn offset 0 st).seq
      (fun h => by rw [(okWhen_eq_some h).1, (okWhen_eq_some h).2]; rfl) fun _ => .pure _ _

mutual

theorem visit_tracks (cfg : CheckCfg) : ∀ n : Node, VTracks cfg n
  | .nil m => visit_leaf_tracks cfg _ none (fun st => visit_nil cfg st m) (fun cs => synth_nil cfg cs m)
  | .int m v => visit_leaf_tracks cfg _ intTy (fun st => visit_int cfg st m v) (fun cs => synth_int cfg cs m v)
  | .float m b => visit_leaf_tracks cfg _ floatTy (fun st => visit_float cfg st m b) (fun cs => synth_float cfg cs m b)
  | .bool m b => visit_leaf_tracks cfg _ boolTy (fun st => visit_bool cfg st m b) (fun cs => synth_bool cfg cs m b)
  | .str m s => visit_leaf_tracks cfg _ stringTy (fun st => visit_str cfg st m s) (fun cs => synth_str cfg cs m s)
  | .ident m name ns => fun st => by
    simp only [visit, synth]
    exact .orFail _ _ _
  | .pointer m => fun st => by
    simp only [visit, synth]
    exact .orFail _ _ _
  | .const m v => fun st => by
    simp only [visit, synth]
    cases cfg.dt.constNodePanic with
    | true => exact .setPanic st _ _
    | false => exact .pure st _
  | .unary m op x => fun st => by
    simp only [visit, synth]
    exact (visit_tracks cfg x st).seq (fun h => by rw [h]) fun _ => .orFail _ _ _
  | .prop m x name ns => fun st => by
    simp only [visit, synth]
    exact (visit_tracks cfg x st).seq (fun h => by rw [h]) fun _ => .orFail _ _ _
  | .binary m op l r => fun st => by
    simp only [visit, synth]
    exact rule2_tracks (visit_tracks cfg l) (visit_tracks cfg r) (binaryRule cfg.dt op) m.loc st
  | .matches m hasRe l r => fun st => by
    simp only [visit, synth]
    exact rule2_tracks (visit_tracks cfg l) (visit_tracks cfg r) matchesRule m.loc st
  | .index m x i => fun st => by
    simp only [visit, synth]
    exact rule2_tracks (visit_tracks cfg x) (visit_tracks cfg i) (indexRule cfg.dt) m.loc st
  | .pair m k v => fun st => by
    have h1 := visit_tracks cfg k st
    simp only [visit, synth]
    generalize visit cfg k st = vk at h1 ⊢
    obtain ⟨k', kt, st1⟩ := vk
    dsimp only at h1 ⊢
    -- the rule on the key sits under the `match` on both verdicts, which `rw` alone does not reduce: `o2` is written out
    refine h1.seq (o2 := match synth cfg st.colls v with
        | some _ => if (Except.toOption' (pairKeyRule cfg.dt kt)).isSome then some none else none
        | none => none)
      (fun h => by rw [h]; cases synth cfg st.colls v <;> rfl) fun hc => ?_
    refine (Tracks.orFail (pairKeyRule cfg.dt kt) k'.loc st1).seq (o2 := (synth cfg st.colls v).map fun _ => none)
      (fun h => by rw [h]; cases synth cfg st.colls v <;> rfl) fun hc2 => ?_
    exact ((hc2.trans hc) ▸ visit_tracks cfg v _).seq (fun h => by rw [h]; rfl) fun _ => .pure _ _
  | .closure m x => fun st => by
    have h1 := visit_tracks cfg x st
    simp only [visit, synth]
    generalize visit cfg x st = vx at h1 ⊢
    obtain ⟨x', t, st1⟩ := vx
    dsimp only at h1 ⊢
    cases t with
    | some bt => exact h1.seq (fun h => by rw [h]) fun _ => .pure st1 _
    | none =>
      cases hp : cfg.dt.closureNilPanic with
      | true =>
        exact h1.seq (fun h => by rw [h]; simp only [if_true]) fun _ => .setPanic st1 _ _
      | false =>
        exact h1.seq (fun h => by rw [h]; simp only [Bool.false_eq_true, if_false]) fun _ => .pure st1 _
  | .cond m c a b => fun st => by
    have h1 := visit_tracks cfg c st
    simp only [visit, synth]
    generalize visit cfg c st = vc at h1 ⊢
    obtain ⟨c', ct, st1⟩ := vc
    dsimp only at h1 ⊢
    by_cases hb : isBoolT ct = true
    · refine h1.seq (fun h => by rw [h]) fun hc => ?_
      simp only [hb, Bool.not_true, Bool.false_eq_true, if_false]
      refine (hc ▸ visit_tracks cfg a st1).seq (fun h => by rw [h]) fun hc2 => ?_
      exact ((hc2.trans hc) ▸ visit_tracks cfg b _).seq (fun h => by rw [h]) fun _ => .pure _ _
    · -- non-boolean condition: error at the condition, branches not visited
      simp only [hb, Bool.not_false, if_true]
      exact h1.seq (fun h => by rw [h]; simp only [hb, Bool.not_false, if_true]) fun _ => .fail st1 _ _ _
  | .array m xs => fun st => by
    simp only [visit, synth]
    exact (list_spec cfg xs st).seq (fun h => by rw [(okWhen_eq_some h).1]; rfl) fun _ => .pure _ _
  | .map m ps => fun st => by
    simp only [visit, synth]
    exact (list_spec cfg ps st).seq (fun h => by rw [(okWhen_eq_some h).1]; rfl) fun _ => .pure _ _
  | .slice m x f t => fun st => by
    have h1 := visit_tracks cfg x st
    simp only [visit, synth]
    generalize visit cfg x st = vx at h1 ⊢
    obtain ⟨x', tx, st1⟩ := vx
    dsimp only at h1 ⊢
    cases hsl : sliceable cfg.dt tx with
    | false =>
      exact h1.seq (fun h => by rw [h]; simp only [hsl]; rfl) fun _ => .fail st1 _ _ _
    | true =>
      simp only [if_true]
      refine h1.seq (fun h => by rw [h]) fun hc => ?_
      simp only [hsl, Bool.true_and]
      have hf := hc ▸ bound_spec cfg f st1
      generalize visitBound cfg f st1 = vf at hf ⊢
      obtain ⟨f', fok, st2⟩ := vf
      dsimp only at hf ⊢
      cases fok with
      | false =>
        exact hf.exit hf.flag_false
      | true =>
        refine hf.seq (fun h => by rw [(okWhen_eq_some h).1]) fun hc2 => ?_
        simp only [Bool.true_and]
        have ht := (hc2.trans hc) ▸ bound_spec cfg t st2
        generalize visitBound cfg t st2 = vt at ht ⊢
        obtain ⟨t', tok, st3⟩ := vt
        dsimp only at ht ⊢
        cases tok with
        | false =>
          exact ht.exit ht.flag_false
        | true =>
          exact ht.seq (fun h => by rw [(okWhen_eq_some h).1]; rfl) fun _ => .pure st3 _
  | .method m x name args ns => fun st => by
    have h1 := visit_tracks cfg x st
    simp only [visit, synth]
    generalize visit cfg x st = vx at h1 ⊢
    obtain ⟨x', t, st1⟩ := vx
    dsimp only at h1 ⊢
    cases hmt : methodTarget cfg.dn t name with
    | none =>
      dsimp only
      cases ns <;>
        exact h1.seq (fun h => by rw [h]; simp only [hmt]; rfl) fun _ => .orFail _ m.loc st1
    | some fm =>
      dsimp only
      exact h1.seq (fun h => by rw [h]; simp only [hmt]; rfl) fun hc =>
        hc ▸ plan_tracks (fun ins v numIn off => args_spec cfg ins v numIn off args) fm.1 fm.2 m.loc st1
          (fun as r => setKd (.method m x' name as ns) r)
  | .func m name args fast => fun st => by
    simp only [visit, synth]
    cases funcTargetC cfg name with
    | none => cases cfg.strict <;> exact .orFail _ m.loc st
    | some fm =>
      exact plan_tracks (fun ins v numIn off => args_spec cfg ins v numIn off args) fm.1 fm.2 m.loc st
        (fun as r => setKd (.func m name as (fastCall cfg.dt fm.1 fm.2)) r)
  -- a builtin with no argument or more than two is an arity error, on both sides
  | .builtin m name [] | .builtin m name (_ :: _ :: _ :: _) => fun st => by
    simp only [visit, synth]; exact .fail st _ _ _
  | .builtin m name [a] => fun st => by
    simp only [visit, synth]
    cases name == "len" with
    | true => exact (visit_tracks cfg a st).seq (fun h => by rw [h]; rfl) fun _ => .orFail _ _ _
    | false => exact .fail st _ _ _
  | .builtin m name [a, c] => fun st => by
    simp only [visit, synth]
    cases isCollBuiltin name with
    | false => exact .fail st _ _ _
    | true =>
      simp only [↓reduceIte]
      have h1 := visit_tracks cfg a st
      generalize visit cfg a st = va at h1 ⊢
      obtain ⟨a', coll, st1⟩ := va
      dsimp only at h1 ⊢
      cases harr : isArrayT coll with
      | false =>
        simp only [Bool.not_false, ↓reduceIte]
        exact h1.seq (fun h => by rw [h]; simp only [harr]; rfl) fun _ => .fail st1 _ _ _
      | true =>
        simp only [Bool.not_true, Bool.false_eq_true, ↓reduceIte]
        refine h1.seq (fun h => by rw [h]) fun hc => ?_
        simp only [harr, Bool.not_true, Bool.false_eq_true, if_false]
        rw [← hc]
        exact (visit_tracks cfg c { st1 with colls := coll :: st1.colls }).inScope.seq (fun h => by rw [h]) fun _ =>
          .orFail _ _ _

theorem bound_spec (cfg : CheckCfg) : ∀ b : Option Node, BSpec cfg b
  | none => fun st => by
    rw [visitBound_none, synthBound_none]; exact .pure st true
  | some n => fun st => by
    have h1 := visit_tracks cfg n st
    simp only [visitBound, synthBound]
    generalize visit cfg n st = v at h1 ⊢
    obtain ⟨n', t, st1⟩ := v
    dsimp only at h1 ⊢
    cases hi : isIntegerT t with
    | true => exact h1.seq (fun h => by rw [h]; simp only [hi]; rfl) fun _ => .pure st1 true
    | false =>
      exact h1.seq (fun h => by rw [h]; simp only [hi]; rfl) fun _ => .fail st1 _ _ false

theorem list_spec (cfg : CheckCfg) : ∀ ns : List Node, LSpec cfg ns
  | [] => fun st => by
    rw [visitList_nil, synthList_nil]; exact .pure st true
  | n :: ns => fun st => by
    simp only [visitList, synthList]
    exact (visit_tracks cfg n st).seq (fun h => by rw [h]; rfl) fun hc => hc ▸ list_spec cfg ns _

theorem args_spec (cfg : CheckCfg) (ins : List Ty) (variadic : Bool) (numIn offset : Nat) :
    ∀ args : List Node, ASpec cfg ins variadic numIn offset args
  | [] => fun i st => by
    rw [checkArgs_nil, synthArgs_nil]; exact .pure st true
  | a :: rest => fun i st => by
    have h1 := visit_tracks cfg a st
    simp only [checkArgs, synthArgs]
    generalize visit cfg a st = va at h1 ⊢
    obtain ⟨a', t0, st1⟩ := va
    dsimp only at h1 ⊢
    cases hfit : argFits (argType cfg.dt a t0 (paramFor ins variadic numIn offset i))
        (paramFor ins variadic numIn offset i) with
    | true =>
      exact h1.seq (fun h => by rw [h]; simp only [hfit]; rfl) fun hc =>
        hc ▸ args_spec cfg ins variadic numIn offset rest (i + 1) st1
    | false =>
      exact h1.seq (fun h => by rw [h]; simp only [hfit]; rfl) fun _ => .fail st1 _ _ false

end

def VSpec (cfg : CheckCfg) (n : Node) : Prop :=
  ∀ st : CState,
    (visit cfg n st).2.2.colls = st.colls ∧
    (¬ CkGood st → ¬ CkGood (visit cfg n st).2.2) ∧
    (CkGood st →
      match synth cfg st.colls n with
      | some τ => (visit cfg n st).2.1 = τ ∧ CkGood (visit cfg n st).2.2
      | none => ¬ CkGood (visit cfg n st).2.2)

theorem VSpec.of_tracks {cfg : CheckCfg} {n : Node} (h : VTracks cfg n) : VSpec cfg n := by
  intro st
  obtain ⟨c, a⟩ := h st
  refine ⟨c, fun hb hg' => hb (a hg').1, fun hg => ?_⟩
  cases hs : synth cfg st.colls n with
  | none => exact fun hg' => by have := (a hg').2; rw [hs] at this; cases this
  | some τ =>
    rw [visit_of_synth cfg n st τ hs]
    exact ⟨rfl, hg⟩

theorem visit_spec (cfg : CheckCfg) : ∀ n : Node, VSpec cfg n :=
  fun n => .of_tracks (visit_tracks cfg n)

theorem visit_leaf_spec (cfg : CheckCfg) (n : Node) (τ : OTy)
    (hv : ∀ st, visit cfg n st = (setKd n τ, τ, st)) (hs : ∀ cs, synth cfg cs n = some τ) : VSpec cfg n :=
  .of_tracks (visit_leaf_tracks cfg n τ hv hs)

def AllV (cfg : CheckCfg) : List Node → Prop
  | [] => True
  | n :: ns => VSpec cfg n ∧ AllV cfg ns

theorem all_spec (cfg : CheckCfg) : ∀ ns : List Node, AllV cfg ns
  | [] => trivial
  | n :: ns => ⟨visit_spec cfg n, all_spec cfg ns⟩

/-- the converse of `visit_of_synth` -/
theorem visit_clean {cfg : CheckCfg} {n : Node} {st : CState} (hg : CkGood (visit cfg n st).2.2) :
    synth cfg st.colls n = some (visit cfg n st).2.1 ∧ (visit cfg n st).1 = annot cfg st.colls n := by
  have hs := ((visit_tracks cfg n st).2 hg).2
  exact ⟨hs, by rw [visit_of_synth cfg n st _ hs]⟩

/-- **Acceptance, with the tree**: `checker.Check` answers `ok n' τ` exactly when the rules give `n` the type `τ`, `τ`
satisfies the result directive, and `n'` is `n` annotated. -/
theorem check_ok_iff_annot (cfg : CheckCfg) (n n' : Node) (τ : OTy) :
    check cfg n = .ok n' τ ↔
      synth cfg [] n = some τ ∧ n' = annot cfg [] n ∧ expectTest cfg.dt cfg.expect τ = none := by
  rw [check_ok_iff_visit]
  constructor
  · rintro ⟨rfl, rfl, hg, hx⟩
    exact ⟨(visit_clean hg).1, (visit_clean hg).2, hx⟩
  · rintro ⟨hs, rfl, hx⟩
    rw [visit_of_synth cfg n {} τ hs]
    exact ⟨rfl, rfl, ⟨rfl, rfl⟩, hx⟩

end ExprModel
