import ExprModel.Proofs.ParserPost
/-
Fuel sufficiency of the parser model: with fuel `6·|tokens| + rank` (ranks 1 to 6 order the functions so that a
call made before a token is consumed goes to a smaller rank: see `FinAt`) no parser function runs out of fuel,
and a successful call never returns more tokens than it was given (strictly fewer for the functions that must
consume).  The entry point `parseExpression` needs `6·|tokens| + 5`; the model's `fuelFor ts = 12·|tokens| + 16`
is more than that.  Hence `parseFuel (fuelFor ts) ts` always answers: the model terminates with call depth
linear in the number of tokens.
-/
namespace ExprModel.Parser

/-- `r` is not out of fuel, and a success leaves at least `k` tokens fewer than `ts` had: `k = 1` for the functions
    that must consume, `0` for the others.  Only lengths matter to the fuel (not that the rest is a suffix). -/
def Bnd {α : Type} (ts : List Token) (k : Nat) (r : Res α) : Prop :=
  r ≠ .fuel ∧ Post (fun _ ts' => ts'.length + k ≤ ts.length) r

namespace Bnd
variable {α β : Type} {ts : List Token} {k : Nat}

theorem err {e : Err} : Bnd ts k (Res.err e : Res α) := ⟨nofun, Post.err⟩

theorem ok {a : α} : Bnd ts 0 (Res.ok a ts) := ⟨nofun, Post.ok (Nat.le_refl _)⟩

theorem weak {r : Res α} (h : Bnd ts k r) : Bnd ts 0 r :=
  ⟨h.1, h.2.mono fun _ _ h1 => Nat.le_trans (Nat.le_add_right _ _) h1⟩

/-- the whole consumes what its first call does: for a function stated at `k = 1` whose first call is the one that
    consumes (`bind`, below, is for the functions stated at `0`) -/
theorem bind' {A : Res α} {K : α → List Token → Res β}
    (h1 : Bnd ts k A) (h2 : ∀ x ts1, ts1.length + k ≤ ts.length → Bnd ts1 0 (K x ts1)) : Bnd ts k (A.bind K) := by
  cases A with
  | ok x ts1 =>
    have hl := h1.2 x ts1 rfl
    exact ⟨(h2 x ts1 hl).1, (h2 x ts1 hl).2.mono fun _ _ h3 => by omega⟩
  | err e => exact err
  | fuel => exact absurd rfl h1.1

theorem bind {A : Res α} {K : α → List Token → Res β}
    (h1 : Bnd ts k A) (h2 : ∀ x ts1, ts1.length + k ≤ ts.length → Bnd ts1 0 (K x ts1)) : Bnd ts 0 (A.bind K) :=
  (bind' h1 h2).weak

theorem ite' {c : Prop} [Decidable c] {a b : Res α} (h1 : c → Bnd ts k a) (h2 : ¬c → Bnd ts k b) :
    Bnd ts k (if c then a else b) := by
  split
  · next h => exact h1 h
  · next h => exact h2 h

theorem ite {c : Prop} [Decidable c] {a b : Res α} (h1 : Bnd ts k a) (h2 : Bnd ts k b) :
    Bnd ts k (if c then a else b) :=
  ite' (fun _ => h1) (fun _ => h2)

theorem next : Bnd ts 1 (next ts) :=
  ⟨by unfold Parser.next; split <;> nofun, post_next.mono fun _ ts1 h => by rw [h]; exact Nat.le_refl _⟩

theorem expect {kd : TokKind} {v : String} : Bnd ts 1 (expect kd v ts) :=
  ite next err

theorem sep {first : Bool} {kd : TokKind} {v : String} :
    Bnd ts 0 (if first = true then Res.ok () ts else Parser.expect kd v ts) :=
  ite ok expect.weak

end Bnd

variable (cfg : Cfg)

/-- ranks: loops over elements 6, parseExpression 5, parsePrimary 4, parsePrimaryExpression 3,
    parseIdentifierExpression 2, the others 1.  `postDot`: for the pointer `.`, `parsePrimary` enters `parsePostfix`
    without having consumed, and there `parsePostfix` does -/
structure FinAt (f : Nat) : Prop where
  expr : ∀ {d p ts}, 6 * ts.length + 5 ≤ f → Bnd ts 1 (parseExpression cfg f d p ts)
  loop : ∀ {d p l ts}, 6 * ts.length + 1 ≤ f → Bnd ts 0 (exprLoop cfg f d p l ts)
  prim : ∀ {d ts}, 6 * ts.length + 4 ≤ f → Bnd ts 1 (parsePrimary cfg f d ts)
  cond : ∀ {d n ts}, 6 * ts.length + 1 ≤ f → Bnd ts 0 (parseConditional cfg f d n ts)
  pexp : ∀ {d ts}, 6 * ts.length + 3 ≤ f → Bnd ts 1 (parsePrimaryExpression cfg f d ts)
  ident : ∀ {d t ts}, 6 * ts.length + 2 ≤ f → Bnd ts 0 (parseIdentifierExpression cfg f d t ts)
  clos : ∀ {d ts}, 6 * ts.length + 1 ≤ f → Bnd ts 1 (parseClosure cfg f d ts)
  arr : ∀ {d ts}, 6 * ts.length + 1 ≤ f → Bnd ts 1 (parseArray cfg f d ts)
  arrL : ∀ {d b ts}, 6 * ts.length + 6 ≤ f → Bnd ts 0 (arrayLoop cfg f d b ts)
  map : ∀ {d ts}, 6 * ts.length + 1 ≤ f → Bnd ts 1 (parseMap cfg f d ts)
  mapL : ∀ {d l b ts}, 6 * ts.length + 6 ≤ f → Bnd ts 0 (mapLoop cfg f d l b ts)
  post : ∀ {d n b ts}, 6 * ts.length + 1 ≤ f → Bnd ts 0 (parsePostfix cfg f d n b ts)
  postDot : ∀ {d n b ts}, 6 * ts.length + 1 ≤ f → (cur ts).is .operator "." = true →
    Bnd ts 1 (parsePostfix cfg f d n b ts)
  args : ∀ {d ts}, 6 * ts.length + 1 ≤ f → Bnd ts 1 (parseArguments cfg f d ts)
  argsL : ∀ {d b ts}, 6 * ts.length + 6 ≤ f → Bnd ts 0 (argsLoop cfg f d b ts)

/- After a consuming step any rank is affordable, before one only a smaller rank. -/
theorem finAt : ∀ f, FinAt cfg f
  | 0 => by constructor <;> intros <;> omega
  | f+1 => by
    have ih := finAt f
    constructor
    · intro d p ts hf
      rw [parseExpression]
      exact .bind' (ih.prim (by omega)) fun _ _ h1 => .bind (ih.loop (by omega)) fun _ _ h2 =>
        .ite (ih.cond (by omega)) .ok
    · intro d p l ts hf
      rw [exprLoop]
      split
      · refine .ite
          (.bind .next fun _ _ h1 => .bind (ih.expr (by omega)) fun r ts2 h2 => .ite ?_ (ih.loop (by omega)))
          .ok
        split
        · exact .ite .err (ih.loop (by omega))
        · exact ih.loop (by omega)
      · exact .ok
    · intro d ts hf
      rw [parsePrimary]
      split
      · exact .bind' .next fun _ _ h1 => .bind (ih.expr (by omega)) fun _ _ h2 => ih.post (by omega)
      · exact .ite
          (.bind' .next fun _ _ h1 => .bind (ih.expr (by omega)) fun _ _ h2 => .bind .expect fun _ _ h3 =>
            ih.post (by omega))
          (.ite (.ite (.bind' .next fun _ _ h1 => ih.post (by omega)) .err)
            (.ite' (fun hdot => .ite (ih.postDot (by omega) hdot) .err) fun _ => ih.pexp (by omega)))
    · intro d n ts hf
      rw [parseConditional]
      exact .ite
        (.bind .next fun _ _ h1 => .ite
          (.bind .next fun _ _ h2 => .bind (ih.expr (by omega)) fun _ _ h3 => ih.cond (by omega))
          (.bind (ih.expr (by omega)) fun _ _ h2 => .bind .expect fun _ _ h3 =>
            .bind (ih.expr (by omega)) fun _ _ h4 => ih.cond (by omega)))
        .ok
    · intro d ts hf
      rw [parsePrimaryExpression]
      split
      · exact .bind' .next fun _ _ h1 => .ite .ok (.ite .ok (.ite .ok
          (.bind (ih.ident (by omega)) fun _ _ h2 => ih.post (by omega))))
      · refine .bind' .next fun _ _ h1 => ?_
        split
        · exact .ok
        · exact .ok
        · exact .err
      · exact .bind' .next fun _ _ h1 => .ok
      · exact .ite (.bind' (ih.arr (by omega)) fun _ _ h1 => ih.post (by omega))
          (.ite (.bind' (ih.map (by omega)) fun _ _ h1 => ih.post (by omega)) .err)
    · intro d t ts hf
      rw [parseIdentifierExpression]
      refine .ite ?_ .ok
      split
      · exact .bind .expect fun _ _ h1 => .bind (k := 0)
          (.ite (.bind (ih.expr (by omega)) fun _ _ h2 => .ok)
            (.ite
              (.bind (ih.expr (by omega)) fun _ _ h2 => .bind .expect fun _ _ h3 =>
                .bind (ih.clos (by omega)) fun _ _ h4 => .ok)
              .ok))
          fun _ _ h5 => .bind .expect fun _ _ h6 => .ok
      · exact .bind (ih.args (by omega)) fun _ _ h1 => .ok
    · intro d ts hf
      rw [parseClosure]
      exact .bind' .expect fun _ _ h1 => .bind (ih.expr (by omega)) fun _ _ h2 => .bind .expect fun _ _ h3 => .ok
    · intro d ts hf
      rw [parseArray]
      exact .bind' .expect fun _ _ h1 => .bind (ih.arrL (by omega)) fun _ _ h2 => .bind .expect fun _ _ h3 => .ok
    · intro d b ts hf
      rw [arrayLoop]
      exact .ite .ok (.bind .sep fun _ _ h1 => .ite .ok
        (.bind (ih.expr (by omega)) fun _ _ h2 => .bind (ih.arrL (by omega)) fun _ _ h3 => .ok))
    · intro d ts hf
      rw [parseMap]
      exact .bind' .expect fun _ _ h1 => .bind (ih.mapL (by omega)) fun _ _ h2 => .bind .expect fun _ _ h3 => .ok
    · intro d l b ts hf
      rw [mapLoop]
      exact .ite .ok (.bind .sep fun _ _ h1 => .ite .ok (.ite .err
        (.bind (k := 0) (.ite (.bind .next fun _ _ h2 => .ok) (.ite (ih.expr (by omega)).weak .err))
          fun _ _ h2 => .bind .expect fun _ _ h3 => .bind (ih.expr (by omega)) fun _ _ h4 =>
            .bind (ih.mapL (by omega)) fun _ _ h5 => .ok)))
    · intro d n b ts hf
      rw [parsePostfix]
      refine .ite (.ite ?member (.ite ?index .ok)) .ok
      case member =>
        exact .bind .next fun _ _ h1 => .bind .next fun _ _ h2 => .ite .err
          (.ite (.bind (ih.args (by omega)) fun _ _ h3 => ih.post (by omega)) (ih.post (by omega)))
      case index =>
        refine .bind .next fun _ _ h1 => .ite ?_ ?_
        · exact .bind .next fun _ _ h2 => .bind (k := 0)
            (.ite .ok (.bind (ih.expr (by omega)) fun _ _ h3 => .ok))
            fun _ _ h3 => .bind .expect fun _ _ h4 => ih.post (by omega)
        · exact .bind (ih.expr (by omega)) fun _ _ h2 => .ite
            (.bind .next fun _ _ h3 => .bind (k := 0)
              (.ite .ok (.bind (ih.expr (by omega)) fun _ _ h4 => .ok))
              fun _ _ h4 => .bind .expect fun _ _ h5 => ih.post (by omega))
            (.bind .expect fun _ _ h3 => ih.post (by omega))
    · intro d n b ts hf hdot
      have hkv := kind_of_is hdot
      rw [parsePostfix]
      refine .ite' (fun _ => .ite' (fun _ => ?_) fun hv => absurd ?_ hv) fun hk => absurd ?_ hk
      · exact .bind' .next fun _ _ h1 => .bind .next fun _ _ h2 => .ite .err
          (.ite (.bind (ih.args (by omega)) fun _ _ h3 => ih.post (by omega)) (ih.post (by omega)))
      · simp only [hkv.2, beq_self_eq_true, Bool.true_or]
      · simp only [hkv.1, beq_self_eq_true, Bool.true_or]
    · intro d ts hf
      rw [parseArguments]
      exact .bind' .expect fun _ _ h1 => .bind (ih.argsL (by omega)) fun _ _ h2 => .bind .expect fun _ _ h3 => .ok
    · intro d b ts hf
      rw [argsLoop]
      exact .ite .ok (.bind .sep fun _ _ h1 =>
        .bind (ih.expr (by omega)) fun _ _ h2 => .bind (ih.argsL (by omega)) fun _ _ h3 => .ok)

theorem parseFuel_sufficient (ts : List Token) : parseFuel cfg (fuelFor ts) ts ≠ .outOfFuel := by
  have h := (finAt cfg (fuelFor ts)).expr (d := 0) (p := 0) (ts := ts) (by unfold fuelFor; omega)
  unfold parseFuel
  cases hr : parseExpression cfg (fuelFor ts) 0 0 ts with
  | ok n rest => simp only; split <;> intro hc <;> cases hc
  | err e => intro hc; cases hc
  | fuel => exact absurd hr h.1

end ExprModel.Parser
