import ExprModel.Proofs.RefineBytes
import ExprModel.Proofs.RefineTails
/-
C01: `step` reads opcode and operand from the program bytes; `execI` is its dispatch on a decoded instruction.
`step_at`: where the bytes at `s.ip` encode `i`, `step` *is* `execI i` (the only place the two are compared).
Five opcodes (`equalInt`, `equalString`, `exponent`, `matches_`, `matchesConst`) compute their result inline in `step`;
`execI` calls the function RefineTails names for it (`eqIntR`, `eqStrR`, `powR`, `matchR`), so that every opcode with a
library result has the one shape "pop, `liftR`, push".
-/
namespace ExprModel.Refine
open ExprModel

def argI (i : Instr) (s : VM) : RV (Nat × VM) := .ok (i.arg, { s with ip := s.ip + 2 })

def constI (cs : Array Val) (i : Instr) (s : VM) : RV (Val × VM) := do
  let (a, s) ← argI i s
  match cs[a]? with
  | some c => pure (c, s)
  | none => .error (.badop, s)

/-- `step` after the opcode byte has been consumed (`s.pp`, `s.ip` already updated), on the decoded instruction -/
def execI (c : Cfg) (cs : Array Val) (i : Instr) (s : VM) : RV VM :=
  match i.op with
  | .push => do let (v, s) ← constI cs i s; pure (s.push v)
  | .pop => do let (_, s) ← s.pop; pure s
  | .rot => do let (a, b, s) ← s.pop2; pure ((s.push b).push a)
  | .fetch => do
    let (k, s) ← constI cs i s
    pure (s.push (← liftR s (fetchV c.env k false)))
  | .fetchNilSafe => do
    let (k, s) ← constI cs i s
    pure (s.push (← liftR s (fetchV c.env k true)))
  | .fetchMap => do
    let (k, s) ← constI cs i s
    match c.env, k with
    | .map kvs, .str name => pure (s.push ((lookupKv name kvs).getD .nil))
    | _, _ => failV .type_ s
  | .true_ => pure (s.push (.bool true))
  | .false_ => pure (s.push (.bool false))
  | .nil_ => pure (s.push .nil)
  | .negate => do let (v, s) ← s.pop; pure (s.push (← liftR s (negV v)))
  | .not_ => do let (v, s) ← s.pop; pure (s.push (← liftR s (notV v)))
  | .equal => do let (a, b, s) ← s.pop2; pure (s.push (.bool (equalV a b)))
  | .equalInt => do let (a, b, s) ← s.pop2; pure (s.push (← liftR s (eqIntR a b)))
  | .equalString => do let (a, b, s) ← s.pop2; pure (s.push (← liftR s (eqStrR a b)))
  | .jump => do let (o, s) ← argI i s; pure { s with ip := s.ip + o }
  | .jumpIfTrue => do
    let (o, s) ← argI i s
    match ← s.current with
    | .bool true => pure { s with ip := s.ip + o }
    | .bool false => pure s
    | _ => failV .type_ s
  | .jumpIfFalse => do
    let (o, s) ← argI i s
    match ← s.current with
    | .bool false => pure { s with ip := s.ip + o }
    | .bool true => pure s
    | _ => failV .type_ s
  | .jumpBackward => do
    let (o, s) ← argI i s
    if o ≤ s.ip then pure { s with ip := s.ip - o } else failV .badop s
  | .in_ => do let (a, b, s) ← s.pop2; pure (s.push (.bool (← liftR s (inV a b))))
  | .less | .more | .lessOrEqual | .moreOrEqual | .add | .subtract | .multiply | .divide | .modulo => do
    let (a, b, s) ← s.pop2
    match binOpOf i.op with
    | some h => pure (s.push (← liftR s (binHelper h a b)))
    | none => failV .badop s
  | .exponent => do let (a, b, s) ← s.pop2; pure (s.push (← liftR s (powR c.world a b)))
  | .range => do
    let (a, b, s) ← s.pop2
    let lo ← liftR s (toIntR a)
    let hi ← liftR s (toIntR b)
    let size : Int := hi - lo + 1
    let counted : Int := if c.defects.rangeSizeSigned then size else (if size < 0 then 0 else size)
    if s.memory + counted ≥ s.limit then failV .budget s
    else
      let elems := rangeElems lo hi
      pure { (s.push (.arr (.num .int) elems)) with memory := s.memory + counted, created := s.created + elems.length }
  | .matches_ => do let (a, b, s) ← s.pop2; pure (s.push (← liftR s (matchR c.world a b)))
  | .matchesConst => do
    let (a, s) ← s.pop
    let (r, s) ← constI cs i s
    match r with
    | .regexp pat => pure (s.push (← liftR s (matchR c.world a (.str pat))))
    | _ => failV .type_ s
  | .contains => do let (a, b, s) ← s.pop2; pure (s.push (← liftR s (strOp strContains a b)))
  | .startsWith => do let (a, b, s) ← s.pop2; pure (s.push (← liftR s (strOp strHasPrefix a b)))
  | .endsWith => do let (a, b, s) ← s.pop2; pure (s.push (← liftR s (strOp strHasSuffix a b)))
  | .index => do let (a, b, s) ← s.pop2; pure (s.push (← liftR s (fetchV a b false)))
  | .slice => do
    let (fromV, s) ← s.pop
    let (toV, s) ← s.pop
    let (node, s) ← s.pop
    pure (s.push (← liftR s (sliceV node fromV toV)))
  | .property => do
    let (a, s) ← s.pop
    let (k, s) ← constI cs i s
    pure (s.push (← liftR s (fetchV a k false)))
  | .propertyNilSafe => do
    let (a, s) ← s.pop
    let (k, s) ← constI cs i s
    pure (s.push (← liftR s (fetchV a k true)))
  | .call | .callFast => do
    let (cv, s) ← constI cs i s
    match cv with
    | .call name size =>
      let (args, s) ← VM.popN size s []
      let r := callMember c.world c.env name args
      let s := if callHappened r then { s with log := (name, args) :: s.log } else s
      pure (s.push (← liftR s r))
    | _ => failV .type_ s
  | .method | .methodNilSafe => do
    let (cv, s) ← constI cs i s
    match cv with
    | .call name size =>
      let (args, s) ← VM.popN size s []
      let (obj, s) ← s.pop
      if i.op == .methodNilSafe && obj.isNilLike then pure (s.push .nil)
      else
        let r := callMember c.world obj name args
        let s := if callHappened r then { s with log := (name, args) :: s.log } else s
        pure (s.push (← liftR s r))
    | _ => failV .type_ s
  | .array => do
    let (n, s) ← s.pop
    match n with
    | .int .int size =>
      if size < 0 then failV .index s else
      let (elems, s) ← VM.popN size.toNat s []
      let s := { (s.push (.arr .iface elems)) with memory := s.memory + size, created := s.created + elems.length }
      if s.memory ≥ s.limit then failV .budget s else pure s
    | _ => failV .type_ s
  | .map => do
    let (n, s) ← s.pop
    match n with
    | .int .int size =>
      if size < 0 then failV .index s else
      let (flat, s) ← VM.popN (2 * size.toNat) s []
      let m ← liftR s (buildMap flat)
      let s := { (s.push (.map m)) with memory := s.memory + size, created := s.created + size.toNat }
      if s.memory ≥ s.limit then failV .budget s else pure s
    | _ => failV .type_ s
  | .len => do
    let v ← s.current
    pure (s.push (.int .int (← liftR s (lengthV v))))
  | .cast => do
    let (t, s) ← argI i s
    if t == 0 || t == 1 then do
      let (v, s) ← s.pop
      pure (s.push (← liftR s (castV t v)))
    else pure s
  | .store => do
    let (k, s) ← constI cs i s
    let key ← liftR s (constStr k)
    let (v, s) ← s.pop
    match s.scopes with
    | sc :: rest => pure { s with scopes := scopeSet key v sc :: rest }
    | [] => failV .underflow s
  | .load => do
    let (k, s) ← constI cs i s
    let key ← liftR s (constStr k)
    match s.scopes with
    | sc :: _ => pure (s.push ((lookupKv key sc).getD .nil))
    | [] => pure (s.push .nil)
  | .inc => do
    let (k, s) ← constI cs i s
    let key ← liftR s (constStr k)
    match s.scopes with
    | sc :: rest =>
      match lookupKv key sc with
      | some (.int .int i) => pure { s with scopes := scopeSet key (.int .int (wrap .int (i + 1))) sc :: rest }
      | _ => failV .type_ s
    | [] => failV .type_ s
  | .begin_ => pure { s with scopes := [] :: s.scopes }
  | .end_ =>
    match s.scopes with
    | _ :: rest => pure { s with scopes := rest }
    | [] => failV .underflow s

section
variable {c : Cfg} {cs : Array Val} {a : Nat} {st : List Val} {scs : List Scope} {ip pp : Nat} {mem lim : Int}
  {cr : Nat} {lg : List (String × List Val)}

theorem constI_bind {α : Type} {cs : Array Val} {i : Instr} {v : Val} {s : VM} {f : Val × VM → RV α} {y : RV α}
    (hv : cs[i.arg]? = some v) (hy : f (v, { s with ip := s.ip + 2 }) = y) : (constI cs i s >>= f) = y := by
  simp only [constI, argI, bind, Except.bind, hv, pure, Except.pure, ← hy]

theorem execI_binop {op : Op} {hlp : Helper} (hop : binOpOf op = some hlp) (x y : Val) :
    execI c cs ⟨op, a⟩ ⟨y :: x :: st, scs, ip, pp, mem, lim, cr, lg⟩ =
      (do let v ← liftR (⟨st, scs, ip, pp, mem, lim, cr, lg⟩ : VM) (binHelper hlp x y)
          pure (VM.push ⟨st, scs, ip, pp, mem, lim, cr, lg⟩ v)) := by
  cases op <;> cases hop <;> rfl

theorem execI_jumpIfTrue (v : Val) :
    execI c cs ⟨.jumpIfTrue, a⟩ ⟨v :: st, scs, ip, pp, mem, lim, cr, lg⟩ =
      match v with
      | .bool true => .ok ⟨v :: st, scs, ip + 2 + a, pp, mem, lim, cr, lg⟩
      | .bool false => .ok ⟨v :: st, scs, ip + 2, pp, mem, lim, cr, lg⟩
      | _ => .error (.type_, ⟨v :: st, scs, ip + 2, pp, mem, lim, cr, lg⟩) := rfl
theorem execI_jumpIfFalse (v : Val) :
    execI c cs ⟨.jumpIfFalse, a⟩ ⟨v :: st, scs, ip, pp, mem, lim, cr, lg⟩ =
      match v with
      | .bool false => .ok ⟨v :: st, scs, ip + 2 + a, pp, mem, lim, cr, lg⟩
      | .bool true => .ok ⟨v :: st, scs, ip + 2, pp, mem, lim, cr, lg⟩
      | _ => .error (.type_, ⟨v :: st, scs, ip + 2, pp, mem, lim, cr, lg⟩) := rfl

theorem execI_inc {sc : Scope} {key : String} (hv : cs[a]? = some (.str key)) :
    execI c cs ⟨.inc, a⟩ ⟨st, sc :: scs, ip, pp, mem, lim, cr, lg⟩ =
      match lookupKv key sc with
      | some (.int .int i) => .ok ⟨st, scopeSet key (.int .int (wrap .int (i + 1))) sc :: scs, ip + 2, pp, mem, lim, cr, lg⟩
      | _ => .error (.type_, ⟨st, sc :: scs, ip + 2, pp, mem, lim, cr, lg⟩) :=
  constI_bind (i := ⟨.inc, a⟩) hv rfl
end

theorem readArg_at {P : Prog} {k : Nat} {i : Instr} (h : BytesAt P k i) (ha : i.op.hasArg = true)
    (s : VM) (hs : s.ip = k + 1) : readArg P s = argI i s := by
  unfold readArg argI
  rw [hs, h.lo ha, show k + 1 + 1 = k + 2 from rfl, h.hi ha]
  simp only [arg_recompose _ h.fits]

theorem readConst_at {P : Prog} {k : Nat} {i : Instr} (h : BytesAt P k i) (ha : i.op.hasArg = true)
    (s : VM) (hs : s.ip = k + 1) : readConst P s = constI P.consts i s := by
  unfold readConst constI
  rw [readArg_at h ha s hs]
  rfl

theorem step_at {c : Cfg} {P : Prog} {k : Nat} {i : Instr} (h : BytesAt P k i) (s : VM) (hs : s.ip = k) :
    step c P s = execI c P.consts i { s with pp := k, ip := k + 1 } := by
  obtain ⟨op, arg⟩ := i
  have hop := h.op
  obtain ⟨st, scs, ip, pp, mem, lim, cr, lg⟩ := s
  simp only at hs hop
  subst hs
  unfold step
  rw [hop, Option.getD_some]
  dsimp only
  rw [Op.ofCode_code]
  unfold execI
  cases op
  case push | fetch | fetchNilSafe | fetchMap | call | callFast | method | methodNilSafe | store | load | inc =>
    simp only []
    rewrite [readConst_at h rfl _ rfl]
    rfl
  case jump | jumpIfTrue | jumpIfFalse | jumpBackward | cast =>
    simp only []
    rewrite [readArg_at h rfl _ rfl]
    rfl
  -- these two pop their operand before they read the constant
  case property | propertyNilSafe =>
    simp only []
    cases st
    · rfl
    · simp only [VM.pop, bind, Except.bind]
      rewrite [readConst_at h rfl _ rfl]
      rfl
  -- `step` writes the library function of these five inline
  case equalInt =>
    simp only []
    match st with
    | [] | [_] => rfl
    | y :: x :: st =>
      simp only [VM.pop2, VM.pop, bind, Except.bind, pure, Except.pure]
      split
      · rfl
      · rename_i hne; rw [eqIntR_else hne]; rfl
  case equalString =>
    simp only []
    match st with
    | [] | [_] => rfl
    | y :: x :: st =>
      simp only [VM.pop2, VM.pop, bind, Except.bind, pure, Except.pure]
      split
      · rfl
      · rename_i hne; rw [eqStrR_else hne]; rfl
  case exponent =>
    simp only []
    match st with
    | [] | [_] => rfl
    | y :: x :: st =>
      simp only [VM.pop2, VM.pop, bind, Except.bind, pure, Except.pure, powR]
      cases toFloat64Val x <;> cases toFloat64Val y <;> rfl
  case matchesConst =>
    simp only []
    cases st with
    | nil => rfl
    | cons x st =>
      simp only [VM.pop, bind, Except.bind]
      rewrite [readConst_at h rfl _ rfl]
      cases constI P.consts ⟨.matchesConst, arg⟩ _ with
      | error e => rfl
      | ok v =>
        obtain ⟨r, s'⟩ := v
        simp only []
        split
        · rename_i subj pat
          simp only [matchR]
          cases c.world.regexMatch pat subj <;> rfl
        · rename_i hne
          split
          · rename_i pat; rw [matchR_else fun a b hx _ => hne a pat hx rfl]; rfl
          · rfl
  case matches_ =>
    simp only []
    match st with
    | [] | [_] => rfl
    | y :: x :: st =>
      simp only [VM.pop2, VM.pop, bind, Except.bind, pure, Except.pure]
      split
      · rename_i subj pat
        simp only [matchR]
        cases c.world.regexMatch pat subj <;> rfl
      · rename_i hne; rw [matchR_else hne]; rfl
  -- no operand is read: the two clauses are the same term
  all_goals rfl

end ExprModel.Refine
