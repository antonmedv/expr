import ExprModel.Proofs.OptStep
import ExprModel.Proofs.OptPipeline
/-
What the optimizer rejects (`Backward`, `ErrAt`).  `cval` (OptStep) is the value of a constant integer expression in Go's
`int` arithmetic (`none`: not such an expression, or it divides by a constant zero); `dz n` says that `n`
contains an integer `/` or `%` whose operands are constant integer expressions and whose divisor is zero.
Both are defined on the ORIGINAL tree; the traversal lemmas carry them backwards through the rewrites.
-/
namespace ExprModel
namespace OptProofs
open Opt

def dzHere : Node → Bool
  | .binary _ op l r => (op == "/" || op == "%") && (cval l).isSome && cval r == some 0
  | _ => false

mutual
def dz : Node → Bool
  | .unary _ _ x => dz x
  | .binary m op l r => dzHere (.binary m op l r) || dz l || dz r
  | .matches _ _ l r => dz l || dz r
  | .prop _ x _ _ => dz x
  | .index _ x i => dz x || dz i
  | .slice _ x f t => dz x || dzOpt f || dzOpt t
  | .method _ x _ args _ => dz x || dzList args
  | .func _ _ args _ => dzList args
  | .builtin _ _ args => dzList args
  | .closure _ x => dz x
  | .cond _ a b d => dz a || dz b || dz d
  | .array _ xs => dzList xs
  | .map _ xs => dzList xs
  | .pair _ k v => dz k || dz v
  | .nil _ | .ident .. | .int .. | .float .. | .bool .. | .str .. | .const .. | .pointer _ => false
def dzList : List Node → Bool
  | [] => false
  | n :: ns => dz n || dzList ns
def dzOpt : Option Node → Bool
  | none => false
  | some n => dz n
end

structure Backward (rule : Rule) : Prop where
  cval : ∀ N st, cval (rule N st).1 = cval N
  dz : ∀ N st, dz (rule N st).1 = true → dz N = true

theorem cval_unary_congr (m : Meta) (op : String) {x x' : Node} (h : cval x' = cval x) :
    cval (.unary m op x') = cval (.unary m op x) := by simp only [cval, h]

theorem cval_binary_congr (m : Meta) (op : String) {l l' r r' : Node} (hl : cval l' = cval l) (hr : cval r' = cval r) :
    cval (.binary m op l' r') = cval (.binary m op l r) := by simp only [cval, hl, hr]

theorem dzHere_congr (m : Meta) (op : String) {l l' r r' : Node} (hl : cval l' = cval l) (hr : cval r' = cval r) :
    dzHere (.binary m op l' r') = dzHere (.binary m op l r) := by simp only [dzHere, hl, hr]

/-- what is proved about one traversal, by structural recursion: constant values are preserved, and a constant
    division by zero in the result, or an error raised on the way, stems from one in the tree walked -/
def BackOK (st : St) (n : Node) (r : Node × St) : Prop :=
  cval r.1 = cval n ∧ (dz r.1 = true → dz n = true) ∧ (r.2.err ≠ st.err → dz n = true)

def BackOKList (st : St) (ns : List Node) (r : List Node × St) : Prop :=
  (dzList r.1 = true → dzList ns = true) ∧ (r.2.err ≠ st.err → dzList ns = true)

def BackOKOpt (st : St) (o : Option Node) (r : Option Node × St) : Prop :=
  (dzOpt r.1 = true → dzOpt o = true) ∧ (r.2.err ≠ st.err → dzOpt o = true)

theorem err_or {A B : Prop} {a b c : St} (h1 : b.err ≠ a.err → A) (h2 : c.err ≠ b.err → B) (h : c.err ≠ a.err) : A ∨ B := by
  by_cases e : b.err = a.err
  · exact .inr (h2 (by rw [e]; exact h))
  · exact .inl (h1 e)

theorem err_seq {A : Prop} {a b c : St} (h1 : b.err ≠ a.err → A) (h2 : c.err ≠ b.err → A) (h : c.err ≠ a.err) : A :=
  (err_or h1 h2 h).elim id id

section
variable (ws : Bool) (rule : Rule) (hb : Backward rule)
  (herr : ∀ N st, (rule N st).2.err ≠ st.err → dzHere N = true)
include hb herr

/-- the step at a node whose children have been walked: `N'` is the node rebuilt from the walked children -/
theorem back_node (st st' : St) (n N' : Node) (hc : cval N' = cval n) (hd : dz N' = true → dz n = true)
    (hh : dzHere N' = true → dz n = true) (he : st'.err ≠ st.err → dz n = true) :
    BackOK st n (rule N' st') := by
  refine ⟨(hb.cval N' st').trans hc, fun h => hd (hb.dz N' st' h), fun h => ?_⟩
  by_cases h1 : (rule N' st').2.err = st'.err
  · exact he (by rw [← h1]; exact h)
  · exact hh (herr N' st' h1)

mutual
theorem walk_back : (n : Node) → (st : St) → BackOK st n (walk ws rule n st)
  | .nil _, st | .ident .., st | .int .., st | .float .., st | .bool .., st | .str .., st | .const .., st
  | .pointer _, st => by
    simp only [walk]
    exact back_node rule hb herr st st _ _ rfl id (fun h => by cases h) (fun h => absurd rfl h)
  | .unary m op x, st => by
    simp only [walk]
    obtain ⟨c1, d1, e1⟩ := walk_back x st
    exact back_node rule hb herr st _ _ _ (cval_unary_congr m op c1) d1 (fun h => by cases h) e1
  | .prop _ x _ _, st | .closure _ x, st => by
    simp only [walk]
    obtain ⟨_, d1, e1⟩ := walk_back x st
    exact back_node rule hb herr st _ _ _ rfl d1 (fun h => by cases h) e1
  | .binary m op l r, st => by
    simp only [walk]
    obtain ⟨c1, d1, e1⟩ := walk_back l st
    obtain ⟨c2, d2, e2⟩ := walk_back r (walk ws rule l st).2
    have hh : dzHere (.binary m op (walk ws rule l st).1 (walk ws rule r (walk ws rule l st).2).1) = true →
        dzHere (.binary m op l r) = true := (dzHere_congr m op c1 c2).symm.trans
    refine back_node rule hb herr st _ _ _ (cval_binary_congr m op c1 c2) ?_ ?_ ?_ <;> simp only [dz, Bool.or_eq_true]
    · exact Or.imp (Or.imp hh d1) d2
    · exact fun h => .inl (.inl (hh h))
    · exact fun h => (err_or e1 e2 h).elim (fun a => .inl (.inr a)) .inr
  | .matches _ _ l r, st | .index _ l r, st | .pair _ l r, st => by
    simp only [walk]
    obtain ⟨_, d1, e1⟩ := walk_back l st
    obtain ⟨_, d2, e2⟩ := walk_back r (walk ws rule l st).2
    refine back_node rule hb herr st _ _ _ rfl ?_ (fun h => by cases h) ?_ <;> simp only [dz, Bool.or_eq_true]
    · exact Or.imp d1 d2
    · exact err_or e1 e2
  | .slice m x f t, st => by
    simp only [walk]
    by_cases hws : ws = true
    · rw [if_pos hws]
      obtain ⟨_, d1, e1⟩ := walk_back x st
      obtain ⟨d2, e2⟩ := walkOpt_back f (walk ws rule x st).2
      obtain ⟨d3, e3⟩ := walkOpt_back t (walkOpt ws rule f (walk ws rule x st).2).2
      refine back_node rule hb herr st _ _ _ rfl ?_ (fun h => by cases h) ?_ <;> simp only [dz, Bool.or_eq_true]
      · exact Or.imp (Or.imp d1 d2) d3
      · exact err_or (err_or e1 e2) e3
    · rw [if_neg hws]
      obtain ⟨d2, e2⟩ := walkOpt_back f st
      obtain ⟨d3, e3⟩ := walkOpt_back t (walkOpt ws rule f st).2
      refine back_node rule hb herr st _ _ _ rfl ?_ (fun h => by cases h) ?_ <;> simp only [dz, Bool.or_eq_true]
      · exact Or.imp (Or.imp id d2) d3
      · exact fun h => (err_or e2 e3 h).elim (fun a => .inl (.inr a)) .inr
  | .method m x name args ns, st => by
    simp only [walk]
    obtain ⟨_, d1, e1⟩ := walk_back x st
    obtain ⟨d2, e2⟩ := walkList_back args (walk ws rule x st).2
    refine back_node rule hb herr st _ _ _ rfl ?_ (fun h => by cases h) ?_ <;> simp only [dz, Bool.or_eq_true]
    · exact Or.imp d1 d2
    · exact err_or e1 e2
  | .func _ _ xs _, st | .builtin _ _ xs, st | .array _ xs, st | .map _ xs, st => by
    simp only [walk]
    obtain ⟨d2, e2⟩ := walkList_back xs st
    exact back_node rule hb herr st _ _ _ rfl d2 (fun h => by cases h) e2
  | .cond m a b d, st => by
    simp only [walk]
    obtain ⟨_, d1, e1⟩ := walk_back a st
    obtain ⟨_, d2, e2⟩ := walk_back b (walk ws rule a st).2
    obtain ⟨_, d3, e3⟩ := walk_back d (walk ws rule b (walk ws rule a st).2).2
    refine back_node rule hb herr st _ _ _ rfl ?_ (fun h => by cases h) ?_ <;> simp only [dz, Bool.or_eq_true]
    · exact Or.imp (Or.imp d1 d2) d3
    · exact err_or (err_or e1 e2) e3
theorem walkList_back : (ns : List Node) → (st : St) → BackOKList st ns (walkList ws rule ns st)
  | [], st => by simp only [walkList]; exact ⟨id, fun h => absurd rfl h⟩
  | n :: ns, st => by
    simp only [walkList]
    obtain ⟨_, d1, e1⟩ := walk_back n st
    obtain ⟨d2, e2⟩ := walkList_back ns (walk ws rule n st).2
    refine ⟨?_, ?_⟩ <;> simp only [dzList, Bool.or_eq_true]
    · exact Or.imp d1 d2
    · exact err_or e1 e2
theorem walkOpt_back : (o : Option Node) → (st : St) → BackOKOpt st o (walkOpt ws rule o st)
  | none, st => by simp only [walkOpt]; exact ⟨id, fun h => absurd rfl h⟩
  | some n, st => by
    simp only [walkOpt]
    obtain ⟨_, d1, e1⟩ := walk_back n st
    exact ⟨d1, e1⟩
end
end

theorem dz_leaf_int (m : Meta) (v : Int) : dz (.int m v) = false := by simp only [dz]

theorem Step.backward {marks : Bool} {Rej : Prop} {New : Node → Prop} {N : Node} {st : St} {out : Node × St}
    (h : Step marks Rej New N st out) (hn : ∀ n', New n' → cval n' = cval N ∧ (dz n' = true → dz N = true)) :
    cval out.1 = cval N ∧ (dz out.1 = true → dz N = true) := by
  cases h with
  | keep => exact ⟨rfl, id⟩
  | reject => exact ⟨rfl, id⟩
  | new h => exact hn _ h

theorem LeafAt.dz {N n' : Node} (h : LeafAt N n') : dz n' = false := by
  obtain ⟨leaf, kd, hl, rfl⟩ := h
  cases hl <;> rfl

theorem fold_backward (fl : Flags) (w : World) : Backward (foldRule fl w) where
  cval := fun N st => ((foldRule_step fl w N st).backward fun _ h => ⟨h.cval, fun hd => by rw [h.leafAt.dz] at hd; cases hd⟩).1
  dz := fun N st => ((foldRule_step fl w N st).backward fun _ h => ⟨h.cval, fun hd => by rw [h.leafAt.dz] at hd; cases hd⟩).2

theorem fold_err_dzHere (fl : Flags) (w : World) (N : Node) (st : St)
    (h : (foldRule fl w N st).2.err ≠ st.err) : dzHere N = true := by
  obtain ⟨m, op, ma, a, mb, rfl, hop⟩ := (foldRule_step fl w N st).err h
  rcases hop with rfl | rfl <;> rfl

/-- membership is not arithmetic: `x in s` has no constant value and is no division -/
theorem inArrayNew_backward {fl : Flags} {N n' : Node} (h : InArrayNew fl N n') :
    cval n' = cval N ∧ (dz n' = true → dz N = true) := by
  obtain ⟨m, op, l, ma, xs, v, rfl, hop, rfl⟩ := h.shape
  have e : ∀ r, cval (.binary m op l r) = none := by
    intro r; rcases hop with rfl | rfl <;> (simp only [cval]; split <;> rfl)
  have d : ∀ r, dzHere (.binary m op l r) = false := by
    intro r; rcases hop with rfl | rfl <;> rfl
  refine ⟨(e _).trans (e _).symm, ?_⟩
  simp only [dz, d, Bool.false_or, Bool.or_false, Bool.or_eq_true]
  exact fun hl => .inl hl

theorem inArray_backward (fl : Flags) : Backward (inArrayRule fl) where
  cval := fun N st => ((inArrayRule_step fl N st).backward fun _ => inArrayNew_backward).1
  dz := fun N st => ((inArrayRule_step fl N st).backward fun _ => inArrayNew_backward).2

theorem inArray_no_err (fl : Flags) (N : Node) (st : St) : (inArrayRule fl N st).2 = st :=
  (inArrayRule_step fl N st).snd_eq

theorem repeatPass_back (ws : Bool) (rule : Rule) (hb : Backward rule)
    (herr : ∀ N st, (rule N st).2.err ≠ st.err → dzHere N = true) (k : Nat) (n : Node) :
    ResTo (fun n' => dz n' = true → dz n = true) (fun _ => dz n = true) (repeatPass ws rule k n) :=
  repeatPass_keeps (fun n1 h1 =>
    have ⟨_, d, e⟩ := walk_back ws rule hb herr n1 {}
    ⟨h1 ∘ d, fun l hl => h1 (e (by rw [hl]; exact Option.some_ne_none l))⟩) k n id

/-- the rule can record an error: at SOME node and visitor state — nothing ties `N` to a traversal; `walk_errAt`
    concludes this much from an error recorded during a walk -/
def ErrAt (rule : Rule) : Prop := ∃ N st, (rule N st).2.err ≠ st.err

theorem errAt_step (rule : Rule) (N : Node) (st st' : St) (h : (rule N st').2.err ≠ st.err)
    (hc : st'.err ≠ st.err → ErrAt rule) : ErrAt rule := by
  by_cases h1 : (rule N st').2.err = st'.err
  · exact hc (by rw [← h1]; exact h)
  · exact ⟨N, st', h1⟩

section
variable (ws : Bool) (rule : Rule)

mutual
theorem walk_errAt : (n : Node) → (st : St) → (walk ws rule n st).2.err ≠ st.err → ErrAt rule
  | .nil _, st, h | .ident .., st, h | .int .., st, h | .float .., st, h | .bool .., st, h | .str .., st, h
  | .const .., st, h | .pointer _, st, h => by
    simp only [walk] at h
    exact errAt_step rule _ st st h (fun hh => absurd rfl hh)
  | .unary _ _ x, st, h | .prop _ x _ _, st, h | .closure _ x, st, h => by
    simp only [walk] at h
    exact errAt_step rule _ st _ h (walk_errAt x st)
  | .binary _ _ l r, st, h | .matches _ _ l r, st, h | .index _ l r, st, h | .pair _ l r, st, h => by
    simp only [walk] at h
    exact errAt_step rule _ st _ h (err_seq (walk_errAt l st) (walk_errAt r _))
  | .slice m x f t, st, h => by
    simp only [walk] at h
    refine errAt_step rule _ st _ h (fun h3 => ?_)
    by_cases hws : ws = true
    · rw [if_pos hws] at h3
      exact err_seq (err_seq (walk_errAt x st) (walkOpt_errAt f _)) (walkOpt_errAt t _) h3
    · rw [if_neg hws] at h3
      exact err_seq (walkOpt_errAt f st) (walkOpt_errAt t _) h3
  | .method m x name args ns, st, h => by
    simp only [walk] at h
    exact errAt_step rule _ st _ h (err_seq (walk_errAt x st) (walkList_errAt args _))
  | .func _ _ xs _, st, h | .builtin _ _ xs, st, h | .array _ xs, st, h | .map _ xs, st, h => by
    simp only [walk] at h
    exact errAt_step rule _ st _ h (walkList_errAt xs st)
  | .cond m a b d, st, h => by
    simp only [walk] at h
    exact errAt_step rule _ st _ h (err_seq (err_seq (walk_errAt a st) (walk_errAt b _)) (walk_errAt d _))
theorem walkList_errAt : (ns : List Node) → (st : St) → (walkList ws rule ns st).2.err ≠ st.err → ErrAt rule
  | [], st, h => by simp only [walkList] at h; exact absurd rfl h
  | n :: ns, st, h => by
    simp only [walkList] at h
    exact err_seq (walk_errAt n st) (walkList_errAt ns _) h
theorem walkOpt_errAt : (o : Option Node) → (st : St) → (walkOpt ws rule o st).2.err ≠ st.err → ErrAt rule
  | none, st, h => by simp only [walkOpt] at h; exact absurd rfl h
  | some n, st, h => by
    simp only [walkOpt] at h
    exact walk_errAt n st h
end
end

theorem repeatPass_errAt (ws : Bool) (rule : Rule) (k : Nat) (n : Node) :
    ResTo (fun _ => True) (fun _ => ErrAt rule) (repeatPass ws rule k n) :=
  repeatPass_keeps (fun n1 _ => ⟨trivial, fun l hl => walk_errAt ws rule n1 {} (by rw [hl]; exact Option.some_ne_none l)⟩)
    k n trivial

end OptProofs
end ExprModel
