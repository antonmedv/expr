import ExprModel.Proofs.CheckerLocs
/-
The location of a checker error (C13), from `visit_locs` and `check_allLoc`.  `v.error(node, …)` records the location of a node
of the tree being checked (the node at hand, a visited operand, a call argument, a slice bound, the condition, a map
key): whatever holds of every node location of the tree given holds of the location `checker.Check` reports.
-/
namespace ExprModel
namespace CheckerLocs

variable {P : Loc → Prop}

theorem loc_setKd (n : Node) (t : OTy) : (setKd n t).loc = n.loc := by
  cases n <;> rfl

macro "vc" ih:ident " with " a:ident b:ident c:ident : tactic => `(tactic|
  (generalize visit _ _ _ = vx at $ih:ident ⊢; rcases vx with ⟨$a:ident, $b:ident, $c:ident⟩; dsimp only at $ih:ident ⊢))

theorem visit_errLoc (cfg : CheckCfg) (n : Node) (st : CState) (h : n.AllLoc P) (he : ErrC P st) :
    (visit cfg n st).1.AllLoc P ∧ ErrC P (visit cfg n st).2.2 :=
  ⟨(visit_locs cfg n st h).1, (visit_locs cfg n st h).2 he⟩

theorem visitBound_errLoc (cfg : CheckCfg) :
    (o : Option Node) → ∀ st, Node.AllLocO P o → ErrC P st →
      Node.AllLocO P (visitBound cfg o st).1 ∧ ErrC P (visitBound cfg o st).2.2 :=
  fun o st h he => ⟨(visitBound_locs cfg o st h).1, (visitBound_locs cfg o st h).2 he⟩

theorem visitList_errLoc (cfg : CheckCfg) :
    (ns : List Node) → ∀ st, Node.AllLocL P ns → ErrC P st →
      Node.AllLocL P (visitList cfg ns st).1 ∧ ErrC P (visitList cfg ns st).2 :=
  fun ns st h he => ⟨(visitList_locs cfg ns st h).1, (visitList_locs cfg ns st h).2 he⟩

theorem checkArgs_errLoc (cfg : CheckCfg) (ins : List Ty) (variadic : Bool) (numIn offset : Nat) :
    (i : Nat) → (args : List Node) → ∀ st, Node.AllLocL P args → ErrC P st →
      Node.AllLocL P (checkArgs cfg ins variadic numIn offset i args st).1 ∧
      ErrC P (checkArgs cfg ins variadic numIn offset i args st).2.2 :=
  fun i args st h he =>
    ⟨(checkArgs_locs cfg ins variadic numIn offset i args st h).1, (checkArgs_locs cfg ins variadic numIn offset i args st h).2 he⟩

/-- **a located error of `checker.Check` is at the location of a node of the tree given** (the unlocated one is the
    `expected …` error of the result directive) -/
theorem check_error_located (cfg : CheckCfg) (n n' : Node) (l : Loc) (c : CheckErrClass) (h : n.AllLoc P)
    (hc : check cfg n = .error (some l) c n') : P l := by
  have := check_allLoc cfg n h
  rw [hc] at this
  exact this.1 l rfl

end CheckerLocs
end ExprModel
