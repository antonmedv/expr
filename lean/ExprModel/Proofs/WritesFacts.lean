import ExprModel.Gen.Writes
/- Facts about the regenerated write-set tables that both C08 and C09 state. -/
namespace ExprModel.Gen.Writes

theorem packageVars_never_written : (packageVars.all fun v => !v.2.1 && !v.2.2.1) = true := by decide +kernel

theorem no_concurrency_no_nondet_imports : concurrencyStatements = [] ∧ nondetImports = [] := by decide +kernel

end ExprModel.Gen.Writes
