import ExprModel.Proofs.SpecErase
/-
For C15 (`retype_only_fails_partial`): integer literals retyped only as direct call arguments.  Under Go's
fixed parameter types (`FixedParams`) the typed tree and its erasure, when both succeed, succeed alike (`Agree`).
Argument lists agree only up to the kind of numeric arguments (`ArgsRel`), so `Agree` is taken as the instance `Eq`
of `AgreeUpTo P` (two successes end in the same state with `P`-related values), whose `bind` lets the relation on
values change along the way.
-/
namespace ExprModel
namespace Spec

def ArgRel (a b : Val) : Prop := a = b ∨ ∃ k k', kindOfVal a = some k ∧ kindOfVal b = some k' ∧ k ≠ k'

def ArgsRel : List Val → List Val → Prop
  | [], [] => True
  | a :: as, b :: bs => ArgRel a b ∧ ArgsRel as bs
  | _, _ => False

/-- Go's fixed parameter types: a call that succeeds on `args` is refused (a type error, the function is not
    entered) on any `args'` that differ from `args` exactly in the kind of some numeric arguments -/
def FixedParams (w : World) : Prop :=
  ∀ id args args' r, w.call id args = .ok r → ArgsRel args args' → args ≠ args' →
    w.call id args' = .error .type_

def ArgLit (m : Meta) (v : Int) : Prop := ArgRel (intConst m.kd v) (.int .int v)

theorem argLit_of_kd (m : Meta) (v : Int) (h : m.kd = .num .int → inRange .int v) : ArgLit m v := by
  unfold ArgLit ArgRel
  cases hk : m.kd with
  | num k =>
    cases k <;> simp only [intConst, kindOfVal] <;>
      first
        | (right; exact ⟨_, _, rfl, rfl, by decide⟩)
        | (left; rw [wrap_of_inRange .int v (h hk)])
  | _ => left; rfl

mutual
/-- `PlainInts` but for the arguments of a call: an integer literal that is a direct argument of a `.method` or
    `.func` may have been retyped to any numeric kind (`ArgsOK`, `ArgLit`) -/
def RetypeOK : Node → Prop
  | .int m v => intConst m.kd v = .int .int v
  | .nil _ | .ident .. | .float .. | .bool .. | .str .. | .const .. | .pointer _ => True
  | .unary _ _ x => RetypeOK x
  | .binary _ _ l r => RetypeOK l ∧ RetypeOK r
  | .matches _ _ l r => RetypeOK l ∧ RetypeOK r
  | .prop _ x _ _ => RetypeOK x
  | .index _ x i => RetypeOK x ∧ RetypeOK i
  | .slice _ x f t => RetypeOK x ∧ RetypeOKO f ∧ RetypeOKO t
  | .method _ x _ args _ => RetypeOK x ∧ ArgsOK args
  | .func _ _ args _ => ArgsOK args
  | .builtin _ _ args => RetypeOKL args
  | .closure _ x => RetypeOK x
  | .cond _ c a b => RetypeOK c ∧ RetypeOK a ∧ RetypeOK b
  | .array _ xs => RetypeOKL xs
  | .map _ ps => RetypeOKL ps
  | .pair _ k v => RetypeOK k ∧ RetypeOK v
def RetypeOKO : Option Node → Prop
  | none => True
  | some n => RetypeOK n
def RetypeOKL : List Node → Prop
  | [] => True
  | n :: ns => RetypeOK n ∧ RetypeOKL ns
def ArgsOK : List Node → Prop
  | [] => True
  | .int m v :: ns => ArgLit m v ∧ ArgsOK ns
  | n :: ns => RetypeOK n ∧ ArgsOK ns
end

theorem callMember_ok {w : World} {obj : Val} {name : String} {vs : List Val} {v : Val}
    (h : callMember w obj name vs = .ok v) :
    ∃ id, w.call id vs = .ok v ∧ ∀ ws, callMember w obj name ws = w.call id ws := by
  unfold callMember at h ⊢
  cases obj <;> simp only at h ⊢ <;> try (cases h)
  all_goals
    split at h <;> try (cases h)
    rename_i id heq
    exact ⟨id, h, fun ws => by simp only⟩

theorem callTail_ok {w : World} {obj : Val} {name : String} {vs : List Val} {v : Val} {σ τ : SState}
    (h : callTail w obj name vs σ = (.ok v, τ)) : callMember w obj name vs = .ok v := by
  unfold callTail at h
  cases hr : callMember w obj name vs with
  | error e =>
    rw [hr] at h
    by_cases hh : callHappened (.error e : R Val) = true
    · simp only [hh, if_true] at h
      obtain ⟨_, σ1, _, h2⟩ := SM.bind_ok h
      simp at h2
    · simp only [hh] at h
      simp at h
  | ok v' =>
    rw [hr] at h
    simp only [callHappened] at h
    obtain ⟨_, σ1, _, h2⟩ := SM.bind_ok h
    simp at h2; rw [h2.1]

def AgreeUpTo {α : Type} (P : α → α → Prop) (m1 m2 : SM α) : Prop :=
  ∀ σ a b σ1 σ2, m1 σ = (.ok a, σ1) → m2 σ = (.ok b, σ2) → P a b ∧ σ1 = σ2

namespace AgreeUpTo
variable {α β : Type} {P : α → α → Prop}

theorem pure {a b : α} (h : P a b) : AgreeUpTo P (Pure.pure a) (Pure.pure b) := by
  intro σ a' b' σ1 σ2 h1 h2
  simp only [SM.pure_apply, Prod.mk.injEq, Except.ok.injEq] at h1 h2
  rw [← h1.1, ← h2.1, ← h1.2, ← h2.2]
  exact ⟨h, rfl⟩

theorem bind {P' : β → β → Prop} {m1 m2 : SM α} {f1 f2 : α → SM β} (hm : AgreeUpTo P m1 m2)
    (hf : ∀ a b, P a b → AgreeUpTo P' (f1 a) (f2 b)) : AgreeUpTo P' (m1 >>= f1) (m2 >>= f2) := by
  intro σ v w σ1 σ2 h1 h2
  obtain ⟨a, τ1, ha, hfa⟩ := SM.bind_ok h1
  obtain ⟨b, τ2, hb, hfb⟩ := SM.bind_ok h2
  obtain ⟨hab, hτ⟩ := hm σ a b τ1 τ2 ha hb
  subst hτ
  exact hf a b hab τ1 v w σ1 σ2 hfa hfb

theorem mono {P' : α → α → Prop} {m1 m2 : SM α} (h : AgreeUpTo P m1 m2) (hp : ∀ a b, P a b → P' a b) :
    AgreeUpTo P' m1 m2 :=
  fun σ a b σ1 σ2 h1 h2 => ⟨hp a b (h σ a b σ1 σ2 h1 h2).1, (h σ a b σ1 σ2 h1 h2).2⟩

theorem ite {p : Prop} [Decidable p] {t1 t2 e1 e2 : SM α} (ht : AgreeUpTo P t1 t2) (he : AgreeUpTo P e1 e2) :
    AgreeUpTo P (if p then t1 else e1) (if p then t2 else e2) := by
  split
  · exact ht
  · exact he

end AgreeUpTo

/-- under fixed parameter types, two successful calls of one member on related argument lists had equal arguments -/
theorem callTail_agree {w : World} (hw : FixedParams w) {obj : Val} {name : String} {vs ws : List Val}
    (hrel : ArgsRel vs ws) : AgreeUpTo Eq (callTail w obj name vs) (callTail w obj name ws) := by
  intro σ v v' τ τ' h1 h2
  by_cases he : vs = ws
  · subst he; rw [h1] at h2; simp only [Prod.mk.injEq, Except.ok.injEq] at h2; exact h2
  · exfalso
    obtain ⟨id, hc, hall⟩ := callMember_ok (callTail_ok h1)
    have h3 := callTail_ok h2
    rw [hall ws, hw id vs ws v hc hrel he] at h3
    cases h3

mutual
theorem eval_agree_erase (c : SCfg) (hw : FixedParams c.world) : (n : Node) → RetypeOK n → ∀ ctx, AgreeRel.R (eval c ctx n) (eval c ctx (eraseKd n))
  | .nil _, _, _ => AgreeRel.refl _
  | .ident .., _, _ => AgreeRel.refl _
  | .int .., h, ctx => eval_int_erase c ctx h ▸ AgreeRel.refl _
  | .float .., _, _ => AgreeRel.refl _
  | .bool .., _, _ => AgreeRel.refl _
  | .str .., _, _ => AgreeRel.refl _
  | .const .., _, _ => AgreeRel.refl _
  | .pointer _, _, _ => cong_pointer (B' := c.budget) AgreeRel.toEvalRel rfl
  | .unary _ _ x, h, ctx => cong_unary (B' := c.budget) AgreeRel.toEvalRel (eval_agree_erase c hw x h ctx)
  | .binary _ _ l r, h, ctx =>
    cong_binary (B' := c.budget) AgreeRel.toEvalRel (eval_agree_erase c hw l h.1 ctx) (eval_agree_erase c hw r h.2 ctx)
      (fun a b => by rw [kd_eraseKd, kd_eraseKd]; exact (eqTail_le _ _ a b).agree) (AgreeRel.allocs c)
  | .matches _ _ l r, h, ctx =>
    cong_matches (B' := c.budget) AgreeRel.toEvalRel (eval_agree_erase c hw l h.1 ctx) (eval_agree_erase c hw r h.2 ctx)
      fun _ => (patOf_eraseKd r).symm
  | .prop _ x _ _, h, ctx => cong_prop (B' := c.budget) AgreeRel.toEvalRel (eval_agree_erase c hw x h ctx)
  | .index _ x i, h, ctx =>
    cong_index (B' := c.budget) AgreeRel.toEvalRel (eval_agree_erase c hw x h.1 ctx) (eval_agree_erase c hw i h.2 ctx)
  | .slice _ x f t, h, ctx =>
    cong_slice (B' := c.budget) AgreeRel.toEvalRel (eval_agree_erase c hw x h.1 ctx)
      (bound_agree_erase c hw f h.2.1 ctx) (bound_agree_erase c hw t h.2.2 ctx)
  | .method _ x name args ns, h, ctx => by
    rw [eraseKd, eval_method, eval_method]
    refine AgreeUpTo.bind (eval_agree_erase c hw x h.1 ctx) fun obj _ e => ?_
    subst e
    exact .bind (evalArgs_upTo_erase c hw args h.2 ctx) fun vs ws hrel => .ite (.pure rfl) (callTail_agree hw hrel)
  | .func _ name args _, h, ctx => by
    rw [eraseKd, eval_func, eval_func]
    exact AgreeUpTo.bind (evalArgs_upTo_erase c hw args h ctx) fun vs ws hrel => callTail_agree hw hrel
  | .builtin _ _ args, h, ctx =>
    cong_builtin (B' := c.budget) AgreeRel.toEvalRel (AgreeRel.allocs c) (args_agree_erase c hw args h ctx)
  | .closure _ x, h, ctx => eval_agree_erase c hw x h ctx
  | .cond _ cnd a b, h, ctx =>
    cong_cond (B' := c.budget) AgreeRel.toEvalRel (eval_agree_erase c hw cnd h.1 ctx)
      (eval_agree_erase c hw a h.2.1 ctx) (eval_agree_erase c hw b h.2.2 ctx)
  | .array _ xs, h, ctx =>
    cong_array (B' := c.budget) AgreeRel.toEvalRel (AgreeRel.allocs c) (evalList_agree_erase c hw xs h ctx)
  | .map _ ps, h, ctx =>
    cong_mapLit (B' := c.budget) AgreeRel.toEvalRel (AgreeRel.allocs c) (length_eraseKdL ps).symm
      (evalList_agree_erase c hw ps h ctx)
  | .pair .., _, _ => AgreeRel.refl _
theorem bound_agree_erase (c : SCfg) (hw : FixedParams c.world) : (o : Option Node) → RetypeOKO o → ∀ ctx,
    AgreeRel.toEvalRel.Bound c c.budget ctx ctx o (eraseKdO o)
  | none, _, _ => trivial
  | some n, h, ctx => eval_agree_erase c hw n h ctx
theorem args_agree_erase (c : SCfg) (hw : FixedParams c.world) : (ns : List Node) → RetypeOKL ns → ∀ ctx,
    AgreeRel.toEvalRel.Args c c.budget ctx ctx ns (eraseKdL ns)
  | [], _, _ => .nil
  | n :: ns, h, ctx =>
    .cons (eval_agree_erase c hw n h.1 ctx) (fun _ _ => eval_agree_erase c hw n h.1 _) (args_agree_erase c hw ns h.2 ctx)
theorem evalList_agree_erase (c : SCfg) (hw : FixedParams c.world) : (ns : List Node) → RetypeOKL ns → ∀ ctx, AgreeRel.R (evalList c ctx ns) (evalList c ctx (eraseKdL ns))
  | [], _, _ => AgreeRel.refl _
  | n :: rest, h, ctx => by
    have hn := eval_agree_erase c hw n h.1 ctx
    have hr := evalList_agree_erase c hw rest h.2 ctx
    cases n
    case pair m k v =>
      exact cong_list_pair (B' := c.budget) AgreeRel.toEvalRel (eval_agree_erase c hw k h.1.1 ctx)
        (eval_agree_erase c hw v h.1.2 ctx) hr
    all_goals exact cong_list_cons (B' := c.budget) AgreeRel.toEvalRel rfl rfl hn hr
theorem evalArgs_upTo_erase (c : SCfg) (hw : FixedParams c.world) : (ns : List Node) → ArgsOK ns → ∀ ctx,
    AgreeUpTo ArgsRel (evalList c ctx ns) (evalList c ctx (eraseKdL ns))
  | [], _, _ => AgreeUpTo.pure trivial
  | n :: rest, h, ctx => by
    have hr := evalArgs_upTo_erase c hw rest (by cases n <;> exact h.2) ctx
    cases n
    case pair m k v =>
      rw [eraseKdL, eraseKd, evalList_pair, evalList_pair]
      exact .bind (eval_agree_erase c hw k h.1.1 ctx) fun _ _ hk => .bind (eval_agree_erase c hw v h.1.2 ctx)
        fun _ _ hv => .bind hr fun _ _ hvs => .pure ⟨.inl hk, .inl hv, hvs⟩
    case int m v =>
      rw [eraseKdL, evalList_cons _ _ _ _ rfl, evalList_cons _ _ _ _ rfl]
      exact .bind (AgreeUpTo.pure h.1) fun _ _ ha => .bind hr fun _ _ hvs => .pure ⟨ha, hvs⟩
    all_goals
      rw [eraseKdL, evalList_cons _ _ _ _ rfl, evalList_cons _ _ _ _ rfl]
      exact .bind (AgreeUpTo.mono (eval_agree_erase c hw _ h.1 ctx) fun _ _ => .inl) fun _ _ ha =>
        .bind hr fun _ _ hvs => .pure ⟨ha, hvs⟩
end

theorem evalArgs_agree_erase (c : SCfg) (hw : FixedParams c.world) : (ns : List Node) → ArgsOK ns → ∀ ctx σ vs ws σ1 σ2,
    evalList c ctx ns σ = (.ok vs, σ1) → evalList c ctx (eraseKdL ns) σ = (.ok ws, σ2) → ArgsRel vs ws ∧ σ1 = σ2 :=
  evalArgs_upTo_erase c hw

end Spec
end ExprModel
