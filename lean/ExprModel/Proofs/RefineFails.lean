import ExprModel.Proofs.EvalLocErase
import ExprModel.Proofs.Outcome
/-
"Every failure satisfies `Q`" for located computations, `Q` a predicate of the failure's class and location.
`BAt Q m σ` is the form for one start state, which the simulation threads through a run; `FL Q m` is
`∀ σ, BAt Q m σ`, with the rules by which such a fact passes through the constructs `evalLoc` is made of.  Used
with `Q` a blame relation (C13: where a failure of `evalLoc` is raised).
-/
namespace ExprModel.Refine
open ExprModel
open ExprModel.Spec
open ExprModel.Spec.SML

/-- The simulation of a node takes `BAt` of the node's own `evalLoc` as a premise and hands each sub-evaluation its share
    (`left`/`right`); an instruction that fails needs `B e l` for its own location, which `raised` supplies when the
    node's own rule fails. -/
def BAt (B : ErrClass → Loc → Prop) {α : Type} (m : SML α) (σ : SState) : Prop :=
  ∀ (e : ErrClass) (l : Loc) (σ' : SState), m σ = (.error (e, l), σ') → B e l

theorem BAt.left {B : ErrClass → Loc → Prop} {α β : Type} {m : SML α} {f : α → SML β} {σ : SState}
    (h : BAt B (m >>= f) σ) : BAt B m σ := by
  intro e l σ' hm
  refine h e l σ' ?_
  rw [SML.bind_apply, hm]

theorem BAt.right {B : ErrClass → Loc → Prop} {α β : Type} {m : SML α} {f : α → SML β} {σ σ1 : SState} {a : α}
    (h : BAt B (m >>= f) σ) (hm : m σ = (.ok a, σ1)) : BAt B (f a) σ1 := by
  intro e l σ' hf
  refine h e l σ' ?_
  rw [SML.bind_apply, hm]
  exact hf

theorem BAt.raised {B : ErrClass → Loc → Prop} {α : Type} {l : Loc} {t : SM α} {σ σ' : SState} {r : R α}
    (h : BAt B (raisedAt l t) σ) (ht : t σ = (r, σ')) : ∀ e, r = .error e → B e l := by
  intro e he
  subst he
  refine h e l σ' ?_
  rw [raisedAt_apply, ht]

theorem BAt.cast {B : ErrClass → Loc → Prop} {α : Type} {m m' : SML α} {σ : SState} (h : BAt B m σ) (e : m = m') :
    BAt B m' σ := e ▸ h

theorem BAt.trivial {α : Type} (m : SML α) (σ : SState) : BAt (fun _ _ => True) m σ := fun _ _ _ _ => True.intro

/-- "failures, located"; a structure, so that the rules below compose by dot notation -/
structure FL (Q : ErrClass → Loc → Prop) {α : Type} (m : SML α) : Prop where
  out : ∀ (σ : SState) (e : ErrClass) (l : Loc) (σ' : SState), m σ = (.error (e, l), σ') → Q e l

variable {Q : ErrClass → Loc → Prop} {α β : Type}

theorem FL.toBAt {m : SML α} (h : FL Q m) (σ : SState) : BAt Q m σ := h.out σ

theorem FL.bind {m : SML α} {f : α → SML β} (hm : FL Q m) (hf : ∀ a, FL Q (f a)) : FL Q (m >>= f) := by
  refine ⟨fun σ e l σ' h => ?_⟩
  rw [SML.bind_apply] at h
  cases hm' : m σ with
  | mk r σ1 =>
    rw [hm'] at h
    cases r with
    | ok a => exact (hf a).out σ1 e l σ' h
    | error x => cases h; exact hm.out σ e l _ hm'

theorem FL.pure (a : α) : FL Q (pure a : SML α) :=
  ⟨fun σ e l σ' h => by cases h⟩

theorem FL.raisedOf {l : Loc} {t : SM α} (h : SMOK (Q · l) (fun _ => True) t) : FL Q (raisedAt l t) := by
  refine ⟨fun σ e l' σ' hr => ?_⟩
  rw [raisedAt_apply] at hr
  cases ht : t σ with
  | mk r σ1 =>
    rw [ht] at hr
    cases r with
    | ok a => cases hr
    | error x => cases hr; exact h.error ht

theorem FL.raised {α : Type} {l : Loc} (t : SM α) (h : ∀ e, Q e l) : FL Q (raisedAt l t) :=
  FL.raisedOf (smok_of_errors fun _ e _ _ => h e)

theorem FL.ite {p : Prop} [Decidable p] {a b : SML α} (ha : FL Q a) (hb : FL Q b) : FL Q (if p then a else b) := by
  split <;> assumption

theorem FL.loopIdxL {body : Nat → α → SML (α ⊕ Val)} (h : ∀ i acc, FL Q (body i acc)) :
    ∀ (fuel i : Nat) (acc : α), FL Q (loopIdxL body fuel i acc)
  | 0, _, _ => FL.pure _
  | fuel + 1, i, acc => by
    rw [loopIdxL_succ]
    refine FL.bind (h i acc) (fun r => ?_)
    cases r with
    | inl a => exact FL.loopIdxL h fuel (i + 1) a
    | inr v => exact FL.pure _

theorem FL.mono {Q' : ErrClass → Loc → Prop} {m : SML α} (h : FL Q m) (hq : ∀ e l, Q e l → Q' e l) : FL Q' m :=
  ⟨fun σ e l σ' hm => hq e l (h.out σ e l σ' hm)⟩

theorem FL.loopL {sc : SCfg} {ctx : Ctx} {a b : Node} {l : Loc} {post : Val → Nat → α → Val → SML (α ⊕ Val)} {acc0 : α}
    {fin : Int → α ⊕ Val → SM Val} (ha : FL Q (evalLoc sc ctx a)) (hb : ∀ ctx', FL Q (evalLoc sc ctx' b))
    (hlen : ∀ coll, FL Q (raisedAt l (SM.lift (lengthV coll)))) (hpost : ∀ coll i acc x, FL Q (post coll i acc x))
    (hfin : ∀ n r, FL Q (raisedAt l (fin n r))) : FL Q (loopL sc ctx a b l post acc0 fin) :=
  ha.bind fun coll => (hlen coll).bind fun n =>
    (FL.loopIdxL (fun i acc => (hb _).bind (hpost coll i acc)) _ _ _).bind fun r => hfin n r

end ExprModel.Refine
