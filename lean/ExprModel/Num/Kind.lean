/-
The twelve Go numeric kinds, in the order of `vm/generate/main.go`'s `types` list, which is also the
order of `checker.typeWeight` (1..12).  Integers are mathematical `Int` with an explicit `wrap`.
-/
namespace ExprModel

inductive Kind where
  | uint | uint8 | uint16 | uint32 | uint64
  | int | int8 | int16 | int32 | int64
  | float32 | float64
  deriving DecidableEq, Repr, Inhabited

namespace Kind

def all : List Kind :=
  [uint, uint8, uint16, uint32, uint64, int, int8, int16, int32, int64, float32, float64]

/-- position in the helper list = `typeWeight - 1` -/
def rank : Kind → Nat
  | uint => 0 | uint8 => 1 | uint16 => 2 | uint32 => 3 | uint64 => 4
  | int => 5 | int8 => 6 | int16 => 7 | int32 => 8 | int64 => 9
  | float32 => 10 | float64 => 11

theorem all_rank (k : Kind) : all[k.rank]? = some k := by cases k <;> rfl

theorem mem_all (k : Kind) : k ∈ all := List.mem_of_getElem? (all_rank k)

theorem rank_inj (a b : Kind) (h : a.rank = b.rank) : a = b :=
  Option.some.inj (by rw [← all_rank a, h, all_rank b])

def name : Kind → String
  | uint => "uint" | uint8 => "uint8" | uint16 => "uint16" | uint32 => "uint32" | uint64 => "uint64"
  | int => "int" | int8 => "int8" | int16 => "int16" | int32 => "int32" | int64 => "int64"
  | float32 => "float32" | float64 => "float64"

def ofName? : String → Option Kind
  | "uint" => some uint | "uint8" => some uint8 | "uint16" => some uint16 | "uint32" => some uint32
  | "uint64" => some uint64 | "int" => some int | "int8" => some int8 | "int16" => some int16
  | "int32" => some int32 | "int64" => some int64 | "float32" => some float32 | "float64" => some float64
  | _ => none

def isFloat : Kind → Bool
  | float32 | float64 => true
  | _ => false

def isInt (k : Kind) : Bool := !k.isFloat

def isSigned : Kind → Bool
  | int | int8 | int16 | int32 | int64 => true
  | _ => false

/-- width in bits (Go on amd64: `int`, `uint` are 64 bits; recorded in the trusted base) -/
def bits : Kind → Nat
  | uint => 64 | uint8 => 8 | uint16 => 16 | uint32 => 32 | uint64 => 64
  | int => 64 | int8 => 8 | int16 => 16 | int32 => 32 | int64 => 64
  | float32 => 32 | float64 => 64

/-- the higher-ranked of two kinds (the checker's `combined`, the helpers' conversion target) -/
def maxRank (a b : Kind) : Kind := if a.rank > b.rank then a else b

end Kind

/-- Reduce a mathematical integer into the range of integer kind `k` (Go's conversion / overflow rule). -/
def wrap (k : Kind) (n : Int) : Int :=
  let m : Int := 2 ^ k.bits
  if k.isSigned then
    let h : Int := 2 ^ (k.bits - 1)
    (n + h) % m - h
  else n % m

def inRange (k : Kind) (n : Int) : Prop :=
  if k.isSigned then -(2 ^ (k.bits - 1) : Int) ≤ n ∧ n < 2 ^ (k.bits - 1)
  else 0 ≤ n ∧ n < 2 ^ k.bits

instance (k : Kind) (n : Int) : Decidable (inRange k n) := by
  unfold inRange; split <;> exact inferInstance

end ExprModel
